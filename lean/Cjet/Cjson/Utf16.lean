/-
  Cjet.Cjson.Utf16 — parse_hex4 and utf16_literal_to_utf8: what they read, what they return (the UTF-8
  encoding, RFC 3629 table, of the code point), and that they read only in front of `input_end`.
-/
import Cjet.Cjson

namespace Cjet.Cjson

/-! ### the encoder -/

/-- UTF-8 encoding of a code point by the table of RFC 3629 §3, written with division and remainder -/
def utf8Spec (cp : Nat) : Bytes :=
  if cp < 0x80 then [UInt8.ofNat cp]
  else if cp < 0x800 then [UInt8.ofNat (0xC0 + cp / 64), UInt8.ofNat (0x80 + cp % 64)]
  else if cp < 0x10000 then
    [UInt8.ofNat (0xE0 + cp / 4096), UInt8.ofNat (0x80 + cp / 64 % 64), UInt8.ofNat (0x80 + cp % 64)]
  else
    [UInt8.ofNat (0xF0 + cp / 262144), UInt8.ofNat (0x80 + cp / 4096 % 64), UInt8.ofNat (0x80 + cp / 64 % 64),
     UInt8.ofNat (0x80 + cp % 64)]

/-- the expression has its value below 2^8 and looks at the low byte of `x` only -/
theorem tail_byte (x : Nat) : (x ||| 0x80) &&& 0xBF = 0x80 + x % 64 := by
  have hfin : ∀ y, y < 256 → (y ||| 0x80) &&& 0xBF = 0x80 + y % 64 := by decide +kernel
  calc (x ||| 0x80) &&& 0xBF
      = ((x ||| 0x80) &&& 0xBF) % 2 ^ 8 :=
        (Nat.mod_eq_of_lt (Nat.lt_of_le_of_lt Nat.and_le_right (by decide))).symm
    _ = (x % 2 ^ 8 ||| 0x80) &&& 0xBF := by rw [Nat.and_mod_two_pow, Nat.or_mod_two_pow]
    _ = 0x80 + x % 2 ^ 8 % 64 := hfin _ (Nat.mod_lt _ (by decide))
    _ = 0x80 + x % 64 := by omega

theorem lead2 : ∀ y, y < 32 → (y ||| 0xC0) &&& 0xFF = 0xC0 + y := by decide +kernel
theorem lead3 : ∀ y, y < 16 → (y ||| 0xE0) &&& 0xFF = 0xE0 + y := by decide +kernel
theorem lead4 : ∀ y, y < 8 → (y ||| 0xF0) &&& 0xFF = 0xF0 + y := by decide +kernel
theorem ascii7 : ∀ y, y < 128 → y &&& 0x7F = y := by decide +kernel

/-- the bit-twiddling encoder of utf16_literal_to_utf8 computes the RFC 3629 encoding, and refuses
    exactly the values above U+10FFFF -/
theorem utf8Encode_eq (cp : Nat) :
    utf8Encode cp = if cp ≤ 0x10FFFF then some (utf8Spec cp) else none := by
  unfold utf8Encode utf8Spec
  by_cases h1 : cp < 0x80
  · rw [if_pos h1, if_pos (by omega), if_pos h1, ascii7 cp h1]
  · rw [if_neg h1]
    by_cases h2 : cp < 0x800
    · rw [if_pos h2, if_pos (by omega), if_neg h1, if_pos h2, tail_byte, Nat.shiftRight_eq_div_pow,
        lead2 _ (by simp only [show (2 : Nat) ^ 6 = 64 by decide]; omega)]
    · rw [if_neg h2]
      by_cases h3 : cp < 0x10000
      · rw [if_pos h3, if_pos (by omega), if_neg h1, if_neg h2, if_pos h3, tail_byte, tail_byte,
          Nat.shiftRight_eq_div_pow, Nat.shiftRight_eq_div_pow,
          lead3 _ (by simp only [show (2 : Nat) ^ 12 = 4096 by decide]; omega)]
      · rw [if_neg h3]
        by_cases h4 : cp ≤ 0x10FFFF
        · rw [if_pos h4, if_pos h4, if_neg h1, if_neg h2, if_neg h3, tail_byte, tail_byte, tail_byte,
            Nat.shiftRight_eq_div_pow, Nat.shiftRight_eq_div_pow, Nat.shiftRight_eq_div_pow,
            lead4 _ (by simp only [show (2 : Nat) ^ 18 = 262144 by decide]; omega)]
        · rw [if_neg h4, if_neg h4]

theorem utf8Encode_length {cp : Nat} {bs : Bytes} : utf8Encode cp = some bs →
    1 ≤ bs.length ∧ bs.length ≤ 4 ∧ (cp < 0x10000 → bs.length ≤ 3) := by
  fun_cases utf8Encode cp
  case case4 h3 _ => rintro ⟨⟩; exact ⟨by simp, by simp, fun hlt => absurd hlt h3⟩
  case case5 => nofun
  all_goals rintro ⟨⟩; simp

/-! ### parse_hex4 -/

/-- the value of four hexadecimal digits -/
def hexValue4 (a1 a2 a3 a4 : Nat) : Nat := ((a1 * 16 + a2) * 16 + a3) * 16 + a4

theorem hexVal_lt {c : UInt8} {d : Nat} (h : hexVal c = some d) : d < 16 := by
  unfold hexVal at h
  simp only [UInt8.le_iff_toNat_le, UInt8.reduceToNat] at h
  split at h
  · cases h; omega
  · split at h
    · cases h; omega
    · split at h
      · cases h; omega
      · cases h

theorem hex4Loop_oob {p k h i : Nat} {rest : Bytes} : hex4Loop p k h rest = .oob i → rest.length < k := by
  fun_induction hex4Loop p k h rest
  case case2 => exact fun _ => Nat.zero_lt_succ _
  case case4 ih => exact fun hh => Nat.succ_lt_succ (ih hh)
  all_goals nofun

theorem hex4Loop_val {p k h v : Nat} {r : Bytes} (hv : hex4Loop p (k + 1) h r = .val v) :
    v = 0 ∨ ∃ e r' d, r = e :: r' ∧ hexVal e = some d ∧
      hex4Loop (p + 1) k (if k = 0 then h + d else (h + d) * 16) r' = .val v := by
  cases r with
  | nil => cases hv
  | cons e r' =>
    simp only [hex4Loop] at hv
    cases hd : hexVal e with
    | none => rw [hd] at hv; cases hv; exact Or.inl rfl
    | some d => rw [hd] at hv; exact Or.inr ⟨e, r', d, rfl, hd, hv⟩

/-- `v = 0`: a non-hex digit (cJSON does not distinguish that from `0000`) -/
theorem hex4_val {p v : Nat} {r : Bytes} (h : hex4 p r = .val v) :
    v = 0 ∨ ∃ e1 e2 e3 e4 r' c1 c2 c3 c4, r = e1 :: e2 :: e3 :: e4 :: r' ∧ hexVal e1 = some c1 ∧
      hexVal e2 = some c2 ∧ hexVal e3 = some c3 ∧ hexVal e4 = some c4 ∧ v = hexValue4 c1 c2 c3 c4 := by
  rcases hex4Loop_val h with h0 | ⟨e1, r1, c1, rfl, h1, h⟩
  · exact Or.inl h0
  rcases hex4Loop_val h with h0 | ⟨e2, r2, c2, rfl, h2, h⟩
  · exact Or.inl h0
  rcases hex4Loop_val h with h0 | ⟨e3, r3, c3, rfl, h3, h⟩
  · exact Or.inl h0
  rcases hex4Loop_val h with h0 | ⟨e4, r4, c4, rfl, h4, h⟩
  · exact Or.inl h0
  refine Or.inr ⟨e1, e2, e3, e4, r4, c1, c2, c3, c4, rfl, h1, h2, h3, h4, ?_⟩
  simp only [hex4Loop, HRes.val.injEq] at h
  rw [← h]
  simp [hexValue4]

theorem hex4_digits (p : Nat) {d1 d2 d3 d4 : UInt8} {a1 a2 a3 a4 : Nat} (rest : Bytes)
    (h1 : hexVal d1 = some a1) (h2 : hexVal d2 = some a2) (h3 : hexVal d3 = some a3) (h4 : hexVal d4 = some a4) :
    hex4 p (d1 :: d2 :: d3 :: d4 :: rest) = .val (hexValue4 a1 a2 a3 a4) := by
  simp only [hex4, hex4Loop, h1, h2, h3, h4, hexValue4]
  simp

/-- a non-hex digit anywhere makes parse_hex4 answer 0 (cJSON does not distinguish that from `0000`) -/
theorem hex4_invalid_first (p : Nat) {d1 : UInt8} (rest : Bytes) (h1 : hexVal d1 = none) :
    hex4 p (d1 :: rest) = .val 0 := by
  simp only [hex4, hex4Loop, h1]

theorem hexValue4_lt {a1 a2 a3 a4 : Nat} (h1 : a1 < 16) (h2 : a2 < 16) (h3 : a3 < 16) (h4 : a4 < 16) :
    hexValue4 a1 a2 a3 a4 < 0x10000 := by
  unfold hexValue4; omega

theorem hex4_lt {p : Nat} {rest : Bytes} {v : Nat} (h : hex4 p rest = .val v) : v < 0x10000 := by
  rcases hex4_val h with rfl | ⟨_, _, _, _, _, _, _, _, _, _, h1, h2, h3, h4, rfl⟩
  · decide
  · exact hexValue4_lt (hexVal_lt h1) (hexVal_lt h2) (hexVal_lt h3) (hexVal_lt h4)

/-! ### utf16_literal_to_utf8 -/

/-- combining a surrogate pair: the C expression is the arithmetic of RFC 2781 §2.2 -/
theorem surrogate_combine {hi lo : Nat} (hh : 0xD800 ≤ hi ∧ hi ≤ 0xDBFF) (hl : 0xDC00 ≤ lo ∧ lo ≤ 0xDFFF) :
    0x10000 + (((hi &&& 0x3FF) <<< 10) ||| (lo &&& 0x3FF)) = 0x10000 + (hi - 0xD800) * 1024 + (lo - 0xDC00) := by
  have e1 : hi &&& 0x3FF = hi % 2 ^ 10 := Nat.and_two_pow_sub_one_eq_mod hi 10
  have e2 : lo &&& 0x3FF = lo % 2 ^ 10 := Nat.and_two_pow_sub_one_eq_mod lo 10
  rw [e1, e2]
  have hlt : lo % 2 ^ 10 < 2 ^ 10 := Nat.mod_lt _ (by decide)
  rw [← Nat.shiftLeft_add_eq_or_of_lt hlt, Nat.shiftLeft_eq]
  simp only [show (2 : Nat) ^ 10 = 1024 by decide]
  omega

/-- the look-ahead of utf16_literal_to_utf8 behind a high surrogate `first`; `r6` is the buffer from offset `p + 6` -/
def utf16Low (p n first : Nat) (r6 : Bytes) : URes :=
  if n - 6 < 6 then .fail
  else
    match r6 with
    | [] => .oob (p + 6)
    | s0 :: r7 =>
      if s0 ≠ 0x5C then .fail
      else
        match r7 with
        | [] => .oob (p + 7)
        | s1 :: r8 =>
          if s1 ≠ 0x75 then .fail
          else
            match hex4 (p + 8) r8 with
            | .oob i => .oob i
            | .val second =>
              if second < 0xDC00 ∨ second > 0xDFFF then .fail
              else encodeRes (0x10000 + (((first &&& 0x3FF) <<< 10) ||| (second &&& 0x3FF))) 12

theorem utf16_short {p n : Nat} {rest : Bytes} (hn : n < 6) : utf16 p n rest = .fail := by
  unfold utf16; rw [if_pos hn]

theorem utf16_first_oob {p n i : Nat} {rest : Bytes} (hn : 6 ≤ n) (h : hex4 (p + 2) (rest.drop 2) = .oob i) :
    utf16 p n rest = .oob i := by
  unfold utf16; rw [if_neg (by omega), h]

theorem utf16_first {p n first : Nat} {rest : Bytes} (hn : 6 ≤ n) (h : hex4 (p + 2) (rest.drop 2) = .val first) :
    utf16 p n rest =
      if 0xDC00 ≤ first ∧ first ≤ 0xDFFF then .fail
      else if 0xD800 ≤ first ∧ first ≤ 0xDBFF then utf16Low p n first (rest.drop 6)
      else encodeRes first 6 := by
  unfold utf16; rw [if_neg (by omega), h]; rfl

theorem utf16Low_pair {p n first second : Nat} {r8 : Bytes} (hn : 12 ≤ n) (h : hex4 (p + 8) r8 = .val second) :
    utf16Low p n first (0x5C :: 0x75 :: r8) =
      if second < 0xDC00 ∨ second > 0xDFFF then .fail
      else encodeRes (0x10000 + (((first &&& 0x3FF) <<< 10) ||| (second &&& 0x3FF))) 12 := by
  unfold utf16Low
  rw [if_neg (by omega)]
  simp only [ne_eq, not_true_eq_false, if_false, h]

/-- `n < 6 + r6.length`: the buffer goes on behind `input_end` (the closing quote is there) -/
theorem utf16Low_fail {p n first : Nat} {r6 : Bytes} :
    n < 6 + r6.length →
    (∀ r8 second, r6 = 0x5C :: 0x75 :: r8 → hex4 (p + 8) r8 = .val second → second < 0xDC00 ∨ second > 0xDFFF) →
    utf16Low p n first r6 = .fail := by
  fun_cases utf16Low p n first r6
  case case2 => intro hlen; simp only [List.length_nil] at hlen; omega
  case case4 => intro hlen; simp only [List.length_cons, List.length_nil] at hlen; omega
  case case6 hs =>
    intro hlen
    have := hex4Loop_oob hs
    simp only [List.length_cons] at hlen
    omega
  case case8 h0 _ _ h1 second hs hno' =>
    intro _ hno
    cases Decidable.not_not.mp h0
    cases Decidable.not_not.mp h1
    exact absurd (hno _ second rfl hs) hno'
  all_goals (intros; rfl)

/-- with `m` bytes of buffer behind `p`: a read outside the buffer only if the buffer ends in front of `input_end` -/
def URes.Sound (n m : Nat) : URes → Prop
  | .ok bs len => ((len = 6 ∧ bs.length ≤ 3) ∨ (len = 12 ∧ bs.length ≤ 4)) ∧ len ≤ n ∧ 1 ≤ bs.length
  | .fail => True
  | .oob _ => m ≤ n

theorem URes.Sound.mono {n m m' : Nat} {r : URes} (hm : m' ≤ m) (h : r.Sound n m) : r.Sound n m' := by
  cases r with
  | oob i => exact Nat.le_trans hm h
  | _ => exact h

theorem encodeRes_sound {cp len n m : Nat} (h : (len = 6 ∧ cp < 0x10000) ∨ len = 12) (hn : len ≤ n) :
    (encodeRes cp len).Sound n m := by
  unfold encodeRes
  cases he : utf8Encode cp with
  | none => trivial
  | some bs =>
    have := utf8Encode_length he
    exact ⟨by omega, hn, this.1⟩

theorem utf16Low_sound (p n first : Nat) (r6 : Bytes) : (utf16Low p n first r6).Sound n (6 + r6.length) := by
  fun_cases utf16Low p n first r6
  case case2 => show 6 + 0 ≤ n; omega
  case case4 => show 6 + (0 + 1) ≤ n; omega
  case case6 hs =>
    have := hex4Loop_oob hs
    show 6 + (_ + 1 + 1) ≤ n
    omega
  case case8 => exact encodeRes_sound (Or.inr rfl) (by omega)
  all_goals trivial

theorem utf16_sound (p n : Nat) (rest : Bytes) : (utf16 p n rest).Sound n rest.length := by
  by_cases hn : n < 6
  · rw [utf16_short hn]; trivial
  · cases hf : hex4 (p + 2) (rest.drop 2) with
    | oob i =>
      rw [utf16_first_oob (by omega) hf]
      have := hex4Loop_oob hf
      simp only [List.length_drop] at this
      show rest.length ≤ n
      omega
    | val first =>
      rw [utf16_first (by omega) hf]
      split
      · trivial
      · split
        · exact (utf16Low_sound p n first (rest.drop 6)).mono (by rw [List.length_drop]; omega)
        · exact encodeRes_sound (Or.inl ⟨rfl, hex4_lt hf⟩) (by omega)

theorem utf16_oob {p n : Nat} {rest : Bytes} {i : Nat} (h : utf16 p n rest = .oob i) : rest.length ≤ n := by
  have := utf16_sound p n rest
  rwa [h] at this

theorem utf16_ok {p n : Nat} {rest bs : Bytes} {len : Nat} (h : utf16 p n rest = .ok bs len) :
    ((len = 6 ∧ bs.length ≤ 3) ∨ (len = 12 ∧ bs.length ≤ 4)) ∧ len ≤ n ∧ 1 ≤ bs.length := by
  have := utf16_sound p n rest
  rwa [h] at this

/-- `\uXXXX` with a value outside the surrogate range: 6 bytes consumed, the UTF-8 encoding of the value stored -/
theorem utf16_bmp (p n : Nat) {d1 d2 d3 d4 : UInt8} {a1 a2 a3 a4 : Nat} (rest : Bytes) (hn : 6 ≤ n)
    (h1 : hexVal d1 = some a1) (h2 : hexVal d2 = some a2) (h3 : hexVal d3 = some a3) (h4 : hexVal d4 = some a4)
    (hv : ¬ (0xD800 ≤ hexValue4 a1 a2 a3 a4 ∧ hexValue4 a1 a2 a3 a4 ≤ 0xDFFF)) :
    utf16 p n (0x5C :: 0x75 :: d1 :: d2 :: d3 :: d4 :: rest) = .ok (utf8Spec (hexValue4 a1 a2 a3 a4)) 6 := by
  have hlt := hexValue4_lt (hexVal_lt h1) (hexVal_lt h2) (hexVal_lt h3) (hexVal_lt h4)
  rw [utf16_first hn (hex4_digits _ rest h1 h2 h3 h4), if_neg (by omega), if_neg (by omega), encodeRes,
    utf8Encode_eq, if_pos (by omega)]

end Cjet.Cjson
