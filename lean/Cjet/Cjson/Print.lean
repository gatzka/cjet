/-
  Cjet.Cjson.Print — print_string_ptr and parse_string are inverse on C strings; printed length arithmetic.
-/
import Cjet.Cjson.Bounds

namespace Cjet.Cjson

/-! ### what print_string_ptr stores for one byte -/

theorem hexVal_hexLower : ∀ k, k < 16 → hexVal (hexLower k) = some k := by decide

theorem hexLower_plain : ∀ k, k < 16 → hexLower k ≠ 0x22 ∧ hexLower k ≠ 0x5C := by decide

theorem escByte_other {c : UInt8} (h : ¬ (c = 0x22 ∨ c = 0x5C ∨ c = 0x08 ∨ c = 0x0C ∨ c = 0x0A ∨ c = 0x0D ∨ c = 0x09)) :
    escByte c = if c < 32 then [0x5C, 0x75, 0x30, 0x30, hexLower (c.toNat / 16), hexLower (c.toNat % 16)] else [c] := by
  simp only [not_or] at h
  obtain ⟨h1, h2, h3, h4, h5, h6, h7⟩ := h
  unfold escByte
  rw [if_neg h1, if_neg h2, if_neg h3, if_neg h4, if_neg h5, if_neg h6, if_neg h7]

theorem escByte_cases (c : UInt8) :
    (escByte c = [c] ∧ c ≠ 0x22 ∧ c ≠ 0x5C) ∨
    (∃ e, escByte c = [0x5C, e] ∧ simpleEsc e = some c) ∨
    (escByte c = [0x5C, 0x75, 0x30, 0x30, hexLower (c.toNat / 16), hexLower (c.toNat % 16)] ∧ c.toNat < 32) := by
  by_cases h : c = 0x22 ∨ c = 0x5C ∨ c = 0x08 ∨ c = 0x0C ∨ c = 0x0A ∨ c = 0x0D ∨ c = 0x09
  · refine Or.inr (Or.inl ?_)
    rcases h with rfl | rfl | rfl | rfl | rfl | rfl | rfl <;> exact ⟨_, rfl, rfl⟩
  · rw [escByte_other h]
    split
    · exact Or.inr (Or.inr ⟨rfl, UInt8.lt_iff_toNat_lt.mp ‹_›⟩)
    · exact Or.inl ⟨rfl, fun h1 => h (Or.inl h1), fun h2 => h (Or.inr (Or.inl h2))⟩

/-! ### print_string_ptr's length computation -/

theorem escByte_length (c : UInt8) : (escByte c).length = 1 + escExtra c := by
  by_cases h : c = 0x22 ∨ c = 0x5C ∨ c = 0x08 ∨ c = 0x0C ∨ c = 0x0A ∨ c = 0x0D ∨ c = 0x09
  · rw [escExtra, if_pos h]
    rcases h with rfl | rfl | rfl | rfl | rfl | rfl | rfl <;> rfl
  · rw [escByte_other h, escExtra, if_neg h]
    split <;> rfl

/-- `output_length = strlen(input) + escape_characters` is exactly what the second loop stores between the quotes -/
theorem escBody_length (s : Bytes) : (escBody s).length = s.length + escapeChars s := by
  induction s with
  | nil => rfl
  | cons c r ih =>
    simp only [escBody, escapeChars, List.length_append, List.length_cons, escByte_length, ih]
    omega

/-! ### first pass over a printed string -/

theorem scanEnd_plain {c : UInt8} (h1 : c ≠ 0x22) (h2 : c ≠ 0x5C) (rest : Bytes) :
    scanEnd (c :: rest) = (scanEnd rest).map (fun (n, s) => (n + 1, s)) := by
  rw [scanEnd.eq_def]
  dsimp only
  rw [if_neg h1, if_neg h2]
  cases scanEnd rest with
  | none => rfl
  | some v => cases v; rfl

theorem scanEnd_pair (x : UInt8) (rest : Bytes) :
    scanEnd (0x5C :: x :: rest) = (scanEnd rest).map (fun (n, s) => (n + 2, s + 1)) := by
  rw [scanEnd.eq_def]
  simp only [show (0x5C : UInt8) ≠ 0x22 by decide, if_false, if_true]
  cases scanEnd rest with
  | none => rfl
  | some v => cases v; rfl

theorem scanEnd_escByte (c : UInt8) (rest : Bytes) {n s : Nat} (h : scanEnd rest = some (n, s)) :
    ∃ s', scanEnd (escByte c ++ rest) = some (n + (escByte c).length, s') := by
  rcases escByte_cases c with ⟨he, h1, h2⟩ | ⟨e, he, _⟩ | ⟨he, hlt⟩ <;> rw [he]
  · exact ⟨_, by rw [List.singleton_append, scanEnd_plain h1 h2, h]; rfl⟩
  · exact ⟨_, by rw [List.cons_append, List.singleton_append, scanEnd_pair, h]; rfl⟩
  · have ha := hexLower_plain (c.toNat / 16) (by omega)
    have hb := hexLower_plain (c.toNat % 16) (by omega)
    refine ⟨s + 1, ?_⟩
    simp only [List.cons_append, List.nil_append]
    rw [scanEnd_pair, scanEnd_plain (by decide) (by decide), scanEnd_plain (by decide) (by decide),
      scanEnd_plain ha.1 ha.2, scanEnd_plain hb.1 hb.2, h]
    rfl

theorem scanEnd_quote (post : Bytes) : scanEnd (0x22 :: post) = some (0, 0) := by
  rw [scanEnd.eq_def]; simp

theorem scanEnd_escBody (s post : Bytes) :
    ∃ k, scanEnd (escBody s ++ 0x22 :: post) = some ((escBody s).length, k) := by
  induction s with
  | nil => exact ⟨0, scanEnd_quote post⟩
  | cons c r ih =>
    obtain ⟨k, hk⟩ := ih
    obtain ⟨s', hs'⟩ := scanEnd_escByte c _ hk
    refine ⟨s', ?_⟩
    rw [escBody, List.append_assoc, hs', List.length_append, Nat.add_comm]

/-! ### second pass over a printed string -/

theorem SRes.push_push (a b : Bytes) (r : SRes) : (r.push b).push a = r.push (a ++ b) := by
  cases r <;> simp [SRes.push]

theorem unesc_escByte (c : UInt8) (f p m : Nat) (rest : Bytes) :
    unesc (f + 1) p ((escByte c).length + m) (escByte c ++ rest) =
      (unesc f (p + (escByte c).length) m rest).push [c] := by
  rw [unesc_succ, if_neg (by have := escByte_length c; omega)]
  rcases escByte_cases c with ⟨he, _, h2⟩ | ⟨e, he, hs⟩ | ⟨he, hlt⟩ <;> rw [he]
  · simp only [List.singleton_append, if_pos h2, List.length_singleton, Nat.add_sub_cancel_left]
  · simp only [List.cons_append, List.nil_append, ne_eq, not_true_eq_false, if_false, hs, List.length_cons,
      List.length_nil, Nat.add_sub_cancel_left]
  · have hu : utf16 p (6 + m)
        (0x5C :: 0x75 :: 0x30 :: 0x30 :: hexLower (c.toNat / 16) :: hexLower (c.toNat % 16) :: rest) = .ok [c] 6 := by
      have h0 : hexVal 0x30 = some 0 := by decide
      have e : hexValue4 0 0 (c.toNat / 16) (c.toNat % 16) = c.toNat := by unfold hexValue4; omega
      rw [utf16_bmp p _ rest (by omega) h0 h0 (hexVal_hexLower _ (by omega)) (hexVal_hexLower _ (by omega))
        (by omega), e, utf8Spec, if_pos (by omega), UInt8.ofNat_toNat]
    have hse : simpleEsc 0x75 = none := by decide
    simp only [List.cons_append, List.nil_append, ne_eq, not_true_eq_false, if_false, hse, if_true,
      List.length_cons, List.length_nil, hu, List.drop_succ_cons, List.drop_zero, Nat.add_sub_cancel_left]

theorem unesc_escBody (s : Bytes) : ∀ (f p m : Nat) (rest : Bytes),
    unesc (s.length + f) p ((escBody s).length + m) (escBody s ++ rest) =
      (unesc f (p + (escBody s).length) m rest).push s := by
  induction s with
  | nil =>
    intro f p m rest
    simp only [escBody, List.length_nil, Nat.zero_add, List.nil_append, Nat.add_zero]
    cases unesc f p m rest <;> rfl
  | cons c r ih =>
    intro f p m rest
    rw [escBody, List.length_cons, List.length_append, List.append_assoc, Nat.add_right_comm, Nat.add_assoc _ _ m,
      unesc_escByte, ih, SRes.push_push, Nat.add_assoc]
    rfl

/-- parse_string on the text print_string_ptr produced, anywhere in a buffer: the string comes back and the
    offset is right behind the closing quote -/
theorem parseString_printString {inp : Bytes} {b : PB} (s : Bytes) {post : Bytes}
    (hd : inp.drop b.off = printString s ++ post) :
    ∃ a, parseString inp b = .ok ⟨s, a⟩ { b with off := b.off + (printString s).length } := by
  unfold parseString
  rw [hd]
  simp only [printString, List.cons_append, List.append_assoc, List.nil_append]
  rw [if_neg (by simp)]
  obtain ⟨k, hk⟩ := scanEnd_escBody s post
  rw [hk]
  dsimp only
  obtain ⟨f, hf⟩ : ∃ f, (escBody s).length + 1 = s.length + (f + 1) :=
    ⟨escapeChars s, by rw [escBody_length]; omega⟩
  have := unesc_escBody s (f + 1) (b.off + 1) 0 (0x22 :: post)
  rw [hf]
  simp only [Nat.add_zero] at this
  rw [this, unesc_succ, if_pos rfl]
  refine ⟨s.length + (f + 1) - k, ?_⟩
  have e : b.off + 1 + (escBody s).length + 1 = b.off + (0x22 :: (escBody s ++ [0x22])).length := by
    simp only [List.length_cons, List.length_append, List.length_nil]; omega
  rw [e]
  simp only [SRes.push, List.append_nil]

end Cjet.Cjson
