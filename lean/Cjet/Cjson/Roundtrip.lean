/-
  Cjet.Cjson.Roundtrip — parse_value on the text print_value produced gives the tree back.
-/
import Cjet.Cjson.Print
import Cjet.Cjson.Loops

namespace Cjet.Cjson

open Cjet.Generated.Cjson (nestingLimit numberBufSize objCommaGuard)

variable {inp : Bytes} {g : Bool} {num : Bytes → Bytes} {f : Nat}

/-! ### reading a known text at an offset of a buffer -/

theorem getElem?_of_drop {off : Nat} {c : UInt8} {r : Bytes} (h : inp.drop off = c :: r) :
    inp[off]? = some c := by
  have : (inp.drop off)[0]? = some c := by rw [h]; rfl
  simpa [List.getElem?_drop] using this

theorem lt_of_drop {off : Nat} {c : UInt8} {r : Bytes} (h : inp.drop off = c :: r) :
    off < inp.length := by
  have := congrArg List.length h
  simp only [List.length_drop, List.length_cons] at this
  omega

theorem drop_add_of_drop {off : Nat} {w rest : Bytes} (h : inp.drop off = w ++ rest) :
    inp.drop (off + w.length) = rest := by
  rw [← List.drop_drop, h, List.drop_left]

theorem skipWs_id {b : PB} {c : UInt8} {r : Bytes} (h : inp.drop b.off = c :: r) (hc : ¬ c ≤ 32) :
    skipWs inp b = b := by
  have hlt := lt_of_drop h
  unfold skipWs
  rw [if_pos hlt, h]
  simp only [wsCount, if_neg hc, Nat.add_zero]
  rw [if_neg (by omega)]

theorem cmpLit_self (lit : Bytes) : ∀ (o : Nat) (rest : Bytes), cmpLit o (lit ++ rest) lit = .eq := by
  induction lit with
  | nil => intro o rest; simp [cmpLit]
  | cons c cs ih => intro o rest; simp [cmpLit, ih]

theorem isLit_eq {b : PB} {lit rest : Bytes} (hl : 0 < lit.length)
    (h : inp.drop b.off = lit ++ rest) : isLit inp b lit = .eq := by
  unfold isLit
  have := congrArg List.length h
  simp only [List.length_drop, List.length_append] at this
  rw [if_pos (by omega), h, cmpLit_self]

theorem isLit_ne {b : PB} {x y : UInt8} {r l : Bytes} (h : inp.drop b.off = x :: r)
    (hxy : x ≠ y) : isLit inp b (y :: l) = .ne := by
  unfold isLit
  split
  · rw [h]; simp [cmpLit, hxy]
  · rfl

theorem isLit_null_ne {b : PB} {x : UInt8} {r : Bytes} (h : inp.drop b.off = x :: r) (hx : x ≠ 0x6E) :
    isLit inp b litNull = .ne := isLit_ne (l := [0x75, 0x6C, 0x6C]) h hx
theorem isLit_false_ne {b : PB} {x : UInt8} {r : Bytes} (h : inp.drop b.off = x :: r) (hx : x ≠ 0x66) :
    isLit inp b litFalse = .ne := isLit_ne (l := [0x61, 0x6C, 0x73, 0x65]) h hx
theorem isLit_true_ne {b : PB} {x : UInt8} {r : Bytes} (h : inp.drop b.off = x :: r) (hx : x ≠ 0x74) :
    isLit inp b litTrue = .ne := isLit_ne (l := [0x72, 0x75, 0x65]) h hx

/-! ### leaves -/

/-- what may follow a number: the end of the buffer, or a byte outside the number class -/
def PostOk (post : Bytes) : Prop := ∀ c r, post = c :: r → isNumChar c = false

theorem numScan_tok : ∀ (tok : Bytes) (k : Nat) (post : Bytes), tok.length ≤ k → (∀ c ∈ tok, isNumChar c = true) →
    PostOk post → numScan k (tok ++ post) = tok := by
  intro tok
  induction tok with
  | nil =>
    intro k post _ _ hp
    cases k with
    | zero => simp [numScan]
    | succ k =>
      cases post with
      | nil => simp [numScan]
      | cons c r => simp [numScan, hp c r rfl]
  | cons c r ih =>
    intro k post hk hall hp
    cases k with
    | zero => simp at hk
    | succ k =>
      have hc : isNumChar c = true := hall c (by simp)
      simp only [List.cons_append, numScan, hc, if_true]
      rw [ih k post (by simp only [List.length_cons] at hk; omega) (fun x hx => hall x (by simp [hx])) hp]

theorem forall_uint8 {P : UInt8 → Prop} (h : ∀ n : Fin 256, P (UInt8.ofNat n)) : ∀ b, P b := by
  intro b
  simpa using h ⟨b.toNat, b.toNat_lt⟩

theorem numHead_facts : ∀ c : UInt8, (c = 0x2D ∨ isDigit c = true) →
    c ≠ 0x6E ∧ c ≠ 0x66 ∧ c ≠ 0x74 ∧ c ≠ 0x22 ∧ ¬ c ≤ 32 ∧ c ≠ 0x5D ∧ c ≠ 0x7D ∧ c ≠ 0xEF := by
  apply forall_uint8
  decide +kernel

theorem parseScalar_null {b : PB} {post : Bytes} (h : inp.drop b.off = litNull ++ post) :
    parseScalar inp b = some (.ok .null { b with off := b.off + 4 }) := by
  unfold parseScalar
  rw [isLit_eq (by decide) h]

theorem parseScalar_false {b : PB} {post : Bytes} (h : inp.drop b.off = litFalse ++ post) :
    parseScalar inp b = some (.ok .fls { b with off := b.off + 5 }) := by
  unfold parseScalar
  rw [isLit_null_ne (x := 0x66) (by rw [h]; rfl) (by decide)]
  dsimp only
  rw [isLit_eq (by decide) h]

theorem parseScalar_true {b : PB} {post : Bytes} (h : inp.drop b.off = litTrue ++ post) :
    parseScalar inp b = some (.ok .tru { b with off := b.off + 4 }) := by
  unfold parseScalar
  rw [isLit_null_ne (x := 0x74) (by rw [h]; rfl) (by decide)]
  dsimp only
  rw [isLit_false_ne (x := 0x74) (by rw [h]; rfl) (by decide)]
  dsimp only
  rw [isLit_eq (by decide) h]

theorem parseScalar_other {b : PB} {c : UInt8} {r : Bytes} (h : inp.drop b.off = c :: r)
    (h1 : c ≠ 0x6E) (h2 : c ≠ 0x66) (h3 : c ≠ 0x74) :
    parseScalar inp b =
      (if c = 0x22 then some ((parseString inp b).map (fun s => .str (cstr s.written)))
       else if c = 0x2D ∨ isDigit c then some (parseNumber inp b)
       else if c = 0x5B ∨ c = 0x7B then none
       else some (.fail b)) := by
  unfold parseScalar
  rw [isLit_null_ne h h1]
  dsimp only
  rw [isLit_false_ne h h2]
  dsimp only
  rw [isLit_true_ne h h3]
  dsimp only
  rw [getElem?_of_drop h]

theorem parseScalar_string {b : PB} {s post : Bytes} (hs : nulFree s)
    (h : inp.drop b.off = printString s ++ post) :
    parseScalar inp b = some (.ok (.str s) { b with off := b.off + (printString s).length }) := by
  have h' : inp.drop b.off = 0x22 :: (escBody s ++ [0x22] ++ post) := by
    rw [h]; simp [printString]
  rw [parseScalar_other h' (by decide) (by decide) (by decide), if_pos rfl]
  obtain ⟨a, ha⟩ := parseString_printString s h
  rw [ha]
  simp only [Res.map, cstr_of_nulFree s hs]

theorem parseScalar_number {b : PB} {tok post : Bytes} (ht : NumTok tok) (hp : PostOk post)
    (h : inp.drop b.off = tok ++ post) :
    parseScalar inp b = some (.ok (.num tok) { b with off := b.off + tok.length }) := by
  obtain ⟨hlen, hall, hst, c, r, rfl, hc⟩ := ht
  have hf := numHead_facts c hc
  have h' : inp.drop b.off = c :: (r ++ post) := by rw [h]; rfl
  rw [parseScalar_other h' hf.1 hf.2.1 hf.2.2.1, if_neg hf.2.2.2.1, if_pos hc]
  unfold parseNumber
  dsimp only
  rw [h, numScan_tok (c :: r) _ post (by omega) hall hp, hst, if_neg (by simp), List.take_length]

theorem parseScalar_bracket {b : PB} {c : UInt8} {r : Bytes} (h : inp.drop b.off = c :: r)
    (hc : c = 0x5B ∨ c = 0x7B) : parseScalar inp b = none := by
  have h1 : c ≠ 0x6E ∧ c ≠ 0x66 ∧ c ≠ 0x74 ∧ c ≠ 0x22 ∧ ¬ (c = 0x2D ∨ isDigit c = true) := by
    rcases hc with rfl | rfl <;> decide
  rw [parseScalar_other h h1.1 h1.2.1 h1.2.2.1, if_neg h1.2.2.2.1, if_neg h1.2.2.2.2, if_pos hc]

/-! ### shape of printed text -/

/-- the first byte of a printed value is no white space, closes nothing and is not the first BOM byte -/
theorem printValue_head (num : Bytes → Bytes) (t : Tree) (ht : t.Printable num) :
    ∃ c r, printValue num t = c :: r ∧ ¬ c ≤ 32 ∧ c ≠ 0x5D ∧ c ≠ 0x7D ∧ c ≠ 0xEF := by
  cases t with
  | null => exact ⟨0x6E, _, rfl, by decide⟩
  | fls => exact ⟨0x66, _, rfl, by decide⟩
  | tru => exact ⟨0x74, _, rfl, by decide⟩
  | num tok =>
    obtain ⟨_, _, _, c, r, hcr, hc⟩ := ht
    exact ⟨c, r, by rw [printValue, hcr], (numHead_facts c hc).2.2.2.2⟩
  | str s => exact ⟨0x22, escBody s ++ [0x22], by rw [printValue, printString], by decide⟩
  | arr items =>
    cases items with
    | nil => exact ⟨0x5B, [0x5D], by rw [printValue], by decide⟩
    | cons t ts => exact ⟨0x5B, _, by rw [printValue], by decide⟩
  | obj ms =>
    match ms with
    | [] => exact ⟨0x7B, [0x7D], by rw [printValue], by decide⟩
    | (k, v) :: ms => exact ⟨0x7B, _, by rw [printValue], by decide⟩

theorem printItems_head (num : Bytes → Bytes) (ts : List Tree) :
    ∃ c r, printItems num ts = c :: r ∧ (c = 0x2C ∨ c = 0x5D) := by
  cases ts with
  | nil => exact ⟨0x5D, [], by simp [printItems], Or.inr rfl⟩
  | cons t ts => exact ⟨0x2C, printValue num t ++ printItems num ts, by simp [printItems], Or.inl rfl⟩

theorem printMembers_head (num : Bytes → Bytes) (ms : List (Bytes × Tree)) :
    ∃ c r, printMembers num ms = c :: r ∧ (c = 0x2C ∨ c = 0x7D) := by
  cases ms with
  | nil => exact ⟨0x7D, [], by simp [printMembers], Or.inr rfl⟩
  | cons m ms =>
    obtain ⟨k, v⟩ := m
    exact ⟨0x2C, printString k ++ 0x3A :: (printValue num v ++ printMembers num ms), by simp [printMembers], Or.inl rfl⟩

theorem postOk_cons {c : UInt8} (r : Bytes) (hc : isNumChar c = false) : PostOk (c :: r) := by
  rintro _ _ ⟨⟩; exact hc

theorem printItems_length (num : Bytes → Bytes) (ts : List Tree) : ts.length < (printItems num ts).length := by
  induction ts with
  | nil => simp [printItems]
  | cons t ts ih => simp only [printItems, List.length_cons, List.length_append]; omega

theorem printMembers_length (num : Bytes → Bytes) (ms : List (Bytes × Tree)) :
    ms.length < (printMembers num ms).length := by
  induction ms with
  | nil => simp [printMembers]
  | cons m ms ih =>
    obtain ⟨k, v⟩ := m
    simp only [printMembers, List.length_cons, List.length_append]; omega

/-! ### the round trip, by induction on the fuel (= nesting depth still allowed) -/

/-- round-trip statement for one fuel value -/
def RT (inp : Bytes) (g : Bool) (num : Bytes → Bytes) (f : Nat) : Prop :=
  ∀ (t : Tree) (b : PB) (post : Bytes), t.depth < f → t.Printable num →
    inp.drop b.off = printValue num t ++ post → PostOk post → b.depth + t.depth ≤ nestingLimit →
    parseValue inp g f b = .ok (t.mapNum num) ⟨b.off + (printValue num t).length, b.depth⟩

theorem value_then_sep (hrt : RT inp g num f) {t : Tree} {b : PB} {c : UInt8} {rest : Bytes}
    (hd : t.depth < f) (hp : t.Printable num)
    (hdrop : inp.drop b.off = printValue num t ++ c :: rest) (hc : isNumChar c = false) (hc32 : ¬ c ≤ 32)
    (hlim : b.depth + t.depth ≤ nestingLimit) :
    skipWs inp b = b ∧
    parseValue inp g f b = .ok (t.mapNum num) ⟨b.off + (printValue num t).length, b.depth⟩ ∧
    skipWs inp ⟨b.off + (printValue num t).length, b.depth⟩ = ⟨b.off + (printValue num t).length, b.depth⟩ ∧
    inp.drop (b.off + (printValue num t).length) = c :: rest := by
  obtain ⟨c0, r, hcr, h32, -⟩ := printValue_head num t hp
  have hd2 := drop_add_of_drop hdrop
  exact ⟨skipWs_id (c := c0) (r := r ++ c :: rest) (by rw [hdrop, hcr]; rfl) h32,
    hrt t b _ hd hp hdrop (postOk_cons rest hc) hlim, skipWs_id (b := ⟨_, _⟩) hd2 hc32, hd2⟩

theorem arrLoop_printed_step (hrt : RT inp g num f)
    {t : Tree} (gf : Nat) {b : PB} {c : UInt8} {rest : Bytes} (hd : t.depth < f) (hp : t.Printable num)
    (hdrop : inp.drop (b.off + 1) = printValue num t ++ c :: rest) (hc : c = 0x2C ∨ c = 0x5D)
    (hlim : b.depth + t.depth ≤ nestingLimit) :
    arrLoop inp (parseValue inp g f) (gf + 1) b =
      if c = 0x2C then
        (arrLoop inp (parseValue inp g f) gf ⟨b.off + 1 + (printValue num t).length, b.depth⟩).map (t.mapNum num :: ·)
      else .ok [t.mapNum num] ⟨b.off + 1 + (printValue num t).length, b.depth⟩ := by
  obtain ⟨h1, h2, h3, h4⟩ := value_then_sep hrt (b := ⟨b.off + 1, b.depth⟩) hd hp hdrop
    (by rcases hc with rfl | rfl <;> decide) (by rcases hc with rfl | rfl <;> decide) hlim
  rw [arrLoop.eq_2, h1, h2]
  dsimp only
  rw [h3, getElem?_of_drop h4]
  rcases hc with rfl | rfl <;> rfl

theorem arrLoop_printed (hrt : RT inp g num f) :
    ∀ (ts : List Tree) (t : Tree) (k : Nat) (b : PB) (post : Bytes),
      Tree.depthList (t :: ts) < f → Tree.PrintableList num (t :: ts) →
      inp.drop (b.off + 1) = printValue num t ++ (printItems num ts ++ post) →
      b.depth + Tree.depthList (t :: ts) ≤ nestingLimit →
      arrLoop inp (parseValue inp g f) (k + ts.length + 1) b =
        .ok (Tree.mapNumList num (t :: ts))
          ⟨b.off + (printValue num t ++ printItems num ts).length, b.depth⟩ := by
  intro ts
  induction ts with
  | nil =>
    intro t k b post hd hp hdrop hlim
    rw [arrLoop_printed_step hrt _ (Tree.depthList_cons_lt.mp hd).1 hp.1 hdrop (Or.inr rfl)
      (Tree.add_depthList_cons_le.mp hlim).1, if_neg (by decide)]
    simp only [Tree.mapNumList, printItems, List.length_append, List.length_cons, List.length_nil, Nat.zero_add,
      Nat.add_assoc, Nat.add_comm 1]
  | cons t' ts' ih =>
    intro t k b post hd hp hdrop hlim
    rw [printItems, List.cons_append, List.append_assoc] at hdrop
    have hd3 := drop_add_of_drop (w := printValue num t ++ [0x2C]) (by rw [hdrop, List.append_assoc]; rfl)
    rw [List.length_append, ← Nat.add_assoc] at hd3
    rw [List.length_cons, ← Nat.add_assoc, arrLoop_printed_step hrt _ (Tree.depthList_cons_lt.mp hd).1 hp.1 hdrop
      (Or.inl rfl) (Tree.add_depthList_cons_le.mp hlim).1, if_pos rfl,
      ih t' k ⟨_, b.depth⟩ post (Tree.depthList_cons_lt.mp hd).2 hp.2 hd3 (Tree.add_depthList_cons_le.mp hlim).2]
    simp only [Res.map, Tree.mapNumList, printItems, List.length_cons, List.length_append, Nat.add_assoc,
      Nat.add_comm, Nat.add_left_comm]

theorem objLoop_printed_step (hrt : RT inp g num f)
    {k : Bytes} {v : Tree} (gf : Nat) {b : PB} {c : UInt8} {rest : Bytes} (hk : nulFree k) (hd : v.depth < f)
    (hp : v.Printable num)
    (hdrop : inp.drop (b.off + 1) = printString k ++ (0x3A :: (printValue num v ++ c :: rest)))
    (hc : c = 0x2C ∨ c = 0x7D) (hlim : b.depth + v.depth ≤ nestingLimit) :
    objLoop inp g (parseValue inp g f) (gf + 1) b =
      if c = 0x2C then
        (objLoop inp g (parseValue inp g f) gf
          ⟨b.off + 1 + (printString k).length + 1 + (printValue num v).length, b.depth⟩).map ((k, v.mapNum num) :: ·)
      else .ok [(k, v.mapNum num)] ⟨b.off + 1 + (printString k).length + 1 + (printValue num v).length, b.depth⟩ := by
  have hguard : ¬ (g = true ∧ ¬ (b.off + 1 < inp.length)) :=
    fun h => h.2 (lt_of_drop (c := 0x22) (by rw [hdrop]; rfl))
  have hb1 : skipWs inp { b with off := b.off + 1 } = ⟨b.off + 1, b.depth⟩ :=
    skipWs_id (b := ⟨b.off + 1, b.depth⟩) (c := 0x22) (by rw [hdrop]; rfl) (by decide)
  obtain ⟨a, hps⟩ := parseString_printString (b := ⟨b.off + 1, b.depth⟩) k hdrop
  have hd2 := drop_add_of_drop hdrop
  have hb3 := skipWs_id (b := ⟨b.off + 1 + (printString k).length, b.depth⟩) hd2 (by decide)
  have hd3 : inp.drop (b.off + 1 + (printString k).length + 1) = printValue num v ++ c :: rest :=
    drop_add_of_drop (w := [0x3A]) hd2
  obtain ⟨h1, h2, h3, h4⟩ := value_then_sep hrt (b := ⟨b.off + 1 + (printString k).length + 1, b.depth⟩) hd hp hd3
    (by rcases hc with rfl | rfl <;> decide) (by rcases hc with rfl | rfl <;> decide) hlim
  rw [objLoop.eq_2, if_neg hguard, hb1, hps]
  dsimp only
  rw [hb3, getElem?_of_drop hd2]
  dsimp only
  rw [if_neg (by decide), h1, h2]
  dsimp only
  rw [h3, getElem?_of_drop h4, cstr_of_nulFree k hk]
  rcases hc with rfl | rfl <;> rfl

theorem objLoop_printed (hrt : RT inp g num f) :
    ∀ (ms : List (Bytes × Tree)) (k : Bytes) (v : Tree) (j : Nat) (b : PB) (post : Bytes),
      Tree.depthMembers ((k, v) :: ms) < f → Tree.PrintableMembers num ((k, v) :: ms) →
      inp.drop (b.off + 1) = printString k ++ (0x3A :: (printValue num v ++ (printMembers num ms ++ post))) →
      b.depth + Tree.depthMembers ((k, v) :: ms) ≤ nestingLimit →
      objLoop inp g (parseValue inp g f) (j + ms.length + 1) b =
        .ok (Tree.mapNumMembers num ((k, v) :: ms))
          ⟨b.off + (printString k ++ 0x3A :: (printValue num v ++ printMembers num ms)).length, b.depth⟩ := by
  intro ms
  induction ms with
  | nil =>
    intro k v j b post hd hp hdrop hlim
    rw [objLoop_printed_step hrt _ hp.1 (Tree.depthMembers_cons_lt.mp hd).1 hp.2.1 hdrop (Or.inr rfl)
      (Tree.add_depthMembers_cons_le.mp hlim).1, if_neg (by decide)]
    simp only [Tree.mapNumMembers, printMembers, List.length_append, List.length_cons, List.length_nil, Nat.zero_add,
      Nat.add_assoc, Nat.add_comm, Nat.add_left_comm]
  | cons m' ms' ih =>
    obtain ⟨k', v'⟩ := m'
    intro k v j b post hd hp hdrop hlim
    rw [printMembers, List.cons_append, List.append_assoc, List.cons_append, List.append_assoc] at hdrop
    have hd3 : inp.drop (b.off + 1 + (printString k).length + 1 + (printValue num v).length + 1) =
        printString k' ++ 0x3A :: (printValue num v' ++ (printMembers num ms' ++ post)) := by
      rw [show b.off + 1 + (printString k).length + 1 + (printValue num v).length + 1 =
        b.off + 1 + (printString k ++ 0x3A :: (printValue num v ++ [0x2C])).length by
          simp only [List.length_append, List.length_cons, List.length_nil]; omega]
      exact drop_add_of_drop (by rw [hdrop]; simp only [List.append_assoc, List.cons_append, List.nil_append])
    rw [List.length_cons, ← Nat.add_assoc, objLoop_printed_step hrt _ hp.1 (Tree.depthMembers_cons_lt.mp hd).1 hp.2.1
      hdrop (Or.inl rfl) (Tree.add_depthMembers_cons_le.mp hlim).1, if_pos rfl,
      ih k' v' j ⟨_, b.depth⟩ post (Tree.depthMembers_cons_lt.mp hd).2 hp.2.2 hd3
        (Tree.add_depthMembers_cons_le.mp hlim).2]
    simp only [Res.map, Tree.mapNumMembers, printMembers, List.length_cons, List.length_append]
    congr 2
    omega

theorem parseArray_open {rec : PB → Res Tree} {b : PB} {c : UInt8} {r : Bytes} (hlim : b.depth < nestingLimit)
    (h : inp.drop b.off = 0x5B :: c :: r) (hc : ¬ c ≤ 32) :
    parseArray inp rec b =
      if c = 0x5D then .ok (.arr []) ⟨b.off + 2, b.depth⟩
      else match arrLoop inp rec (inp.length + 1) ⟨b.off, b.depth + 1⟩ with
        | .ok items b' => .ok (.arr items) ⟨b'.off + 1, b'.depth - 1⟩
        | .fail b' => .fail b'
        | .oob i => .oob i
        | .nofuel => .nofuel := by
  have h1 : inp.drop (b.off + 1) = c :: r := drop_add_of_drop (w := [0x5B]) h
  unfold parseArray
  rw [if_neg (Nat.not_le_of_lt hlim)]
  dsimp only
  rw [getElem?_of_drop h]
  dsimp only
  rw [if_neg (by decide), skipWs_id (b := ⟨b.off + 1, b.depth + 1⟩) h1 hc]
  dsimp only
  rw [getElem?_of_drop h1]
  rfl

theorem parseArray_printed (hrt : RT inp g num f)
    (items : List Tree) (b : PB) (post : Bytes) (hd : Tree.depthList items < f)
    (hp : Tree.PrintableList num items) (hdrop : inp.drop b.off = printValue num (.arr items) ++ post)
    (hlim : b.depth + (Tree.depthList items + 1) ≤ nestingLimit) :
    parseArray inp (parseValue inp g f) b =
      .ok (.arr (Tree.mapNumList num items)) ⟨b.off + (printValue num (.arr items)).length, b.depth⟩ := by
  cases items with
  | nil =>
    rw [parseArray_open (by omega) (c := 0x5D) (r := post) (by rw [hdrop, printValue]; rfl) (by decide), if_pos rfl]
    rfl
  | cons t ts =>
    obtain ⟨c, r, hcr, hc32, hc5d, -⟩ := printValue_head num t hp.1
    have h1 : inp.drop (b.off + 1) = printValue num t ++ (printItems num ts ++ post) :=
      drop_add_of_drop (w := [0x5B]) (by rw [hdrop, printValue, List.cons_append, List.append_assoc]; rfl)
    obtain ⟨k, hk⟩ : ∃ k, inp.length = k + ts.length := by
      have := congrArg List.length h1
      have h2 := printItems_length num ts
      simp only [List.length_drop, List.length_append] at this
      exact ⟨inp.length - ts.length, by omega⟩
    rw [parseArray_open (by omega) (c := c) (r := r ++ (printItems num ts ++ post))
        (by rw [hdrop, printValue, hcr]; simp only [List.cons_append, List.append_assoc]) hc32,
      if_neg hc5d, hk, arrLoop_printed hrt ts t k ⟨b.off, b.depth + 1⟩ post hd hp h1
        (by rw [Nat.add_right_comm]; exact hlim)]
    rfl

theorem parseObject_open {rec : PB → Res Tree} {b : PB} {c : UInt8} {r : Bytes} (hlim : b.depth < nestingLimit)
    (h : inp.drop b.off = 0x7B :: c :: r) (hc : ¬ c ≤ 32) :
    parseObject inp g rec b =
      if c = 0x7D then .ok (.obj []) ⟨b.off + 2, b.depth⟩
      else match objLoop inp g rec (inp.length + 1) ⟨b.off, b.depth + 1⟩ with
        | .ok ms b' => .ok (.obj ms) ⟨b'.off + 1, b'.depth - 1⟩
        | .fail b' => .fail b'
        | .oob i => .oob i
        | .nofuel => .nofuel := by
  have h1 : inp.drop (b.off + 1) = c :: r := drop_add_of_drop (w := [0x7B]) h
  unfold parseObject
  rw [if_neg (Nat.not_le_of_lt hlim)]
  dsimp only
  rw [getElem?_of_drop h]
  dsimp only
  rw [if_neg (by decide), skipWs_id (b := ⟨b.off + 1, b.depth + 1⟩) h1 hc]
  dsimp only
  rw [getElem?_of_drop h1]
  rfl

theorem parseObject_printed (hrt : RT inp g num f)
    (ms : List (Bytes × Tree)) (b : PB) (post : Bytes) (hd : Tree.depthMembers ms < f)
    (hp : Tree.PrintableMembers num ms) (hdrop : inp.drop b.off = printValue num (.obj ms) ++ post)
    (hlim : b.depth + (Tree.depthMembers ms + 1) ≤ nestingLimit) :
    parseObject inp g (parseValue inp g f) b =
      .ok (.obj (Tree.mapNumMembers num ms)) ⟨b.off + (printValue num (.obj ms)).length, b.depth⟩ := by
  match ms, hd, hp, hdrop, hlim with
  | [], _, _, hdrop, _ =>
    rw [parseObject_open (by omega) (c := 0x7D) (r := post) (by rw [hdrop, printValue]; rfl) (by decide), if_pos rfl]
    rfl
  | (k, v) :: ms, hd, hp, hdrop, hlim =>
    have h0 : inp.drop b.off =
        0x7B :: (printString k ++ (0x3A :: (printValue num v ++ (printMembers num ms ++ post)))) := by
      rw [hdrop, printValue]; simp only [List.cons_append, List.append_assoc]
    have h1 : inp.drop (b.off + 1) = printString k ++ (0x3A :: (printValue num v ++ (printMembers num ms ++ post))) :=
      drop_add_of_drop (w := [0x7B]) h0
    obtain ⟨j, hj⟩ : ∃ j, inp.length = j + ms.length := by
      have := congrArg List.length h1
      have h2 := printMembers_length num ms
      simp only [List.length_drop, List.length_append, List.length_cons] at this
      exact ⟨inp.length - ms.length, by omega⟩
    rw [parseObject_open (by omega) (c := 0x22) (by rw [h0]; rfl) (by decide), if_neg (by decide), hj,
      objLoop_printed hrt ms k v j ⟨b.off, b.depth + 1⟩ post hd hp h1 (by rw [Nat.add_right_comm]; exact hlim)]
    rfl

theorem rt_all (inp : Bytes) (g : Bool) (num : Bytes → Bytes) : ∀ f, RT inp g num f := by
  intro f
  induction f with
  | zero => intro t b post hd; omega
  | succ f ih =>
    intro t b post hd hp hdrop hpo hlim
    rw [parseValue.eq_2]
    cases t with
    | null => rw [parseScalar_null hdrop]; rfl
    | fls => rw [parseScalar_false hdrop]; rfl
    | tru => rw [parseScalar_true hdrop]; rfl
    | num tok => rw [parseScalar_number hp hpo hdrop]; rfl
    | str s => rw [parseScalar_string hp hdrop]; rfl
    | arr items =>
      obtain ⟨r, hr⟩ : ∃ r, printValue num (.arr items) = 0x5B :: r := by
        cases items <;> exact ⟨_, by rw [printValue]⟩
      have h0 : inp.drop b.off = 0x5B :: (r ++ post) := by rw [hdrop, hr]; rfl
      rw [parseScalar_bracket h0 (Or.inl rfl)]
      dsimp only
      rw [getElem?_of_drop h0]
      dsimp only
      simp only [Tree.depth_arr] at hd hlim
      rw [if_pos rfl, parseArray_printed ih items b post (by omega) hp hdrop hlim]
      rfl
    | obj ms =>
      obtain ⟨r, hr⟩ : ∃ r, printValue num (.obj ms) = 0x7B :: r := by
        match ms with
        | [] => exact ⟨_, by rw [printValue]⟩
        | (k, v) :: ms => exact ⟨_, by rw [printValue]⟩
      have h0 : inp.drop b.off = 0x7B :: (r ++ post) := by rw [hdrop, hr]; rfl
      rw [parseScalar_bracket h0 (Or.inr rfl)]
      dsimp only
      rw [getElem?_of_drop h0]
      dsimp only
      simp only [Tree.depth_obj] at hd hlim
      rw [if_neg (by decide), parseObject_printed ih ms b post (by omega) hp hdrop hlim]
      rfl

/-- cJSON_ParseWithLengthOpts on the whole printed text -/
theorem parseRes_printed (g : Bool) (num : Bytes → Bytes) (t : Tree) (ht : t.Printable num)
    (hd : t.depth ≤ nestingLimit) :
    parseRes (printValue num t) g (nestingLimit + 1) =
      .ok (t.mapNum num) ⟨(printValue num t).length, 0⟩ := by
  obtain ⟨c, r, hcr, hc32, -, -, hef⟩ := printValue_head num t ht
  unfold parseRes
  rw [if_neg (by rw [hcr]; simp)]
  have hb : skipBom (printValue num t) ⟨0, 0⟩ = .ok () ⟨0, 0⟩ := by
    unfold skipBom
    split
    · rw [hcr]
      simp only [List.drop_zero, bom, cmpLit, if_neg hef]
    · rfl
  rw [hb]
  dsimp only
  have h0 : (printValue num t).drop (PB.off ⟨0, 0⟩) = c :: r := by simp [hcr]
  rw [skipWs_id h0 hc32]
  have := rt_all (printValue num t) g num (nestingLimit + 1) t ⟨0, 0⟩ [] (by omega) ht (by simp)
    (by intro c r h; cases h) (by simp only [Nat.zero_add]; exact hd)
  rw [this]
  simp

end Cjet.Cjson
