/-
  Cjet.Cjson.Loops — parse_array / parse_object / parse_value: no read outside the buffer, offsets move
  forward, the depth counter is restored and bounded, the fuels suffice and the result does not depend on them.

  Each fact is stated for the loops with an arbitrary recursive-call function `rec` that has the same property,
  and handed up through parse_array / parse_object to parse_value by induction on its fuel.
-/
import Cjet.Cjson.Bounds

namespace Cjet.Cjson

open Cjet.Generated.Cjson (nestingLimit numberBufSize objCommaGuard)

variable {inp : Bytes} {guard : Bool} {rec rec' : PB → Res Tree}

/-! ### properties of the recursive-call function `rec` the loops are given -/

/-- `rec` never reads outside the buffer -/
def NoOob (rec : PB → Res Tree) : Prop := ∀ b i, rec b ≠ .oob i

/-- what a successful `rec` guarantees; the depth of the tree counts from the depth `rec` was entered at -/
def OkSpec (inp : Bytes) (rec : PB → Res Tree) : Prop :=
  ∀ b t b', b.depth ≤ nestingLimit → rec b = .ok t b' → b.off < b'.off ∧ b'.off ≤ inp.length ∧
    b'.depth = b.depth ∧ b.depth + t.depth ≤ nestingLimit ∧ t.StrOk

/-- `rec` does not run out of fuel when entered at depth `d` -/
def NoNofuelAt (d : Nat) (rec : PB → Res Tree) : Prop := ∀ b, b.depth = d → rec b ≠ .nofuel

/-- `rec'` answers like `rec` wherever `rec` had enough fuel -/
def FuelLe (rec rec' : PB → Res Tree) : Prop := ∀ b, rec' b = rec b ∨ rec b = .nofuel

@[simp] theorem Tree.depthList_nil : Tree.depthList [] = 0 := rfl
@[simp] theorem Tree.depthList_cons (t : Tree) (l : List Tree) :
    Tree.depthList (t :: l) = max t.depth (Tree.depthList l) := rfl
@[simp] theorem Tree.depthMembers_nil : Tree.depthMembers [] = 0 := rfl
@[simp] theorem Tree.depthMembers_cons (k : Bytes) (v : Tree) (l : List (Bytes × Tree)) :
    Tree.depthMembers ((k, v) :: l) = max v.depth (Tree.depthMembers l) := rfl
theorem Tree.depthList_cons_lt {t : Tree} {l : List Tree} {f : Nat} :
    Tree.depthList (t :: l) < f ↔ t.depth < f ∧ Tree.depthList l < f := by
  rw [Tree.depthList_cons]; exact Nat.max_lt
theorem Tree.add_depthList_cons_le {t : Tree} {l : List Tree} {d n : Nat} :
    d + Tree.depthList (t :: l) ≤ n ↔ d + t.depth ≤ n ∧ d + Tree.depthList l ≤ n := by
  rw [Tree.depthList_cons, ← Nat.add_max_add_left]; exact Nat.max_le
theorem Tree.depthMembers_cons_lt {k : Bytes} {v : Tree} {l : List (Bytes × Tree)} {f : Nat} :
    Tree.depthMembers ((k, v) :: l) < f ↔ v.depth < f ∧ Tree.depthMembers l < f := by
  rw [Tree.depthMembers_cons]; exact Nat.max_lt
theorem Tree.add_depthMembers_cons_le {k : Bytes} {v : Tree} {l : List (Bytes × Tree)} {d n : Nat} :
    d + Tree.depthMembers ((k, v) :: l) ≤ n ↔ d + v.depth ≤ n ∧ d + Tree.depthMembers l ≤ n := by
  rw [Tree.depthMembers_cons, ← Nat.add_max_add_left]; exact Nat.max_le
@[simp] theorem Tree.depth_arr (l : List Tree) : (Tree.arr l).depth = Tree.depthList l + 1 := rfl
@[simp] theorem Tree.depth_obj (l : List (Bytes × Tree)) : (Tree.obj l).depth = Tree.depthMembers l + 1 := rfl

/-! ### one element: white space, the value, white space -/

theorem OkSpec.skipWs (hrec : OkSpec inp rec) {b : PB} {t : Tree} {b2 : PB}
    (hb : b.depth ≤ nestingLimit) (hr : rec (skipWs inp b) = .ok t b2) :
    b.off < (skipWs inp b2).off ∧ (skipWs inp b2).off ≤ inp.length ∧ (skipWs inp b2).depth = b.depth ∧
      b.depth + t.depth ≤ nestingLimit ∧ t.StrOk := by
  obtain ⟨h1, h2, h3, h4, h5⟩ := hrec _ _ _ ((skipWs_depth inp b).symm ▸ hb) hr
  rw [skipWs_depth] at h3 h4
  exact ⟨Nat.lt_of_le_of_lt (skipWs_off_ge inp b) (Nat.lt_of_lt_of_le h1 (skipWs_off_ge inp b2)),
    skipWs_off_le h2, (skipWs_depth inp b2).trans h3, h4, h5⟩

theorem parseString_skipWs {b : PB} {s : StrOut} {b2 : PB} (hs : parseString inp (skipWs inp b) = .ok s b2) :
    b.off + 2 ≤ (skipWs inp b2).off ∧ (skipWs inp b2).off ≤ inp.length ∧ (skipWs inp b2).depth = b.depth := by
  obtain ⟨h1, h2, h3⟩ := parseString_ok hs
  rw [skipWs_depth] at h3
  exact ⟨Nat.le_trans (Nat.add_le_add_right (skipWs_off_ge inp b) 2) (Nat.le_trans h1 (skipWs_off_ge inp b2)),
    skipWs_off_le h2, (skipWs_depth inp b2).trans h3⟩

/-! ### parse_array -/

theorem arrLoop_not_oob (hrec : NoOob rec) (g : Nat) (b : PB) (i : Nat) : arrLoop inp rec g b ≠ .oob i := by
  fun_induction arrLoop inp rec g b
  case case2 ih => exact fun h => ih (Res.map_oob.mp h)
  case case7 hr => exact absurd hr (hrec _ _)
  all_goals nofun

theorem arrLoop_ok (hrec : OkSpec inp rec) (g : Nat) (b : PB) :
    b.depth ≤ nestingLimit → ∀ (items : List Tree) (b' : PB), arrLoop inp rec g b = .ok items b' →
      b.off < b'.off ∧ b'.off < inp.length ∧ b'.depth = b.depth ∧ inp[b'.off]? = some 0x5D ∧
      b.depth + Tree.depthList items ≤ nestingLimit ∧ Tree.StrOkList items := by
  fun_induction arrLoop inp rec g b
  case case2 g b t b2 hr b3 _ ih =>
    intro hb items b' h
    obtain ⟨l, hl, rfl⟩ := Res.map_ok.mp h
    obtain ⟨h1, -, h3, h4, h5⟩ := hrec.skipWs (b := ⟨b.off + 1, b.depth⟩) hb hr
    obtain ⟨i1, i2, i3, i4, i5, i6⟩ := ih (h3 ▸ hb) _ _ hl
    exact ⟨Nat.lt_trans (Nat.lt_of_succ_lt h1) i1, i2, i3.trans h3, i4,
      Tree.add_depthList_cons_le.mpr ⟨h4, h3 ▸ i5⟩, h5, i6⟩
  case case3 g b t b2 hr b3 hc _ =>
    rintro hb items b' ⟨⟩
    obtain ⟨h1, -, h3, h4, h5⟩ := hrec.skipWs (b := ⟨b.off + 1, b.depth⟩) hb hr
    exact ⟨Nat.lt_of_succ_lt h1, (List.getElem?_eq_some_iff.mp hc).1, h3, hc,
      Tree.add_depthList_cons_le.mpr ⟨h4, hb⟩, h5, trivial⟩
  all_goals (intro _ _ _ h; cases h)

/-- the loop fuel: every round moves the offset forward -/
theorem arrLoop_not_nofuel (hrec : OkSpec inp rec) (g : Nat) (b : PB) :
    b.depth ≤ nestingLimit → NoNofuelAt b.depth rec → b.off ≤ inp.length → inp.length < g + b.off →
      arrLoop inp rec g b ≠ .nofuel := by
  fun_induction arrLoop inp rec g b
  case case1 => intro _ _ h1 h2; omega
  case case2 g b t b2 hr b3 hc ih =>
    intro hb hnf _ hg h
    obtain ⟨h1, h2, h3, -⟩ := hrec.skipWs (b := ⟨b.off + 1, b.depth⟩) hb hr
    exact ih (h3 ▸ hb) (h3 ▸ hnf) h2 (by have : b.off + 1 < b3.off := h1; omega) (Res.map_nofuel.mp h)
  case case8 g b hr => intro _ hnf _ _ _; exact hnf _ (skipWs_depth inp ⟨b.off + 1, b.depth⟩) hr
  all_goals (intros; nofun)

theorem arrLoop_fuelLe (hle : FuelLe rec rec') :
    ∀ (g : Nat) (b : PB), arrLoop inp rec' g b = arrLoop inp rec g b ∨ arrLoop inp rec g b = .nofuel := by
  intro g
  induction g with
  | zero => exact fun b => Or.inr rfl
  | succ g ih =>
    intro b
    rw [arrLoop.eq_2, arrLoop.eq_2 inp rec]
    rcases hle (skipWs inp { b with off := b.off + 1 }) with h | h <;> rw [h]
    · dsimp only
      split
      · split
        · split
          · rcases ih (skipWs inp _) with h2 | h2 <;> rw [h2]
            · exact Or.inl rfl
            · exact Or.inr rfl
          · exact Or.inl rfl
        · exact Or.inl rfl
      all_goals exact Or.inl rfl
    · exact Or.inr rfl

theorem parseArray_not_oob (hrec : NoOob rec) {b : PB} (hb : b.off < inp.length) (i : Nat) :
    parseArray inp rec b ≠ .oob i := by
  fun_cases parseArray inp rec b
  case case2 hn => have : inp.length ≤ b.off := List.getElem?_eq_none_iff.mp hn; omega
  case case8 hl => exact absurd hl (arrLoop_not_oob hrec _ _ _)
  all_goals nofun

theorem parseArray_ok (hrec : OkSpec inp rec) {b : PB} {t : Tree} {b' : PB} :
    parseArray inp rec b = .ok t b' → b.off < b'.off ∧ b'.off ≤ inp.length ∧ b'.depth = b.depth ∧
      b.depth + t.depth ≤ nestingLimit ∧ t.StrOk := by
  fun_cases parseArray inp rec b
  case case5 hlim b1 _ _ _ bw hc =>
    rintro ⟨⟩
    have hs : b.off + 1 ≤ bw.off := skipWs_off_ge inp { off := b.off + 1, depth := b.depth + 1 }
    have hd : bw.depth = b.depth + 1 := skipWs_depth inp _
    have hlt := (List.getElem?_eq_some_iff.mp hc).1
    rw [Tree.depth_arr, Tree.depthList_nil]
    exact ⟨Nat.lt_succ_of_le (Nat.le_trans (Nat.le_succ _) hs), hlt, by rw [hd]; rfl, Nat.lt_of_not_ge hlim, trivial⟩
  case case6 hlim b1 _ _ _ bw _ _ _ items b'' hl =>
    rintro ⟨⟩
    have hs : b.off + 1 ≤ bw.off := skipWs_off_ge inp { off := b.off + 1, depth := b.depth + 1 }
    have hd : bw.depth = b.depth + 1 := skipWs_depth inp _
    obtain ⟨l1, l2, l3, -, l5, l6⟩ := arrLoop_ok hrec _ _ (by rw [hd]; exact Nat.lt_of_not_ge hlim) _ _ hl
    dsimp only at l1 l3 l5
    rw [Tree.depth_arr]
    exact ⟨by dsimp only; omega, l2, by rw [l3, hd]; rfl, by omega, l6⟩
  all_goals nofun

theorem parseArray_not_nofuel (hrec : OkSpec inp rec) {b : PB}
    (hnf : b.depth < nestingLimit → NoNofuelAt (b.depth + 1) rec) : parseArray inp rec b ≠ .nofuel := by
  fun_cases parseArray inp rec b
  case case9 hlim b1 _ _ _ bw _ hc _ hl =>
    have hd : bw.depth = b.depth + 1 := skipWs_depth inp _
    have hlt := (List.getElem?_eq_some_iff.mp hc).1
    exact absurd hl (arrLoop_not_nofuel hrec _ _ (by rw [hd]; exact Nat.lt_of_not_ge hlim)
      (hd ▸ hnf (Nat.lt_of_not_ge hlim)) (by dsimp only; omega) (by dsimp only; omega))
  all_goals nofun

theorem parseArray_fuelLe (hle : FuelLe rec rec') (b : PB) :
    parseArray inp rec' b = parseArray inp rec b ∨ parseArray inp rec b = .nofuel := by
  unfold parseArray
  split
  · exact Or.inl rfl
  · dsimp only
    split
    · exact Or.inl rfl
    · split
      · exact Or.inl rfl
      · split
        · exact Or.inl rfl
        · split
          · exact Or.inl rfl
          · rcases arrLoop_fuelLe (inp := inp) hle (inp.length + 1) _ with h | h <;> rw [h]
            · exact Or.inl rfl
            · exact Or.inr rfl

/-! ### parse_object -/

theorem objLoop_oob (hrec : NoOob rec) (g : Nat) (b : PB) (i : Nat) :
    objLoop inp guard rec g b = .oob i → guard = false := by
  fun_induction objLoop inp guard rec g b
  case case5 ih => exact fun h => ih (Res.map_oob.mp h)
  case case10 hr => exact fun _ => absurd hr (hrec _ _)
  case case13 g b hg _ hs =>
    intro _
    cases guard with
    | false => rfl
    | true =>
      have h1 := parseString_oob hs
      have h2 := skipWs_off_lt (inp := inp) (b := { b with off := b.off + 1 }) (by simpa using hg)
      omega
  all_goals nofun

theorem objLoop_ok (hrec : OkSpec inp rec) (g : Nat) (b : PB) :
    b.depth ≤ nestingLimit → ∀ (ms : List (Bytes × Tree)) (b' : PB), objLoop inp guard rec g b = .ok ms b' →
      b.off < b'.off ∧ b'.off < inp.length ∧ b'.depth = b.depth ∧ inp[b'.off]? = some 0x7D ∧
      b.depth + Tree.depthMembers ms ≤ nestingLimit ∧ Tree.StrOkMembers ms := by
  fun_induction objLoop inp guard rec g b
  case case5 g b _ name b2 hs b3 _ _ _ v b5 hr b6 _ ih =>
    intro hb ms b' h
    obtain ⟨l, hl, rfl⟩ := Res.map_ok.mp h
    obtain ⟨s1, -, s3⟩ := parseString_skipWs (b := ⟨b.off + 1, b.depth⟩) hs
    obtain ⟨h1, -, h3, h4, h5⟩ := hrec.skipWs (b := ⟨b3.off + 1, b3.depth⟩) (s3 ▸ hb) hr
    have h6 : b6.depth = b.depth := h3.trans s3
    obtain ⟨i1, i2, i3, i4, i5, i6⟩ := ih (h6 ▸ hb) _ _ hl
    exact ⟨by have : b.off + 1 + 2 ≤ b3.off := s1; have : b3.off + 1 < b6.off := h1; omega, i2, i3.trans h6, i4,
      Tree.add_depthMembers_cons_le.mpr ⟨s3 ▸ h4, h6 ▸ i5⟩, cstr_nulFree _, h5, i6⟩
  case case6 g b _ name b2 hs b3 _ _ _ v b5 hr b6 hc _ =>
    rintro hb ms b' ⟨⟩
    obtain ⟨s1, -, s3⟩ := parseString_skipWs (b := ⟨b.off + 1, b.depth⟩) hs
    obtain ⟨h1, -, h3, h4, h5⟩ := hrec.skipWs (b := ⟨b3.off + 1, b3.depth⟩) (s3 ▸ hb) hr
    exact ⟨by have : b.off + 1 + 2 ≤ b3.off := s1; have : b3.off + 1 < b6.off := h1; omega,
      (List.getElem?_eq_some_iff.mp hc).1, h3.trans s3, hc,
      Tree.add_depthMembers_cons_le.mpr ⟨s3 ▸ h4, hb⟩, cstr_nulFree _, h5, trivial⟩
  all_goals (intro _ _ _ h; cases h)

theorem objLoop_not_nofuel (hrec : OkSpec inp rec) (g : Nat) (b : PB) :
    b.depth ≤ nestingLimit → NoNofuelAt b.depth rec → b.off ≤ inp.length → inp.length < g + b.off →
      objLoop inp guard rec g b ≠ .nofuel := by
  fun_induction objLoop inp guard rec g b
  case case1 => intro _ _ h1 h2; omega
  case case5 g b _ name b2 hs b3 _ _ _ v b5 hr b6 hc ih =>
    intro hb hnf _ hg h
    obtain ⟨s1, -, s3⟩ := parseString_skipWs (b := ⟨b.off + 1, b.depth⟩) hs
    obtain ⟨h1, h2, h3, -⟩ := hrec.skipWs (b := ⟨b3.off + 1, b3.depth⟩) (s3 ▸ hb) hr
    have h6 : b6.depth = b.depth := h3.trans s3
    exact ih (h6 ▸ hb) (h6 ▸ hnf) h2
      (by have : b.off + 1 + 2 ≤ b3.off := s1; have : b3.off + 1 < b6.off := h1; omega) (Res.map_nofuel.mp h)
  case case11 g b _ name b2 hs b3 _ _ _ hr =>
    intro _ hnf _ _ _
    exact hnf _ ((skipWs_depth inp ⟨b3.off + 1, b3.depth⟩).trans (parseString_skipWs (b := ⟨b.off + 1, b.depth⟩) hs).2.2) hr
  case case14 hs => intro _ _ _ _ _; exact parseString_not_nofuel _ _ hs
  all_goals (intros; nofun)

theorem objLoop_fuelLe (hle : FuelLe rec rec') :
    ∀ (g : Nat) (b : PB),
      objLoop inp guard rec' g b = objLoop inp guard rec g b ∨ objLoop inp guard rec g b = .nofuel := by
  intro g
  induction g with
  | zero => exact fun b => Or.inr rfl
  | succ g ih =>
    intro b
    rw [objLoop.eq_2, objLoop.eq_2 inp guard rec]
    dsimp only
    split
    · exact Or.inl rfl
    · split
      · rename_i name b2 _
        split
        · exact Or.inl rfl
        · split
          · exact Or.inl rfl
          · rcases hle (skipWs inp ⟨(skipWs inp b2).off + 1, (skipWs inp b2).depth⟩) with h | h <;> rw [h]
            · split
              · split
                · split
                  · rcases ih (skipWs inp _) with h2 | h2 <;> rw [h2]
                    · exact Or.inl rfl
                    · exact Or.inr rfl
                  · exact Or.inl rfl
                · exact Or.inl rfl
              all_goals exact Or.inl rfl
            · exact Or.inr rfl
      all_goals exact Or.inl rfl

theorem parseObject_oob (hrec : NoOob rec) {b : PB} {i : Nat} :
    parseObject inp guard rec b = .oob i → guard = false := by
  fun_cases parseObject inp guard rec b
  case case8 hl => exact fun _ => objLoop_oob hrec _ _ _ hl
  all_goals nofun

theorem parseObject_ok (hrec : OkSpec inp rec) {b : PB} {t : Tree} {b' : PB} :
    parseObject inp guard rec b = .ok t b' → b.off < b'.off ∧ b'.off ≤ inp.length ∧ b'.depth = b.depth ∧
      b.depth + t.depth ≤ nestingLimit ∧ t.StrOk := by
  fun_cases parseObject inp guard rec b
  case case5 hlim b1 _ _ _ bw hc =>
    rintro ⟨⟩
    have hs : b.off + 1 ≤ bw.off := skipWs_off_ge inp { off := b.off + 1, depth := b.depth + 1 }
    have hd : bw.depth = b.depth + 1 := skipWs_depth inp _
    have hlt := (List.getElem?_eq_some_iff.mp hc).1
    rw [Tree.depth_obj, Tree.depthMembers_nil]
    exact ⟨Nat.lt_succ_of_le (Nat.le_trans (Nat.le_succ _) hs), hlt, by rw [hd]; rfl, Nat.lt_of_not_ge hlim, trivial⟩
  case case6 hlim b1 _ _ _ bw _ _ _ ms b'' hl =>
    rintro ⟨⟩
    have hs : b.off + 1 ≤ bw.off := skipWs_off_ge inp { off := b.off + 1, depth := b.depth + 1 }
    have hd : bw.depth = b.depth + 1 := skipWs_depth inp _
    obtain ⟨l1, l2, l3, -, l5, l6⟩ := objLoop_ok hrec _ _ (by rw [hd]; exact Nat.lt_of_not_ge hlim) _ _ hl
    dsimp only at l1 l3 l5
    rw [Tree.depth_obj]
    exact ⟨by dsimp only; omega, l2, by rw [l3, hd]; rfl, by omega, l6⟩
  all_goals nofun

theorem parseObject_not_nofuel (hrec : OkSpec inp rec) {b : PB}
    (hnf : b.depth < nestingLimit → NoNofuelAt (b.depth + 1) rec) : parseObject inp guard rec b ≠ .nofuel := by
  fun_cases parseObject inp guard rec b
  case case9 hlim b1 _ _ _ bw _ hc _ hl =>
    have hd : bw.depth = b.depth + 1 := skipWs_depth inp _
    have hlt := (List.getElem?_eq_some_iff.mp hc).1
    exact absurd hl (objLoop_not_nofuel hrec _ _ (by rw [hd]; exact Nat.lt_of_not_ge hlim)
      (hd ▸ hnf (Nat.lt_of_not_ge hlim)) (by dsimp only; omega) (by dsimp only; omega))
  all_goals nofun

theorem parseObject_fuelLe (hle : FuelLe rec rec') (b : PB) :
    parseObject inp guard rec' b = parseObject inp guard rec b ∨ parseObject inp guard rec b = .nofuel := by
  unfold parseObject
  split
  · exact Or.inl rfl
  · dsimp only
    split
    · exact Or.inl rfl
    · split
      · exact Or.inl rfl
      · split
        · exact Or.inl rfl
        · split
          · exact Or.inl rfl
          · rcases objLoop_fuelLe (inp := inp) (guard := guard) hle (inp.length + 1) _ with h | h <;> rw [h]
            · exact Or.inl rfl
            · exact Or.inr rfl

/-! ### parse_value -/

theorem parseValue_ok (inp) (guard) : ∀ f, OkSpec inp (parseValue inp guard f) := by
  intro f
  induction f with
  | zero => intro b t b' _ h; cases h
  | succ f ih =>
    intro b t b' hb h
    rw [parseValue.eq_2] at h
    split at h
    · rename_i r hr
      subst h
      obtain ⟨h1, h2, h3, h4, h5⟩ := parseScalar_ok hr
      exact ⟨h1, h2, h3, h4 ▸ hb, h5⟩
    · split at h
      · split at h
        · exact parseArray_ok ih h
        · exact parseObject_ok ih h
      · cases h

theorem parseValue_noOob (inp) : ∀ f, NoOob (parseValue inp true f) := by
  intro f
  induction f with
  | zero => intro b i h; cases h
  | succ f ih =>
    intro b i h
    rw [parseValue.eq_2] at h
    split at h
    · rename_i r hr
      subst h
      exact parseScalar_not_oob _ _ _ hr
    · split at h
      · rename_i c hc
        split at h
        · exact parseArray_not_oob ih (List.getElem?_eq_some_iff.mp hc).1 _ h
        · exact Bool.noConfusion (parseObject_oob ih h)
      · cases h

theorem parseValue_not_nofuel (inp) (guard) :
    ∀ f d, nestingLimit < f + d → d ≤ nestingLimit → NoNofuelAt d (parseValue inp guard f) := by
  intro f
  induction f with
  | zero => intro d h1 h2; omega
  | succ f ih =>
    intro d h1 h2 b hb h
    have hnf : b.depth < nestingLimit → NoNofuelAt (b.depth + 1) (parseValue inp guard f) :=
      fun hlt => ih (b.depth + 1) (by omega) hlt
    rw [parseValue.eq_2] at h
    split at h
    · rename_i r hr
      subst h
      exact parseScalar_not_nofuel _ _ hr
    · split at h
      · split at h
        · exact parseArray_not_nofuel (parseValue_ok inp guard f) hnf h
        · exact parseObject_not_nofuel (parseValue_ok inp guard f) hnf h
      · cases h

theorem parseValue_fuelLe (inp) (guard) :
    ∀ f, FuelLe (parseValue inp guard f) (parseValue inp guard (f + 1)) := by
  intro f
  induction f with
  | zero => exact fun b => Or.inr rfl
  | succ f ih =>
    intro b
    rw [parseValue.eq_2, parseValue.eq_2 inp guard _ f]
    split
    · exact Or.inl rfl
    · split
      · split
        · exact parseArray_fuelLe ih b
        · exact parseObject_fuelLe ih b
      · exact Or.inl rfl

/-! ### cJSON_ParseWithLengthOpts -/

theorem skipBom_ok {b b1 : PB} {u : Unit} : skipBom inp b = .ok u b1 → b1.depth = b.depth := by
  fun_cases skipBom inp b
  case case3 => nofun
  all_goals (rintro ⟨⟩; rfl)

theorem skipBom_ok_or_oob (inp) (b : PB) : (∃ b1, skipBom inp b = .ok () b1) ∨ ∃ i, skipBom inp b = .oob i := by
  fun_cases skipBom inp b
  case case3 i _ => exact Or.inr ⟨i, rfl⟩
  all_goals exact Or.inl ⟨_, rfl⟩

theorem parseRes_not_oob (inp) (fuel i : Nat) : parseRes inp true fuel ≠ .oob i := by
  fun_cases parseRes inp true fuel
  case case2 => exact parseValue_noOob inp fuel _ _
  case case4 hj => exact absurd hj (skipBom_not_oob _ _ _)
  all_goals nofun

theorem parseRes_not_nofuel (inp) (guard) (fuel : Nat) (hf : nestingLimit < fuel) :
    parseRes inp guard fuel ≠ .nofuel := by
  fun_cases parseRes inp guard fuel
  case case2 hb =>
    exact parseValue_not_nofuel inp guard fuel 0 hf (Nat.zero_le _) _ ((skipWs_depth ..).trans (skipBom_ok hb))
  case case5 hb => rcases skipBom_ok_or_oob inp ⟨0, 0⟩ with ⟨_, h⟩ | ⟨_, h⟩ <;> rw [h] at hb <;> cases hb
  all_goals nofun

theorem parseRes_fuelLe (inp) (guard) (f : Nat) :
    parseRes inp guard (f + 1) = parseRes inp guard f ∨ parseRes inp guard f = .nofuel := by
  unfold parseRes
  split
  · exact Or.inl rfl
  · split
    · exact parseValue_fuelLe inp guard f _
    all_goals exact Or.inl rfl

/-- more fuel than needed changes nothing -/
theorem parseRes_fuel_indep (inp) (guard) (fuel : Nat) (hf : nestingLimit < fuel) :
    parseRes inp guard fuel = parseRes inp guard (nestingLimit + 1) := by
  obtain ⟨k, rfl⟩ : ∃ k, fuel = nestingLimit + 1 + k := ⟨fuel - (nestingLimit + 1), by omega⟩
  induction k with
  | zero => rfl
  | succ k ih =>
    rw [← ih (by omega)]
    exact (parseRes_fuelLe inp guard (nestingLimit + 1 + k)).resolve_right
      (parseRes_not_nofuel inp guard (nestingLimit + 1 + k) (by omega))

theorem parseRes_ok {fuel : Nat} {t : Tree} {b : PB} :
    parseRes inp guard fuel = .ok t b → b.off ≤ inp.length ∧ t.depth ≤ nestingLimit ∧ b.depth = 0 ∧ t.StrOk := by
  fun_cases parseRes inp guard fuel
  case case2 u b1 hb =>
    intro h
    have hd : (skipWs inp b1).depth = 0 := (skipWs_depth ..).trans (skipBom_ok hb)
    obtain ⟨-, h2, h3, h4, h5⟩ := parseValue_ok inp guard fuel _ _ _ (hd ▸ Nat.zero_le _) h
    rw [hd] at h3 h4
    exact ⟨h2, (Nat.zero_add t.depth).symm ▸ h4, h3, h5⟩
  all_goals nofun

/-! ### what the caller sees -/

theorem parseWith_ok {g : Bool} {fuel : Nat} {t : Tree} {e : Nat} :
    parseWith inp g fuel = .ok t e → ∃ b, parseRes inp g fuel = .ok t b ∧ b.off = e := by
  fun_cases parseWith inp g fuel
  case case1 b hb => rintro ⟨⟩; exact ⟨b, hb, rfl⟩
  all_goals nofun

theorem parseWith_fail {g : Bool} {fuel p : Nat} :
    parseWith inp g fuel = .fail p → ∃ b, parseRes inp g fuel = .fail b ∧ errPos inp b.off = p := by
  fun_cases parseWith inp g fuel
  case case2 b hb => rintro ⟨⟩; exact ⟨b, hb, rfl⟩
  all_goals nofun

theorem errPos_lt (inp : Bytes) (off : Nat) : errPos inp off < inp.length ∨ (inp = [] ∧ errPos inp off = 0) := by
  fun_cases errPos inp off
  case case1 h => exact Or.inl h
  case case2 h => exact Or.inl (Nat.sub_lt h Nat.one_pos)
  case case3 h => exact Or.inr ⟨List.eq_nil_of_length_eq_zero (Nat.eq_zero_of_not_pos h), rfl⟩

theorem parseWith_oob {g : Bool} {fuel i : Nat} :
    parseWith inp g fuel = .oob i → parseRes inp g fuel = .oob i := by
  fun_cases parseWith inp g fuel
  case case3 hb => rintro ⟨⟩; exact hb
  all_goals nofun

theorem parseWith_nofuel {g : Bool} {fuel : Nat} :
    parseWith inp g fuel = .nofuel → parseRes inp g fuel = .nofuel := by
  fun_cases parseWith inp g fuel
  case case4 hb => exact fun _ => hb
  all_goals nofun

end Cjet.Cjson
