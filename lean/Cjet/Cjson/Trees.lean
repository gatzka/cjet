/-
  Cjet.Cjson.Trees — what `Printable` amounts to for a tree whose strings are C strings (`Tree.StrOk`, as every
  parsed tree: `parseRes_ok`); trees without numbers.
-/
import Cjet.Cjson.Bounds

namespace Cjet.Cjson

open Cjet.Generated.Cjson (nestingLimit numberBufSize objCommaGuard)

mutual
theorem Tree.mapNum_id (num : Bytes → Bytes) : ∀ t : Tree, t.hasNum = false → t.mapNum num = t
  | .null, _ | .fls, _ | .tru, _ | .str _, _ => rfl
  | .num _, h => by simp [Tree.hasNum] at h
  | .arr items, h => by
    simp only [Tree.hasNum] at h
    simp only [Tree.mapNum, Tree.mapNumList_id num items h]
  | .obj ms, h => by
    simp only [Tree.hasNum] at h
    simp only [Tree.mapNum, Tree.mapNumMembers_id num ms h]
theorem Tree.mapNumList_id (num : Bytes → Bytes) : ∀ l : List Tree, Tree.hasNumList l = false → Tree.mapNumList num l = l
  | [], _ => rfl
  | t :: ts, h => by
    simp only [Tree.hasNumList, Bool.or_eq_false_iff] at h
    simp only [Tree.mapNumList, Tree.mapNum_id num t h.1, Tree.mapNumList_id num ts h.2]
theorem Tree.mapNumMembers_id (num : Bytes → Bytes) :
    ∀ l : List (Bytes × Tree), Tree.hasNumMembers l = false → Tree.mapNumMembers num l = l
  | [], _ => rfl
  | (k, v) :: ms, h => by
    simp only [Tree.hasNumMembers, Bool.or_eq_false_iff] at h
    simp only [Tree.mapNumMembers, Tree.mapNum_id num v h.1, Tree.mapNumMembers_id num ms h.2]
end

mutual
theorem Tree.allNum_of_noNum (P : Bytes → Prop) : ∀ t : Tree, t.hasNum = false → t.AllNum P
  | .null, _ | .fls, _ | .tru, _ | .str _, _ => by simp [Tree.AllNum]
  | .num _, h => by simp [Tree.hasNum] at h
  | .arr items, h => by
    simp only [Tree.hasNum] at h
    simp only [Tree.AllNum]; exact Tree.allNumList_of_noNum P items h
  | .obj ms, h => by
    simp only [Tree.hasNum] at h
    simp only [Tree.AllNum]; exact Tree.allNumMembers_of_noNum P ms h
theorem Tree.allNumList_of_noNum (P : Bytes → Prop) : ∀ l : List Tree, Tree.hasNumList l = false → Tree.AllNumList P l
  | [], _ => by simp [Tree.AllNumList]
  | t :: ts, h => by
    simp only [Tree.hasNumList, Bool.or_eq_false_iff] at h
    simp only [Tree.AllNumList]
    exact ⟨Tree.allNum_of_noNum P t h.1, Tree.allNumList_of_noNum P ts h.2⟩
theorem Tree.allNumMembers_of_noNum (P : Bytes → Prop) :
    ∀ l : List (Bytes × Tree), Tree.hasNumMembers l = false → Tree.AllNumMembers P l
  | [], _ => by simp [Tree.AllNumMembers]
  | (k, v) :: ms, h => by
    simp only [Tree.hasNumMembers, Bool.or_eq_false_iff] at h
    simp only [Tree.AllNumMembers]
    exact ⟨Tree.allNum_of_noNum P v h.1, Tree.allNumMembers_of_noNum P ms h.2⟩
end

mutual
/-- `Printable` = all strings are C strings and all numbers print as complete number tokens -/
theorem Tree.printable_of (num : Bytes → Bytes) :
    ∀ t : Tree, t.StrOk → t.AllNum (fun tok => NumTok (num tok)) → t.Printable num
  | .null, _, _ | .fls, _, _ | .tru, _, _ => by simp [Tree.Printable]
  | .num _, _, h => by simpa [Tree.Printable, Tree.AllNum] using h
  | .str _, h, _ => by simpa [Tree.Printable, Tree.StrOk] using h
  | .arr items, h1, h2 => by
    simp only [Tree.StrOk] at h1
    simp only [Tree.AllNum] at h2
    simp only [Tree.Printable]; exact Tree.printableList_of num items h1 h2
  | .obj ms, h1, h2 => by
    simp only [Tree.StrOk] at h1
    simp only [Tree.AllNum] at h2
    simp only [Tree.Printable]; exact Tree.printableMembers_of num ms h1 h2
theorem Tree.printableList_of (num : Bytes → Bytes) :
    ∀ l : List Tree, Tree.StrOkList l → Tree.AllNumList (fun tok => NumTok (num tok)) l → Tree.PrintableList num l
  | [], _, _ => by simp [Tree.PrintableList]
  | t :: ts, h1, h2 => by
    simp only [Tree.StrOkList] at h1
    simp only [Tree.AllNumList] at h2
    simp only [Tree.PrintableList]
    exact ⟨Tree.printable_of num t h1.1 h2.1, Tree.printableList_of num ts h1.2 h2.2⟩
theorem Tree.printableMembers_of (num : Bytes → Bytes) :
    ∀ l : List (Bytes × Tree), Tree.StrOkMembers l → Tree.AllNumMembers (fun tok => NumTok (num tok)) l →
      Tree.PrintableMembers num l
  | [], _, _ => by simp [Tree.PrintableMembers]
  | (k, v) :: ms, h1, h2 => by
    simp only [Tree.StrOkMembers] at h1
    simp only [Tree.AllNumMembers] at h2
    simp only [Tree.PrintableMembers]
    exact ⟨h1.1, Tree.printable_of num v h1.2.1 h2.1, Tree.printableMembers_of num ms h1.2.2 h2.2⟩
end

end Cjet.Cjson
