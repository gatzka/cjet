/-
  Cjet.Cjson.Writes — parse_string never stores more bytes than its first pass allocated.

  The first pass counts "units": a backslash together with the byte behind it is one unit, every other byte is
  one unit; `allocation_length = 1 + units` (the opening quote is counted too) and the allocation has one byte
  more.  The second pass reads the same bytes but can see the escape structure differently: after `\uXXXX`
  whose four "digits" contain a backslash it continues in the middle of a unit of the first pass.  The
  invariant that survives this: bytes stored so far ≤ units started so far, in both alignments (`Fits`,
  `unesc_writes`).
-/
import Cjet.Cjson.Bounds

namespace Cjet.Cjson

/-- units of the first pass of parse_string in a stretch of bytes -/
def units : Bytes → Nat
  | [] => 0
  | c :: r =>
    if c = 0x5C then
      match r with
      | [] => 1
      | _ :: r2 => units r2 + 1
    else units r + 1

theorem units_nil : units [] = 0 := by simp [units]
theorem units_cons_ne {c : UInt8} (r : Bytes) (h : c ≠ 0x5C) : units (c :: r) = units r + 1 := by
  rw [units.eq_def]; dsimp only; rw [if_neg h]
theorem units_bs_nil : units [0x5C] = 1 := by rw [units.eq_def]; simp
theorem units_bs_cons (x : UInt8) (r : Bytes) : units (0x5C :: x :: r) = units r + 1 := by
  rw [units.eq_def]; simp

theorem units_pos {l : Bytes} (h : l ≠ []) : 1 ≤ units l := by
  fun_cases units l
  case case1 => exact absurd rfl h
  all_goals omega

/-- what the first pass computes: on the bytes in front of the closing quote, units = length - skipped_bytes -/
theorem scanEnd_units {body : Bytes} {n s : Nat} (h : scanEnd body = some (n, s)) : units (body.take n) + s = n := by
  fun_induction scanEnd body generalizing n s
  case case2 => cases h; rfl
  case case4 he _ ih =>
    cases h
    have := ih he
    simp only [List.take_succ_cons, units_bs_cons]
    omega
  case case6 hc _ _ he ih =>
    cases h
    have := ih he
    simp only [List.take_succ_cons, units_cons_ne _ hc]
    omega
  all_goals cases h

/-- number of bytes the second pass has stored when it stops (also when it stops with a failure) -/
def SRes.wlen : SRes → Nat
  | .ok out => out.length
  | .fail out _ => out.length
  | .oob _ => 0
  | .nofuel => 0

theorem SRes.wlen_push (pre : Bytes) (r : SRes) : (r.push pre).wlen ≤ pre.length + r.wlen := by
  cases r <;> simp [SRes.push, SRes.wlen]

theorem unesc_zero_wlen (f p : Nat) (rest : Bytes) : (unesc f p 0 rest).wlen = 0 := by
  cases f with
  | zero => rfl
  | succ f' => rw [unesc_succ, if_pos rfl]; rfl

/-- at most one byte stored per unit of `l`, whether the second pass stands at a unit boundary of the first pass
    (`units l`) or behind a byte that a backslash swallowed in the first pass' view (`1 + units l.tail`) -/
def Fits (w : Nat) (l : Bytes) : Prop := w ≤ units l ∧ w ≤ 1 + units l.tail

theorem Fits.zero (l : Bytes) : Fits 0 l := ⟨Nat.zero_le _, Nat.zero_le _⟩

theorem Fits.mono {w w' : Nat} {l : Bytes} (hw : w' ≤ w) (h : Fits w l) : Fits w' l :=
  ⟨Nat.le_trans hw h.1, Nat.le_trans hw h.2⟩

theorem Fits.cons_ne {w : Nat} {c : UInt8} {r : Bytes} (hc : c ≠ 0x5C) (h : Fits w r) : Fits (1 + w) (c :: r) := by
  refine ⟨?_, ?_⟩
  · rw [units_cons_ne _ hc]; have := h.1; omega
  · have := h.1; exact Nat.add_le_add_left this 1

/-- the first pass spends at least one unit on every two of the first `k` bytes; the `+ 1` is the half unit lost when
    byte `k - 1` is a backslash that swallows byte `k` -/
theorem units_drop (l : Bytes) : ∀ {k w}, k ≤ l.length → Fits w (l.drop k) → k + 2 * w ≤ 2 * units l + 1 := by
  fun_induction units l
  case case1 => rintro k w hk ⟨h, -⟩; cases Nat.le_zero.mp hk; rw [List.drop_nil, units_nil] at h; omega
  case case2 =>
    intro k w hk h
    match k, hk with
    | 0, _ => have := h.1; rw [List.drop_zero, units_bs_nil] at this; omega
    | 1, _ => have := h.1; rw [List.drop_succ_cons, List.drop_zero, units_nil] at this; omega
  case case3 x r2 ih =>
    intro k w hk h
    match k, hk with
    | 0, _ => have := h.1; rw [List.drop_zero, units_bs_cons] at this; omega
    | 1, _ => have := h.2; rw [List.drop_succ_cons, List.drop_zero, List.tail_cons] at this; omega
    | k + 2, hk => have := ih (Nat.le_of_succ_le_succ (Nat.le_of_succ_le_succ hk)) h; omega
  case case4 c r hc ih =>
    intro k w hk h
    match k, hk with
    | 0, _ => have := h.1; rw [List.drop_zero, units_cons_ne _ hc] at this; omega
    | k + 1, hk => have := ih (Nat.le_of_succ_le_succ hk) h; omega

theorem Fits.escape {w m k : Nat} {l : Bytes} (hk : k ≤ l.length) (h2 : 2 ≤ k) (hm : 2 * m ≤ k)
    (h : Fits w (l.drop k)) : Fits (m + w) l := by
  refine ⟨by have := units_drop l hk h; omega, ?_⟩
  -- the other alignment of `l` is the first alignment of its tail, cut one byte earlier
  obtain ⟨j, rfl⟩ : ∃ j, k = j + 1 := ⟨k - 1, by omega⟩
  have := units_drop l.tail (k := j) (w := w) (by rw [List.length_tail]; omega) (by rwa [List.drop_tail])
  omega

theorem unesc_writes : ∀ (fuel p n : Nat) (rest : Bytes), (n = 0 ∨ n < rest.length) →
    Fits (unesc fuel p n rest).wlen (rest.take n) := by
  intro fuel
  induction fuel with
  | zero => intro p n rest _; exact Fits.zero _
  | succ f ih =>
    intro p n rest hn
    by_cases hn0 : n = 0
    · rw [hn0, unesc_zero_wlen]; exact Fits.zero _
    · have hlt : n < rest.length := by omega
      rcases unesc_cases f p hn0 hlt with h | ⟨c, r, rfl, hc, h⟩ | ⟨k, pre, hk, hpre, hkn, h⟩
      · rw [h]; exact Fits.zero _
      · obtain ⟨m, rfl⟩ : ∃ m, n = m + 1 := ⟨n - 1, by omega⟩
        rw [h, List.take_succ_cons]
        exact ((ih (p + 1) m r (by simp only [List.length_cons] at hlt; omega)).cons_ne hc).mono (SRes.wlen_push _ _)
      · have hp := SRes.wlen_push pre (unesc f (p + k) (n - k) (rest.drop k))
        rw [h]
        by_cases hle : k ≤ n
        · exact (Fits.escape (l := rest.take n) (by rw [List.length_take]; omega) hk hpre
            (by rw [List.drop_take]; exact ih (p + k) (n - k) (rest.drop k) (by rw [List.length_drop]; omega))).mono hp
        · -- a two-byte escape whose second byte is the closing quote of the first pass
          have h0 : n - k = 0 := by omega
          rw [h0] at hp ⊢
          rw [unesc_zero_wlen] at hp
          have := units_pos (l := rest.take n) (List.ne_nil_of_length_pos (by rw [List.length_take]; omega))
          exact ⟨by omega, by omega⟩

/-- parse_string: the bytes the second pass stores, plus the terminating NUL, fit `allocation_length`
    (the allocation has one byte more than that). -/
theorem unesc_fits_alloc {body : Bytes} {n s : Nat} (h : scanEnd body = some (n, s)) (p : Nat) :
    (unesc (n + 1) p n body).wlen + 1 ≤ n + 1 - s := by
  have h1 := scanEnd_some h
  have h2 := scanEnd_units h
  have h3 := (unesc_writes (n + 1) p n body (Or.inr h1.1)).1
  omega

/-- what a successful parse_string returns: the bytes stored plus the terminating NUL fit `allocation_length` -/
theorem parseString_written_le {inp : Bytes} {b : PB} {s : StrOut} {b' : PB} : parseString inp b = .ok s b' →
    s.written.length + 1 ≤ s.alloc := by
  fun_cases parseString inp b
  case case4 hs _ hu =>
    rintro ⟨⟩
    have := unesc_fits_alloc hs (b.off + 1)
    rwa [hu] at this
  all_goals nofun

end Cjet.Cjson
