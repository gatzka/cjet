/-
  Cjet.Cjson.Bounds — index arithmetic of the parser model below the recursion of parse_value (literals, white
  space, parse_string, parse_number, the scalar cases): every unguarded read is inside the buffer, offsets only
  move forward, the depth counter is restored, the fuels suffice; the strings returned are C strings.
-/
import Cjet.Cjson.Utf16

namespace Cjet.Cjson

open Cjet.Generated.Cjson (nestingLimit numberBufSize objCommaGuard)

/-! ### C strings -/

mutual
def Tree.StrOk : Tree → Prop
  | .str s => nulFree s
  | .arr items => Tree.StrOkList items
  | .obj ms => Tree.StrOkMembers ms
  | _ => True
def Tree.StrOkList : List Tree → Prop
  | [] => True
  | t :: ts => t.StrOk ∧ Tree.StrOkList ts
def Tree.StrOkMembers : List (Bytes × Tree) → Prop
  | [] => True
  | (k, v) :: ms => nulFree k ∧ v.StrOk ∧ Tree.StrOkMembers ms
end

theorem cstr_nulFree (s : Bytes) : nulFree (cstr s) := by
  fun_induction cstr s
  case case3 c r hc ih => exact List.forall_mem_cons.mpr ⟨hc, ih⟩
  all_goals nofun

theorem cstr_of_nulFree (s : Bytes) (hs : nulFree s) : cstr s = s := by
  fun_induction cstr s
  case case1 => rfl
  case case2 r => exact absurd rfl (hs 0 List.mem_cons_self)
  case case3 c r hc ih => rw [ih fun x hx => hs x (List.mem_cons_of_mem _ hx)]

variable {inp : Bytes}

/-! ### literals -/

theorem cmpLit_oob {o : Nat} {rest lit : Bytes} {i : Nat} : cmpLit o rest lit = .oob i → rest.length < lit.length := by
  fun_induction cmpLit o rest lit
  case case2 => exact fun _ => Nat.zero_lt_succ _
  case case3 ih => exact fun h => Nat.succ_lt_succ (ih h)
  all_goals nofun

theorem isLit_not_oob (inp) (b : PB) (lit : Bytes) (i : Nat) : isLit inp b lit ≠ .oob i := by
  fun_cases isLit inp b lit
  case case1 hl =>
    intro h
    have := cmpLit_oob h
    rw [List.length_drop] at this
    omega
  case case2 => nofun

/-! ### white space -/

theorem wsCount_le (l : Bytes) : wsCount l ≤ l.length := by
  fun_induction wsCount l <;> simp only [List.length_cons, List.length_nil] <;> omega

@[simp] theorem skipWs_depth (inp) (b : PB) : (skipWs inp b).depth = b.depth := by
  unfold skipWs
  split <;> rfl

theorem skipWs_off_ge (inp) (b : PB) : b.off ≤ (skipWs inp b).off := by
  unfold skipWs
  split
  · dsimp only
    split <;> omega
  · exact Nat.le_refl _

theorem skipWs_off_lt {b : PB} (h : b.off < inp.length) : (skipWs inp b).off < inp.length := by
  unfold skipWs
  rw [if_pos h]
  dsimp only
  have := wsCount_le (inp.drop b.off)
  simp only [List.length_drop] at this
  split <;> omega

theorem skipWs_of_ge {b : PB} (h : inp.length ≤ b.off) : skipWs inp b = b := by
  unfold skipWs
  rw [if_neg (by omega)]

theorem skipWs_off_le {inp : Bytes} {b : PB} (h : b.off ≤ inp.length) : (skipWs inp b).off ≤ inp.length := by
  by_cases h' : b.off < inp.length
  · exact Nat.le_of_lt (skipWs_off_lt h')
  · rw [skipWs_of_ge (by omega)]; exact h

theorem skipBom_not_oob (inp) (b : PB) (i : Nat) : skipBom inp b ≠ .oob i := by
  fun_cases skipBom inp b
  case case3 hlt _ hc =>
    have := cmpLit_oob hc
    rw [List.length_drop] at this
    exact absurd this (by simp only [bom, List.length_cons, List.length_nil]; omega)
  all_goals nofun

/-! ### parse_string -/

theorem SRes.push_oob {pre : Bytes} {r : SRes} {i : Nat} : r.push pre = .oob i ↔ r = .oob i := by
  cases r <;> simp [SRes.push]

theorem SRes.push_nofuel {pre : Bytes} {r : SRes} : r.push pre = .nofuel ↔ r = .nofuel := by
  cases r <;> simp [SRes.push]

theorem unesc_succ (f p n : Nat) (rest : Bytes) :
    unesc (f + 1) p n rest =
      if n = 0 then .ok []
      else
        match rest with
        | [] => .oob p
        | c :: r1 =>
          if c ≠ 0x5C then (unesc f (p + 1) (n - 1) r1).push [c]
          else
            match r1 with
            | [] => .oob (p + 1)
            | c1 :: r2 =>
              match simpleEsc c1 with
              | some x => (unesc f (p + 2) (n - 2) r2).push [x]
              | none =>
                if c1 = 0x75 then
                  match utf16 p n rest with
                  | .ok bytes len => (unesc f (p + len) (n - len) (rest.drop len)).push bytes
                  | .fail => .fail [] p
                  | .oob i => .oob i
                else .fail [] p := by
  rw [unesc.eq_def]
  rfl

/-- `k = 2` without `k ≤ n`: a two-byte escape may straddle the closing quote (offset `p + n`) -/
theorem unesc_cases (f p : Nat) {n : Nat} {rest : Bytes} (hn0 : n ≠ 0) (hlt : n < rest.length) :
    unesc (f + 1) p n rest = .fail [] p ∨
      (∃ c r, rest = c :: r ∧ c ≠ 0x5C ∧ unesc (f + 1) p n rest = (unesc f (p + 1) (n - 1) r).push [c]) ∨
      ∃ k pre, 2 ≤ k ∧ 2 * pre.length ≤ k ∧ (k ≤ n ∨ k = 2) ∧
        unesc (f + 1) p n rest = (unesc f (p + k) (n - k) (rest.drop k)).push pre := by
  rw [unesc_succ, if_neg hn0]
  match rest, hlt with
  | [c], h => simp only [List.length_cons, List.length_nil] at h; omega
  | c :: c1 :: r2, _ =>
    dsimp only
    split
    · exact Or.inr (Or.inl ⟨c, _, rfl, ‹_›, rfl⟩)
    · split
      · rename_i x _
        exact Or.inr (Or.inr ⟨2, [x], Nat.le_refl _, Nat.le_refl _, Or.inr rfl, rfl⟩)
      · split
        · split
          · rename_i bytes len hu
            have := utf16_ok hu
            exact Or.inr (Or.inr ⟨len, bytes, by omega, by omega, Or.inl this.2.1, rfl⟩)
          · exact Or.inl rfl
          · rename_i hu
            have := utf16_oob hu
            omega
        · exact Or.inl rfl

theorem unesc_step (f p : Nat) {n : Nat} {rest : Bytes} (hn0 : n ≠ 0) (hlt : n < rest.length) :
    unesc (f + 1) p n rest = .fail [] p ∨
      ∃ k pre, 0 < k ∧ unesc (f + 1) p n rest = (unesc f (p + k) (n - k) (rest.drop k)).push pre := by
  rcases unesc_cases f p hn0 hlt with h | ⟨c, r, rfl, -, h⟩ | ⟨k, pre, hk, -, -, h⟩
  · exact Or.inl h
  · exact Or.inr ⟨1, [c], Nat.one_pos, h⟩
  · exact Or.inr ⟨k, pre, Nat.lt_of_lt_of_le Nat.two_pos hk, h⟩

/-- the second pass stays inside the buffer as long as the closing quote (offset `p + n`) is inside -/
theorem unesc_not_oob : ∀ (fuel p n : Nat) (rest : Bytes) (i : Nat),
    (n = 0 ∨ n < rest.length) → unesc fuel p n rest ≠ .oob i := by
  intro fuel
  induction fuel with
  | zero => intro p n rest i _ h; simp [unesc] at h
  | succ f ih =>
    intro p n rest i hn h
    by_cases hn0 : n = 0
    · rw [unesc_succ, if_pos hn0] at h; cases h
    · rcases unesc_step f p (rest := rest) hn0 (by omega) with hf | ⟨k, pre, hk, hs⟩
      · rw [hf] at h; cases h
      · rw [hs, SRes.push_oob] at h
        exact ih _ _ _ _ (by simp only [List.length_drop]; omega) h

/-- each round uses up one unit of fuel and at least one of the `n` bytes in front of the closing quote -/
theorem unesc_not_nofuel : ∀ (fuel p n : Nat) (rest : Bytes), n < fuel → n < rest.length →
    unesc fuel p n rest ≠ .nofuel := by
  intro fuel
  induction fuel with
  | zero => intro p n rest h; omega
  | succ f ih =>
    intro p n rest hf hn h
    by_cases hn0 : n = 0
    · rw [unesc_succ, if_pos hn0] at h; cases h
    · rcases unesc_step f p hn0 hn with hf | ⟨k, pre, hk, hs⟩
      · rw [hf] at h; cases h
      · rw [hs, SRes.push_nofuel] at h
        by_cases hkn : n - k = 0
        · rw [hkn] at h
          cases f with
          | zero => omega
          | succ f' => rw [unesc_succ, if_pos rfl] at h; cases h
        · exact ih _ _ _ (by omega) (by simp only [List.length_drop]; omega) h

/-- the first pass finds the closing quote inside the buffer, and skipped at most half of the bytes -/
theorem scanEnd_some {body : Bytes} {n s : Nat} (h : scanEnd body = some (n, s)) :
    n < body.length ∧ body[n]? = some 0x22 ∧ 2 * s ≤ n := by
  fun_induction scanEnd body generalizing n s
  case case2 => cases h; exact ⟨Nat.zero_lt_succ _, rfl, Nat.le_refl _⟩
  case case4 he _ ih =>
    cases h
    have := ih he
    exact ⟨by simp only [List.length_cons]; omega, this.2.1, by omega⟩
  case case6 he ih =>
    cases h
    have := ih he
    exact ⟨by simp only [List.length_cons]; omega, this.2.1, by omega⟩
  all_goals cases h

theorem parseString_oob {b : PB} {i : Nat} : parseString inp b = .oob i → inp.length ≤ b.off := by
  fun_cases parseString inp b
  case case1 hd =>
    intro _
    have := congrArg List.length hd
    simp only [List.length_drop, List.length_nil] at this
    omega
  case case6 hs _ hu => exact absurd hu (unesc_not_oob _ _ _ _ _ (Or.inr (scanEnd_some hs).1))
  all_goals nofun

theorem parseString_not_nofuel (inp) (b : PB) : parseString inp b ≠ .nofuel := by
  fun_cases parseString inp b
  case case7 hs hu => exact absurd hu (unesc_not_nofuel _ _ _ _ (Nat.lt_succ_self _) (scanEnd_some hs).1)
  all_goals nofun

/-- a successful parse_string leaves the offset behind the closing quote, inside the buffer -/
theorem parseString_ok {b : PB} {s : StrOut} {b' : PB} : parseString inp b = .ok s b' →
    b.off + 2 ≤ b'.off ∧ b'.off ≤ inp.length ∧ b'.depth = b.depth := by
  fun_cases parseString inp b
  case case4 hd _ n sk hs out _ =>
    rintro ⟨⟩
    have := (scanEnd_some hs).1
    have hl := congrArg List.length hd
    simp only [List.length_drop, List.length_cons] at hl
    exact ⟨by dsimp only; omega, by dsimp only; omega, rfl⟩
  all_goals nofun

/-! ### Res.map -/

theorem Res.map_oob {α β : Type} {f : α → β} {r : Res α} {i : Nat} : r.map f = .oob i ↔ r = .oob i := by
  cases r <;> simp [Res.map]

theorem Res.map_nofuel {α β : Type} {f : α → β} {r : Res α} : r.map f = .nofuel ↔ r = .nofuel := by
  cases r <;> simp [Res.map]

theorem Res.map_ok {α β : Type} {f : α → β} {r : Res α} {y : β} {b : PB} :
    r.map f = .ok y b ↔ ∃ x, r = .ok x b ∧ y = f x := by
  cases r with
  | ok a b' =>
    simp only [Res.map, Res.ok.injEq]
    exact ⟨fun ⟨h1, h2⟩ => ⟨a, ⟨rfl, h2⟩, h1.symm⟩, fun ⟨x, ⟨h1, h2⟩, h3⟩ => ⟨h1 ▸ h3.symm, h2⟩⟩
  | _ => simp [Res.map]

theorem Res.map_fail {α β : Type} {f : α → β} {r : Res α} {b : PB} : r.map f = .fail b ↔ r = .fail b := by
  cases r <;> simp [Res.map]

/-! ### parse_number -/

theorem digitsLen_le (l : Bytes) : digitsLen l ≤ l.length := by
  fun_induction digitsLen l <;> simp only [List.length_cons, List.length_nil] <;> omega

theorem signLen_le_one (l : Bytes) : signLen l ≤ 1 := by
  fun_cases signLen l <;> omega

theorem signLen_le (l : Bytes) : signLen l ≤ l.length := by
  fun_cases signLen l <;> simp only [List.length_cons, List.length_nil] <;> omega

theorem mantLen_le (l : Bytes) : (mantLen l).1 ≤ l.length := by
  unfold mantLen
  have h1 := digitsLen_le l
  dsimp only
  split
  · rename_i c r hd
    have hl := congrArg List.length hd
    simp only [List.length_drop, List.length_cons] at hl
    have := digitsLen_le r
    split <;> dsimp only <;> omega
  · exact h1

theorem expLen_le (l : Bytes) : expLen l ≤ l.length := by
  fun_cases expLen l
  case case3 c r _ k hk =>
    have h1 := digitsLen_le (r.drop (signLen r))
    have h2 := signLen_le r
    rw [List.length_drop] at h1
    rw [List.length_cons]
    omega
  all_goals exact Nat.zero_le _

theorem strtodLen_le (s : Bytes) : strtodLen s ≤ s.length := by
  unfold strtodLen
  have h1 := signLen_le s
  have h2 := mantLen_le (s.drop (signLen s))
  have h3 := expLen_le (s.drop (signLen s + (mantLen (s.drop (signLen s))).1))
  simp only [List.length_drop] at h2 h3
  dsimp only
  split <;> omega

theorem numScan_length_le (k : Nat) (l : Bytes) : (numScan k l).length ≤ l.length ∧ (numScan k l).length ≤ k := by
  fun_induction numScan k l <;> simp only [List.length_cons, List.length_nil] <;> omega

theorem parseNumber_ok {b : PB} {t : Tree} {b' : PB} (h : parseNumber inp b = .ok t b') :
    b.off < b'.off ∧ b'.off ≤ inp.length ∧ b'.depth = b.depth ∧ ∃ tok, t = .num tok := by
  unfold parseNumber at h
  dsimp only at h
  split at h
  · cases h
  · cases h
    have h1 := strtodLen_le (numScan (numberBufSize - 1) (inp.drop b.off))
    have h2 := (numScan_length_le (numberBufSize - 1) (inp.drop b.off)).1
    simp only [List.length_drop] at h2
    exact ⟨by dsimp only; omega, by dsimp only; omega, rfl, _, rfl⟩

theorem parseNumber_ok_or_fail (inp) (b : PB) :
    (∃ t b', parseNumber inp b = .ok t b') ∨ parseNumber inp b = .fail b := by
  unfold parseNumber
  dsimp only
  split
  · exact Or.inr rfl
  · exact Or.inl ⟨_, _, rfl⟩

/-! ### parse_value without recursion -/

theorem parseScalar_not_oob (inp) (b : PB) (i : Nat) : parseScalar inp b ≠ some (.oob i) := by
  fun_cases parseScalar inp b
  case case1 h => exact absurd h (isLit_not_oob _ _ _ _)
  case case3 h => exact absurd h (isLit_not_oob _ _ _ _)
  case case5 h => exact absurd h (isLit_not_oob _ _ _ _)
  case case8 hc =>
    intro h
    have := parseString_oob (Res.map_oob.mp (Option.some.inj h))
    have := (List.getElem?_eq_some_iff.mp hc).1
    omega
  case case9 =>
    intro h
    rcases parseNumber_ok_or_fail inp b with ⟨_, _, hn⟩ | hn <;> rw [hn] at h <;> cases h
  all_goals nofun

theorem parseScalar_not_nofuel (inp) (b : PB) : parseScalar inp b ≠ some .nofuel := by
  fun_cases parseScalar inp b
  case case8 => exact fun h => parseString_not_nofuel _ _ (Res.map_nofuel.mp (Option.some.inj h))
  case case9 =>
    intro h
    rcases parseNumber_ok_or_fail inp b with ⟨_, _, hn⟩ | hn <;> rw [hn] at h <;> cases h
  all_goals nofun

theorem isLit_eq_le {b : PB} {lit : Bytes} (h : isLit inp b lit = .eq) : b.off + lit.length ≤ inp.length := by
  unfold isLit at h
  split at h
  · assumption
  · cases h

theorem parseScalar_ok {b : PB} {t : Tree} {b' : PB} : parseScalar inp b = some (.ok t b') →
    b.off < b'.off ∧ b'.off ≤ inp.length ∧ b'.depth = b.depth ∧ t.depth = 0 ∧ t.StrOk := by
  fun_cases parseScalar inp b
  case case2 h => rintro ⟨⟩; exact ⟨Nat.lt_add_of_pos_right (by decide), isLit_eq_le h, rfl, rfl, trivial⟩
  case case4 h => rintro ⟨⟩; exact ⟨Nat.lt_add_of_pos_right (by decide), isLit_eq_le h, rfl, rfl, trivial⟩
  case case6 h => rintro ⟨⟩; exact ⟨Nat.lt_add_of_pos_right (by decide), isLit_eq_le h, rfl, rfl, trivial⟩
  case case8 =>
    intro h
    obtain ⟨s, hs, rfl⟩ := Res.map_ok.mp (Option.some.inj h)
    have := parseString_ok hs
    exact ⟨by omega, this.2.1, this.2.2, rfl, cstr_nulFree _⟩
  case case9 =>
    intro h
    obtain ⟨h1, h2, h3, tok, rfl⟩ := parseNumber_ok (Option.some.inj h)
    exact ⟨h1, h2, h3, rfl, trivial⟩
  all_goals nofun

end Cjet.Cjson
