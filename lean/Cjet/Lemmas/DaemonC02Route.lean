/-
  C02 helper lemmas: what a handler reached from `handleMethod` may do.  Every handler except set/call
  only sends fetch notifications, leaves the routing tables alone and returns a value built by one of
  the `…FromRequest` constructors from the request it was given (`HandlerOK`).  set/call may add a
  record made for its requester to the owner's table (`RouteStep`, which keeps `RoutesOwned`).
  `MethodSpec` is the specification both kinds meet; it is stated with the counts of routing records
  that still owe an answer (`pendingA`) and of response objects sent (`respCount`).
-/
import Cjet.Lemmas.DaemonC02Basic
import Cjet.Lemmas.DaemonC03SetCall

namespace Cjet.Daemon.C02

open Cjet Cjet.Json Cjet.Daemon

/-! ## handlers that only notify -/

structure HandlerOK (req : Json) (x : Ctx) (r : Ctx × Option Json) : Prop where
  frame : Frame IsNotif x r.1
  resp : FromReq req r.2

theorem Frame.mk' {P : Obs → Prop} {x : Ctx} (y : Ctx) (st : State) (sends : List Bool) (idx rf : Bool)
    (h : Frame P x y) (hr : routesMap st.peers = routesMap y.st.peers) :
    Frame P x { st := st, out := y.out, sends := sends, indexFull := idx, routeFull := rf } :=
  ⟨h.out, hr.trans h.routes⟩

theorem HandlerOK.refuse (req : Json) (x : Ctx) (code : Int) (tag : String) (reason : Bytes) :
    HandlerOK req x (x, errorFromRequest req code tag reason) := ⟨.refl x, .error ..⟩

/-! ## element.c -/

theorem removeElement_frame (x : Ctx) (e : Element) : Frame IsNotif x (removeElement x e) :=
  (notifyFetchers_frame x e "remove").trans (.setSt _ _ (routesMap_updatePeer ..))

theorem changeState_ok (x : Ctx) (p : Peer) (req : Json) : HandlerOK req x (changeState x p req) := by
  rcases changeState_cases x p req with ⟨_, _, h⟩ | ⟨_, _, _, _, _, _, _, _, _, h⟩ <;> rw [h]
  · exact .refuse ..
  · exact ⟨(Frame.setSt x _ (routesMap_updatePeer ..)).trans (notifyFetchers_frame ..), .success _⟩

theorem removeElementReq_ok (x : Ctx) (p : Peer) (req : Json) : HandlerOK req x (removeElementReq x p req) := by
  rcases removeElementReq_cases x p req with ⟨_, _, h⟩ | ⟨_, _, _, _, _, h⟩ <;> rw [h]
  · exact .refuse ..
  · exact ⟨removeElement_frame .., .success _⟩

theorem addElement_ok (cfg : Config) (x : Ctx) (p : Peer) (req : Json) :
    HandlerOK req x (addElement cfg x p req) := by
  rw [addElement_eq]
  split
  · next h =>
    obtain ⟨_, _, _, rfl⟩ := addChecks_error h
    exact .refuse ..
  · next e0 _ =>
    have hz := findFetchersForElement_frame cfg x e0
    rcases addCore_cases cfg x p req e0 with ⟨_, h⟩ | ⟨_, h⟩ <;> rw [h]
    -- element_table_put refused: the "add" notifications are followed by "remove" notifications
    · exact ⟨.mk' _ _ _ _ _ (hz.trans (notifyFetchers_frame ..)) rfl, .error ..⟩
    · exact ⟨.mk' _ _ _ _ _ hz ((routesMap_updatePeer ..).trans hz.routes.symm), .success _⟩

/-! ## fetch.c -/

theorem offerAllElements_frame (cfg : Config) (x : Ctx) (fp : Peer) (f : Fetch) :
    Frame IsNotif x (offerAllElements cfg x fp f) := by
  unfold offerAllElements
  refine foldl_inv (Frame IsNotif x) _ _ _ (.refl x) fun y _ _ hy => ?_
  refine foldl_inv (Frame IsNotif x) _ _ _ hy fun z _ _ hz => ?_
  exact hz.trans (.mk' _ _ _ _ _ (offerElement_frame ..) (routesMap_updatePeer ..))

theorem fetchReq_ok (cfg : Config) (x : Ctx) (p : Peer) (req : Json) :
    HandlerOK req x (fetchReq cfg x p req) := by
  rcases fetchReq_cases cfg x p req with ⟨_, _, _, h⟩ | ⟨_, _, _, _, _, _, h⟩ <;> rw [h]
  · exact .refuse ..
  · exact ⟨(Frame.mk' x _ _ _ _ (.refl x) (routesMap_updatePeer ..)).trans (offerAllElements_frame ..),
      .success _⟩

theorem routesMap_dropFetch (ps : List Peer) (fk : FetchKey) : routesMap (dropFetch ps fk) = routesMap ps :=
  (routesMap_updatePeer ..).trans (routesMap_mapElements ..)

theorem unfetchReq_ok (x : Ctx) (p : Peer) (req : Json) : HandlerOK req x (unfetchReq x p req) := by
  rcases unfetchReq_cases x p req with ⟨_, h⟩ | ⟨_, _, _, _, _, h⟩ <;> rw [h]
  · exact .refuse ..
  · exact ⟨.mk' x _ _ _ _ (.refl x) (routesMap_dropFetch ..), .success _⟩

theorem getReq_ok (cfg : Config) (x : Ctx) (p : Peer) (req : Json) : HandlerOK req x (getReq cfg x p req) := by
  rcases getReq_cases cfg x p req with ⟨_, _, _, h⟩ | ⟨_, _, _, _, h⟩ <;> rw [h]
  · exact .refuse ..
  · exact ⟨.refl x, .result ..⟩

/-! ## config.c, info.c, authenticate.c -/

theorem configReq_ok (x : Ctx) (p : Peer) (req : Json) : HandlerOK req x (configReq x p req) := by
  rcases configReq_cases x p req with ⟨_, h⟩ | h | ⟨_, h⟩ <;> rw [h]
  · exact .refuse ..
  · exact ⟨.refl x, .success _⟩
  · exact ⟨.mk' x _ _ _ _ (.refl x) (routesMap_updatePeer ..), .success _⟩

theorem infoReq_ok (cfg : Config) (x : Ctx) (req : Json) : HandlerOK req x (infoReq cfg x req) :=
  ⟨.refl x, .result ..⟩

theorem authenticateReq_ok (cfg : Config) (x : Ctx) (p : Peer) (req : Json) :
    HandlerOK req x (authenticateReq cfg x p req) := by
  rcases authenticateReq_cases cfg x p req with ⟨_, _, h⟩ | ⟨_, _, _, _, _, _, _, _, _, h⟩ <;> rw [h]
  · exact .refuse ..
  · exact ⟨.mk' x _ _ _ _ (.refl x) (routesMap_updatePeer ..), .success _⟩

theorem passwdReq_ok (x : Ctx) (p : Peer) (req : Json) : HandlerOK req x (passwdReq x p req) := by
  rcases passwdReq_cases x p req with ⟨_, h⟩ | ⟨_, _, _, _, _, _, _, _, _, h⟩ <;> rw [h]
  · exact .refuse ..
  · exact ⟨.mk' x _ _ _ _ (.refl x) rfl, .success _⟩

/-! ## how the routing tables may change -/

/-- Same peers in the same order; every routing record of the new tables was there before or was
    created on behalf of requester `c`. -/
inductive RouteStep (c : Nat) : List Peer → List Peer → Prop
  | nil : RouteStep c [] []
  | cons {p p' : Peer} {t t' : List Peer} :
      (p'.conn = p.conn ∧ ∀ r ∈ p'.routes, r ∈ p.routes ∨ (r.requester = c ∧ r.owner = p.conn)) →
      RouteStep c t t' →
      RouteStep c (p :: t) (p' :: t')

namespace RouteStep

theorem refl (c : Nat) (ps : List Peer) : RouteStep c ps ps := by
  induction ps with
  | nil => exact .nil
  | cons p t ih => exact .cons ⟨rfl, fun r hr => Or.inl hr⟩ ih

theorem trans {c : Nat} {a b d : List Peer} (h1 : RouteStep c a b) (h2 : RouteStep c b d) : RouteStep c a d := by
  induction h1 generalizing d with
  | nil => cases h2; exact .nil
  | cons hab _ ih =>
    cases h2 with
    | cons hbd t2 =>
      refine .cons ⟨hbd.1.trans hab.1, fun r hr => ?_⟩ (ih t2)
      rcases hbd.2 r hr with h | h
      · exact hab.2 r h
      · exact Or.inr ⟨h.1, h.2.trans hab.1⟩

theorem of_routesMap {c : Nat} {ps ps' : List Peer} (h : routesMap ps' = routesMap ps) : RouteStep c ps ps' := by
  induction ps generalizing ps' with
  | nil => cases ps' with
    | nil => exact .nil
    | cons _ _ => simp [routesMap] at h
  | cons p t ih =>
    cases ps' with
    | nil => simp [routesMap] at h
    | cons p' t' =>
      simp only [routesMap, List.map_cons, List.cons.injEq, Prod.mk.injEq] at h
      exact .cons ⟨h.1.1, fun r hr => Or.inl (h.1.2 ▸ hr)⟩ (ih h.2)

theorem map {c : Nat} (ps : List Peer) (f : Peer → Peer)
    (hf : ∀ q, (f q).conn = q.conn ∧ ∀ r ∈ (f q).routes, r ∈ q.routes ∨ (r.requester = c ∧ r.owner = q.conn)) :
    RouteStep c ps (ps.map f) := by
  induction ps with
  | nil => exact .nil
  | cons p t ih => exact .cons (hf p) ih

theorem updatePeer {c : Nat} (ps : List Peer) (o : Nat) (f : Peer → Peer)
    (hf : ∀ q, (q.conn == o) = true →
      (f q).conn = q.conn ∧ ∀ r ∈ (f q).routes, r ∈ q.routes ∨ (r.requester = c ∧ r.owner = q.conn)) :
    RouteStep c ps (Daemon.updatePeer ps o f) :=
  map ps _ fun q => by
    split
    · exact hf q ‹_›
    · exact ⟨rfl, fun r hr => Or.inl hr⟩

theorem conns {c : Nat} {ps ps' : List Peer} (h : RouteStep c ps ps') : conns ps' = conns ps := by
  induction h with
  | nil => rfl
  | cons hab _ ih => simp only [C02.conns, List.map_cons] at *; rw [hab.1, ih]

theorem findPeer_some {c : Nat} {ps ps' : List Peer} (h : RouteStep c ps ps') {d : Nat} {p' : Peer}
    (hp : Daemon.findPeer ps' d = some p') :
    ∃ p, Daemon.findPeer ps d = some p ∧ ∀ r ∈ p'.routes, r ∈ p.routes ∨ (r.requester = c ∧ r.owner = p.conn) := by
  induction h with
  | nil => cases hp
  | @cons p p' t t' hab _ ih =>
    rw [findPeer_cons, hab.1] at hp
    rw [findPeer_cons]
    split at hp
    · next hc => cases hp; exact ⟨p, if_pos hc, hab.2⟩
    · next hc => rw [if_neg hc]; exact ih hp

end RouteStep

def RoutesOwned (ps : List Peer) : Prop := ∀ p ∈ ps, ∀ r ∈ p.routes, r.owner = p.conn

theorem RoutesOwned.routeStep {c : Nat} {ps ps' : List Peer} (h : RoutesOwned ps) (hs : RouteStep c ps ps') :
    RoutesOwned ps' := by
  induction hs with
  | nil => intro p hp; cases hp
  | @cons p p' t t' hab _ ih =>
    intro q hq r hr
    rcases List.mem_cons.1 hq with rfl | hq
    · rw [hab.1]
      exact (hab.2 r hr).elim (h p (List.mem_cons_self ..) r) (·.2)
    · exact ih (fun q hq => h q (List.mem_cons_of_mem _ hq)) q hq r hr

theorem removeRoute_gone {ps : List Peer} (h : RoutesOwned ps) (owner : Nat) (rid : Bytes) :
    ∀ q ∈ removeRoute ps owner rid, ∀ r' ∈ q.routes, ¬ (r'.owner = owner ∧ r'.rid = rid) := by
  intro q hq r' hr' ⟨ho, hrid⟩
  rcases mem_updatePeer_iff.1 hq with ⟨p, _, _, rfl⟩ | ⟨hq, hqc⟩
  · exact bne_iff_ne.1 (List.mem_filter.1 hr').2 hrid
  · exact hqc ((h q hq r' hr').symm.trans ho)

/-! ## counting: records that owe an answer, response objects sent -/

/-- the record has an origin id that can be answered (string or number) -/
def routeAnswerable (r : Route) : Bool :=
  match r.originId with
  | some oid => idOk oid
  | none => false

theorem routeAnswerable_of {r : Route} {oid : Json} (ho : r.originId = some oid) (hok : idOk oid = true) :
    routeAnswerable r = true := by
  rw [routeAnswerable, ho]
  exact hok

/-- number of routing records, over all tables, that still owe their requester an answer -/
def pendingA (ps : List Peer) : Nat := (ps.map (fun p => p.routes.countP routeAnswerable)).sum

/-- decidable form of `Answerable` -/
def answerableB (req : Json) : Bool :=
  match req.getItem (k "id") with
  | some id => idOk id
  | none => false

theorem answerableB_iff {req : Json} : answerableB req = true ↔ Answerable req := by
  unfold answerableB Answerable
  cases h : req.getItem (k "id") with
  | none => simp
  | some id => simp

/-- 1 if the request carries a string/number id, else 0 -/
def ansN (req : Json) : Nat := if answerableB req then 1 else 0

/-- number of response objects among the values sent -/
def respCount : List Obs → Nat
  | [] => 0
  | .send _ j _ :: rest => (if isResponse j then 1 else 0) + respCount rest
  | _ :: rest => respCount rest

theorem respCount_send_le (d : Nat) (j : Json) (b : Bool) (l : List Obs) :
    respCount (.send d j b :: l) ≤ 1 + respCount l := by
  show (if _ then 1 else 0) + _ ≤ _
  split <;> omega

theorem respCount_append (a b : List Obs) : respCount (a ++ b) = respCount a + respCount b := by
  induction a with
  | nil => simp [respCount]
  | cons o t ih => cases o <;> simp [respCount, ih, Nat.add_assoc]

theorem respCount_reverse (a : List Obs) : respCount a.reverse = respCount a := by
  induction a with
  | nil => rfl
  | cons o t ih =>
    rw [List.reverse_cons, respCount_append, ih]
    cases o <;> simp [respCount, Nat.add_comm]

theorem respCount_of_method {l : List Obs} (h : ∀ o ∈ l, obsMethod o = true) : respCount l = 0 := by
  induction l with
  | nil => rfl
  | cons o t ih =>
    have ht := ih (fun o ho => h o (List.mem_cons_of_mem _ ho))
    have ho := h o (List.mem_cons_self ..)
    cases o with
    | send d j b =>
      have hm : hasMethod j = true := ho
      have : isResponse j = false := by
        cases hr : isResponse j with
        | false => rfl
        | true => rw [isResponse_not_hasMethod hr] at hm; cases hm
      simp [respCount, this, ht]
    | _ => simpa [respCount] using ht

theorem pendingA_of_routesMap {ps ps' : List Peer} (h : routesMap ps' = routesMap ps) : pendingA ps' = pendingA ps := by
  have e : ∀ qs : List Peer, pendingA qs = ((routesMap qs).map (fun e => e.2.countP routeAnswerable)).sum := by
    intro qs; simp [pendingA, routesMap, List.map_map, Function.comp_def]
  rw [e, e, h]

theorem pendingA_map_le (ps : List Peer) (f : Peer → Peer)
    (hf : ∀ q, (f q).routes.countP routeAnswerable ≤ q.routes.countP routeAnswerable) :
    pendingA (ps.map f) ≤ pendingA ps := by
  induction ps with
  | nil => exact Nat.le_refl _
  | cons a t ih =>
    simp only [pendingA, List.map_cons, List.sum_cons] at ih ⊢
    exact Nat.add_le_add (hf a) ih

theorem pendingA_map_sub {ps : List Peer} {p : Peer} (hp : p ∈ ps) (f : Peer → Peer) (n : Nat)
    (hf : ∀ q, (f q).routes.countP routeAnswerable ≤ q.routes.countP routeAnswerable)
    (hn : (f p).routes.countP routeAnswerable + n ≤ p.routes.countP routeAnswerable) :
    pendingA (ps.map f) + n ≤ pendingA ps := by
  induction ps with
  | nil => cases hp
  | cons a t ih =>
    have ht := pendingA_map_le t f hf
    have ha := hf a
    simp only [pendingA, List.map_cons, List.sum_cons] at ih ht ⊢
    rcases List.mem_cons.1 hp with rfl | hp
    · omega
    · have := ih hp; omega

theorem pendingA_filter_le (ps : List Peer) (g : Peer → Bool) : pendingA (ps.filter g) ≤ pendingA ps := by
  induction ps with
  | nil => exact Nat.le_refl _
  | cons a t ih =>
    rw [List.filter_cons]
    simp only [pendingA, List.map_cons, List.sum_cons] at ih ⊢
    split
    · simp only [List.map_cons, List.sum_cons]; omega
    · omega

/-- with distinct connection numbers at most one table is touched -/
theorem pendingA_updatePeer_add (ps : List Peer) (o : Nat) (f : Peer → Peer) (n : Nat)
    (hn : (conns ps).Nodup)
    (hf : ∀ q, (f q).routes.countP routeAnswerable ≤ q.routes.countP routeAnswerable + n) :
    pendingA (updatePeer ps o f) ≤ pendingA ps + n := by
  induction ps with
  | nil => exact Nat.le_add_right _ _
  | cons p t ih =>
    simp only [conns, List.map_cons, List.nodup_cons] at hn
    rw [updatePeer, List.map_cons, ← updatePeer]
    simp only [pendingA, List.map_cons, List.sum_cons] at ih ⊢
    split
    · next hc =>
      rw [updatePeer_of_not_mem fun q hq e => hn.1 (List.mem_map.2 ⟨q, hq, e.trans (beq_iff_eq.1 hc).symm⟩)]
      have := hf p
      omega
    · have := ih hn.2
      omega

/-- removing by rid from `o`'s table never adds; it removes at least the record found there -/
theorem pendingA_removeRoute_le (ps : List Peer) (o : Nat) (rid : Bytes) :
    pendingA (removeRoute ps o rid) ≤ pendingA ps :=
  pendingA_map_le ps _ fun q => by split <;> first | exact countP_filter_le .. | exact Nat.le_refl _

theorem pendingA_removeRoute_lt (ps : List Peer) (o : Nat) (rid : Bytes) (p : Peer) (r : Route)
    (hp : p ∈ ps) (hc : p.conn = o) (hr : r ∈ p.routes) (hrid : r.rid = rid) (ha : routeAnswerable r = true) :
    pendingA (removeRoute ps o rid) + 1 ≤ pendingA ps := by
  refine pendingA_map_sub hp _ 1 (fun q => ?_) ?_
  · split <;> first | exact countP_filter_le .. | exact Nat.le_refl _
  · rw [if_pos (by simp [hc])]
    exact countP_filter_lt _ _ _ r hr ha (by simp [hrid])

/-! ## the specification of one handler call -/

/-- a request successfully handed to an element's owner -/
def obsAccepted : Obs → Bool
  | .send _ j true => isRoutedReq j
  | _ => false

def AcceptedRouted (new : List Obs) : Prop := ∃ o ∈ new, obsAccepted o = true

theorem not_acceptedRouted {new : List Obs} (h : ∀ o ∈ new, obsAccepted o = false) : ¬ AcceptedRouted new :=
  fun ⟨o, ho, ha⟩ => Bool.false_ne_true ((h o ho).symm.trans ha)

theorem WellFormed.not_accepted {id j : Json} (h : WellFormed id j) (c : Nat) (b : Bool) :
    obsAccepted (.send c j b) = false := by
  cases b
  · rfl
  · exact (Bool.and_eq_false_iff.2 (.inl h.hasMethod) : isRoutedReq j = false)

/-- Specification of one handler call for a request `req` of connection `c`. -/
structure MethodSpec (c : Nat) (req : Json) (x : Ctx) (res : Ctx × Option Json) : Prop where
  out : ∃ new, res.1.out = new ++ x.out ∧ (∀ o ∈ new, obsMethod o = true) ∧
    (res.2.isSome = true → ∀ o ∈ new, obsAccepted o = false) ∧
    (res.2 = none → Answerable req → AcceptedRouted new)
  resp : RespFor req res.2
  routes : RouteStep c x.st.peers res.1.st.peers
  pend : (conns x.st.peers).Nodup →
    pendingA res.1.st.peers + (if res.2.isSome = true then 1 else 0) ≤ pendingA x.st.peers + ansN req

theorem FromReq.pend {req : Json} {r : Option Json} (h : FromReq req r) :
    (if r.isSome = true then 1 else 0) ≤ ansN req := by
  split
  · rename_i hs
    have ha : Answerable req := by
      rcases h.respFor with hn | ⟨id, j, hid, hok, _, _⟩
      · rw [hn] at hs; cases hs
      · exact ⟨id, hid, hok⟩
    rw [ansN, if_pos (answerableB_iff.2 ha)]
    exact Nat.le_refl _
  · exact Nat.zero_le _

theorem obsNotif_not_accepted {o : Obs} (h : obsNotif o = true) : obsAccepted o = false := by
  cases o with
  | send d j b =>
    cases b
    · rfl
    · exact isNotification_not_routed h
  | _ => rfl

theorem FromReq.none_absurd {req : Json} {r : Option Json} (h : FromReq req r) (hn : r = none)
    (ha : Answerable req) : False := by
  have := h.isSome ha
  rw [hn] at this
  cases this

/-- a call that hands nothing on and answers the request itself -/
theorem MethodSpec.leaf {c : Nat} {req : Json} {x x' : Ctx} {r : Option Json} (new : List Obs)
    (hout : x'.out = new ++ x.out) (hm : ∀ o ∈ new, obsMethod o = true)
    (hna : ∀ o ∈ new, obsAccepted o = false) (hr : FromReq req r)
    (hrt : RouteStep c x.st.peers x'.st.peers) (hpd : pendingA x'.st.peers ≤ pendingA x.st.peers) :
    MethodSpec c req x (x', r) :=
  ⟨⟨new, hout, hm, fun _ => hna, fun hn ha => (hr.none_absurd hn ha).elim⟩, hr.respFor, hrt,
    fun _ => Nat.add_le_add hpd hr.pend⟩

theorem HandlerOK.methodSpec {c : Nat} {req : Json} {x : Ctx} {res : Ctx × Option Json}
    (h : HandlerOK req x res) : MethodSpec c req x res :=
  let ⟨⟨⟨new, e, hp⟩, hr⟩, hf⟩ := h
  .leaf new e (fun o ho => obsNotif_obsMethod (hp o ho)) (fun o ho => obsNotif_not_accepted (hp o ho)) hf
    (.of_routesMap hr) (Nat.le_of_eq (pendingA_of_routesMap hr))

theorem pendingA_addRoute_removeRoute (ps : List Peer) (o : Nat) (r : Route) :
    pendingA (removeRoute (updatePeer ps o (fun q => { q with routes := q.routes ++ [r] })) o r.rid) ≤ pendingA ps := by
  rw [removeRoute_added]
  exact pendingA_removeRoute_le ps o r.rid
theorem pendingA_addRoute (ps : List Peer) (o : Nat) (r : Route) (n : Nat) (hn : (conns ps).Nodup)
    (hr : (if routeAnswerable r = true then 1 else 0) ≤ n) :
    pendingA (updatePeer ps o (fun q => { q with routes := q.routes ++ [r] })) ≤ pendingA ps + n := by
  apply pendingA_updatePeer_add ps o _ n hn
  intro q
  simp only [List.countP_append, List.countP_singleton]
  omega

theorem obsMethod_routed (d : Nat) (rid path : Bytes) (isState : Bool) (value : Option Json) (b : Bool) :
    obsMethod (.send d (routedMessage rid path isState value) b) = true :=
  isRoutedReq_hasMethod (routedMessage_isRoutedReq ..)

theorem routeStep_addRoute {c : Nat} (ps : List Peer) (o : Nat) (r : Route) (hr : r.requester = c)
    (ho : r.owner = o) :
    RouteStep c ps (updatePeer ps o (fun q => { q with routes := q.routes ++ [r] })) := by
  apply RouteStep.updatePeer
  intro q hq
  refine ⟨rfl, fun r' hr' => ?_⟩
  rcases List.mem_append.1 hr' with h | h
  · exact Or.inl h
  · simp at h; subst h
    have : q.conn = o := by simpa using hq
    exact Or.inr ⟨hr, ho.trans this.symm⟩

theorem routeStep_removeRoute {c : Nat} (ps : List Peer) (o : Nat) (rid : Bytes) :
    RouteStep c ps (removeRoute ps o rid) := by
  apply RouteStep.updatePeer
  intro q _
  exact ⟨rfl, fun r' hr' => Or.inl (List.mem_filter.1 hr').1⟩

theorem routeCore_spec (cfg : Config) (x : Ctx) (p : Peer) (req : Json) (isState : Bool) (params : Json)
    (path : Bytes) (e : Element) :
    MethodSpec p.conn req x (C03.routeCore cfg x p req isState params path e) := by
  rcases C03.routeCore_cases cfg x p req isState params path e with
    ⟨_, _, h⟩ | ⟨_, _, h⟩ | ⟨tns, _, ⟨_, h⟩ | ⟨_, ⟨hb, h⟩ | ⟨hb, h⟩⟩⟩ <;> rw [h]
  -- no value, bad timeout: only the id counter has moved
  · exact .leaf [] rfl (List.forall_mem_nil _) (List.forall_mem_nil _) (.error ..) (.refl ..) (Nat.le_refl _)
  · exact .leaf [] rfl (List.forall_mem_nil _) (List.forall_mem_nil _) (.error ..) (.refl ..) (Nat.le_refl _)
  -- routing table full: the timer is destroyed again
  · exact .leaf [.timerDestroy _] rfl (List.forall_mem_singleton.2 rfl) (List.forall_mem_singleton.2 rfl) (.error ..)
      (.refl ..) (Nat.le_refl _)
  -- sent on: the record is in the owner's table and owes an answer iff the request has an id to answer
  · refine ⟨⟨[.send _ _ (C03.nextSend x), .timerArm _ _], by rw [send_out_eq]; rfl, ?_, fun h => absurd h Bool.false_ne_true, fun _ _ => ?_⟩,
      Or.inl rfl, ?_, fun hn => ?_⟩
    · exact List.forall_mem_cons.2 ⟨obsMethod_routed .., List.forall_mem_singleton.2 rfl⟩
    · exact ⟨_, List.mem_cons_self .., by rw [hb]; exact routedMessage_isRoutedReq ..⟩
    · rw [send_st]; exact routeStep_addRoute _ _ (C03.newRoute x p req e) rfl rfl
    · rw [send_st]; exact pendingA_addRoute _ _ _ _ hn (Nat.le_refl _)
  -- send failed: the record is taken out again
  · refine .leaf [.timerDestroy _, .send _ _ (C03.nextSend x), .timerArm _ _] (by rw [emit_out, send_out_eq]; rfl)
      ?_ ?_ (.error ..) ?_ ?_
    · exact List.forall_mem_cons.2 ⟨rfl, List.forall_mem_cons.2 ⟨obsMethod_routed .., List.forall_mem_singleton.2 rfl⟩⟩
    · rw [hb]
      exact List.forall_mem_cons.2 ⟨rfl, List.forall_mem_cons.2 ⟨rfl, List.forall_mem_singleton.2 rfl⟩⟩
    · rw [emit_st, send_st]; exact (routeStep_addRoute _ _ (C03.newRoute x p req e) rfl rfl).trans (routeStep_removeRoute ..)
    · rw [emit_st, send_st]; exact pendingA_addRoute_removeRoute _ _ (C03.newRoute x p req e)
/-- a refusal before the id is generated behaves like any other handler; the rest is `routeCore` -/
theorem setOrCall_spec (cfg : Config) (x : Ctx) (p : Peer) (req : Json) (isState : Bool) :
    MethodSpec p.conn req x (setOrCall cfg x p req isState) := by
  rw [C03.setOrCall_eq]
  split
  · next h =>
    obtain ⟨_, _, rfl⟩ := C03.routeChecks_error h
    exact (HandlerOK.refuse ..).methodSpec
  · exact routeCore_spec ..

end Cjet.Daemon.C02
