import Cjet.Deflate
import Cjet.Lemmas.DeflateReasm
import Cjet.Lemmas.DeflateBytes
/-! Helper lemmas for C19, part D: the frame dispatch (`handleFrame` / `runFrames`) — control frames between
the fragments of a compressed message leave the flags and the reassembly buffer alone. -/
namespace Cjet.Deflate
open Cjet.Generated.Deflate

variable (inflate : Bytes → Option Bytes) (cc : Bytes → Nat)

/-! ### single frames through the code as committed (`clr = false`, `loops = guard = true`) -/

section
attribute [local simp] handleFrame rsvBad clearFlag fragStart dispatch frameComp Conn.init WsFlags.init
  opContinuation opText opBinary opClose opPing opPong rsvCompressed

/-- a ping / pong of at most 125 bytes, in ANY state of the connection: answered, nothing else changes -/
theorem handleFrame_ctl (c : Conn) (k : Ctl) (hk : k.payload.length ≤ wsSmallFrame) :
    handleFrame false true true inflate cc c k.frame = (k.answer, some c) := by
  obtain ⟨fl, buf⟩ := c
  cases k <;> simp only [Ctl.payload] at hk <;> simp [Ctl.frame, Ctl.answer, Nat.not_lt.2 hk]

/-- the first fragment of a compressed message on a connection in its initial state -/
theorem handleFrame_first (op : Nat) (hop : op = opText ∨ op = opBinary) (f0 : Bytes) :
    ∃ b, handleFrame false true true inflate cc Conn.init ⟨false, rsvCompressed, op, f0⟩ =
        ([], some ⟨⟨true, true, op⟩, b⟩) ∧ BufInv b f0.length f0 := by
  obtain ⟨b, hb, hI⟩ := reasmBytes_loop RBuf.init 0 [] f0 bufInv_init
  refine ⟨b, ?_, by simpa using hI⟩
  rcases hop with rfl | rfl <;> simp [hb]

/-- a further, non-final fragment -/
theorem handleFrame_middle (op : Nat) (hop : op = opText ∨ op = opBinary) {b : RBuf} {T : Nat} {data : Bytes}
    (f : Bytes) (hI : BufInv b T data) :
    ∃ b', handleFrame false true true inflate cc ⟨⟨true, true, op⟩, b⟩ ⟨false, 0, opContinuation, f⟩ =
        ([], some ⟨⟨true, true, op⟩, b'⟩) ∧ BufInv b' (T + f.length) (data ++ f) := by
  obtain ⟨b', hb, hI'⟩ := reasmBytes_loop b T data f hI
  refine ⟨b', ?_, hI'⟩
  rcases hop with rfl | rfl <;> simp [hb]

/-- the final fragment: the whole body goes to the inflater once, the connection is as new -/
theorem handleFrame_final (op : Nat) (hop : op = opText ∨ op = opBinary) {b : RBuf} {T : Nat} {data f x : Bytes}
    (hI : BufInv b T data) (hne : data ++ f ≠ []) (hmsg : recvMessage inflate (data ++ f) = .ok x) :
    handleFrame false true true inflate cc ⟨⟨true, true, op⟩, b⟩ ⟨true, 0, opContinuation, f⟩ =
      ([.frame op x true], some Conn.init) := by
  have hr : recvFrames true true inflate b [f] = .ok x := by
    rw [recvFrames_eq inflate [f] (by simp) b T data hI]
    simp only [List.flatten_cons, List.flatten_nil, List.append_nil, if_neg hne, hmsg]
  rcases hop with rfl | rfl <;> simp [hr]

/-- the unfragmented compressed message -/
theorem handleFrame_whole (op : Nat) (hop : op = opText ∨ op = opBinary) {body x : Bytes}
    (hmsg : recvMessage inflate body = .ok x) :
    handleFrame false true true inflate cc Conn.init ⟨true, rsvCompressed, op, body⟩ =
      ([.message op x], some Conn.init) := by
  rcases hop with rfl | rfl <;> simp [hmsg]

end

theorem runFrames_cons_some {clr loops guard : Bool} {inflate : Bytes → Option Bytes} {cc : Bytes → Nat}
    {c c' : Conn} {f : Frame} {evs : List Ev} (rest : List Frame)
    (h : handleFrame clr loops guard inflate cc c f = (evs, some c')) :
    runFrames clr loops guard inflate cc c (f :: rest) =
      (evs ++ (runFrames clr loops guard inflate cc c' rest).1, (runFrames clr loops guard inflate cc c' rest).2) := by
  rw [runFrames, h]

theorem runFrames_ctls (c : Conn) (cs : List Ctl) (hcs : ∀ k ∈ cs, k.payload.length ≤ wsSmallFrame)
    (more : List Frame) :
    runFrames false true true inflate cc c (cs.map Ctl.frame ++ more) =
      (ctlAnswers cs ++ (runFrames false true true inflate cc c more).1,
        (runFrames false true true inflate cc c more).2) := by
  induction cs with
  | nil => simp [ctlAnswers]
  | cons k rest ih =>
    rw [List.map_cons, List.cons_append,
      runFrames_cons_some _ (handleFrame_ctl inflate cc c k (hcs k (.head _))),
      ih fun k' h' => hcs k' (List.mem_cons_of_mem _ h')]
    simp [ctlAnswers, List.append_assoc]

/-! ### a whole message -/

/-- the continuation frames with their control frames, from any point inside the message -/
theorem runFrames_cont (op : Nat) (hop : op = opText ∨ op = opBinary) (x : Bytes) (p : List Ctl × Bytes)
    (r : List (List Ctl × Bytes)) (hctl : ∀ q ∈ p :: r, ∀ k ∈ q.1, k.payload.length ≤ wsSmallFrame)
    (b : RBuf) (T : Nat) (data : Bytes) (hI : BufInv b T data)
    (hbody : data ++ ((p :: r).map (·.2)).flatten ≠ [])
    (hmsg : recvMessage inflate (data ++ ((p :: r).map (·.2)).flatten) = .ok x) :
    runFrames false true true inflate cc ⟨⟨true, true, op⟩, b⟩ (contFrames (p :: r)) =
      ((p :: r).flatMap (fun q => ctlAnswers q.1) ++ [.frame op x true], some Conn.init) := by
  induction r generalizing p b T data with
  | nil =>
    simp only [List.map_cons, List.map_nil, List.flatten_cons, List.flatten_nil, List.append_nil] at hbody hmsg
    rw [contFrames, List.isEmpty_nil, runFrames_ctls inflate cc _ _ (hctl p (.head _)),
      runFrames_cons_some _ (handleFrame_final inflate cc op hop hI hbody hmsg)]
    simp [runFrames, contFrames]
  | cons q r ih =>
    obtain ⟨b', h, hI'⟩ := handleFrame_middle inflate cc op hop p.2 hI
    have hfl : (data ++ p.2) ++ ((q :: r).map (·.2)).flatten = data ++ ((p :: q :: r).map (·.2)).flatten := by
      simp [List.append_assoc]
    rw [contFrames, List.isEmpty_cons, runFrames_ctls inflate cc _ _ (hctl p (.head _)), runFrames_cons_some _ h,
      ih q (fun q' hq => hctl q' (List.mem_cons_of_mem _ hq)) b' _ _ hI' (hfl ▸ hbody) (hfl ▸ hmsg)]
    simp [List.append_assoc]

/-- One compressed message in ANY legal presentation — unfragmented, or cut into any fragments (empty ones
    included) with any ping / pong frames in front of any continuation frame: every ping is answered with its
    payload, the application gets the inflated body exactly once, and the connection is back in its initial
    state (flags clear, no reassembly buffer). -/
theorem runFrames_present (op : Nat) (hop : op = opText ∨ op = opBinary) (body x f0 : Bytes)
    (rest : List (List Ctl × Bytes)) (hcut : f0 ++ (rest.map (·.2)).flatten = body)
    (hctl : ∀ p ∈ rest, ∀ k ∈ p.1, k.payload.length ≤ wsSmallFrame)
    (hne : body ≠ []) (hmsg : recvMessage inflate body = .ok x) :
    runFrames false true true inflate cc Conn.init (present op f0 rest) =
      (presentEvents op x rest, some Conn.init) := by
  subst hcut
  cases rest with
  | nil =>
    rw [List.map_nil, List.flatten_nil, List.append_nil] at hmsg
    rw [present, List.isEmpty_nil, runFrames_cons_some _ (handleFrame_whole inflate cc op hop hmsg)]
    simp [runFrames, contFrames, presentEvents]
  | cons p r =>
    obtain ⟨b, h, hI⟩ := handleFrame_first inflate cc op hop f0
    rw [present, List.isEmpty_cons, runFrames_cons_some _ h, runFrames_cont inflate cc op hop x p r hctl b _ f0 hI hne hmsg]
    simp [presentEvents]

theorem runFrames_msg (m : MsgSpec) (hm : m.Legal) (body : Bytes) (hne : body ≠ [])
    (hmsg : recvMessage inflate body = .ok m.x) :
    runFrames false true true inflate cc Conn.init (m.frames body) = (m.events body, some Conn.init) := by
  obtain ⟨hop, hpre, hcut⟩ := hm
  rw [MsgSpec.frames, MsgSpec.events, runFrames_ctls inflate cc _ _ hpre,
    runFrames_present inflate cc m.op hop body m.x _ _ (hcut body).1 (hcut body).2 hne hmsg]

/-! ### memory safety of the dispatch for ANY frame sequence -/

/-- the reassembly buffer is always in one of the states `reassemble` leaves behind -/
def RBuf.Sane (b : RBuf) : Prop := ∃ T data, BufInv b T data

theorem rbuf_init_sane : RBuf.init.Sane := ⟨0, [], bufInv_init⟩

theorem frameComp_safe (isComp : Bool) (op : Nat) (b : RBuf) (data : Bytes) (last : Bool) (hI : b.Sane) :
    frameComp true true inflate isComp op b data last = .error ∨
    ∃ evs b', frameComp true true inflate isComp op b data last = .ok evs b' ∧ Ev.wild ∉ evs ∧ b'.Sane := by
  obtain ⟨T, d, hI⟩ := hI
  unfold frameComp
  cases isComp with
  | false => exact .inr ⟨_, _, rfl, by simp, T, d, hI⟩
  | true =>
    cases last with
    | true =>
      have hw := recvFrames_ne_wild inflate [data] hI
      simp only [if_true]
      cases hr : recvFrames true true inflate b [data] with
      | ok p => exact .inr ⟨_, _, rfl, by simp, rbuf_init_sane⟩
      | wild => exact absurd hr hw
      | _ => exact .inl rfl
    | false =>
      obtain ⟨b', hb, hI'⟩ := reasmBytes_loop b T d data hI
      simp only [if_true, Bool.false_eq_true, if_false, hb]
      exact .inr ⟨_, _, rfl, by simp, _, _, hI'⟩

def Safe (r : List Ev × Option Conn) : Prop := Ev.wild ∉ r.1 ∧ ∀ c', r.2 = some c' → c'.buf.Sane

theorem Safe.ite {c : Prop} [Decidable c] {a b : List Ev × Option Conn} (ha : c → Safe a) (hb : ¬c → Safe b) :
    Safe (if c then a else b) := by
  split
  · exact ha ‹_›
  · exact hb ‹_›

theorem safe_closed {evs : List Ev} (h : Ev.wild ∉ evs) : Safe (evs, none) := ⟨h, nofun⟩

theorem safe_open {evs : List Ev} {fl : WsFlags} {buf : RBuf} (h : Ev.wild ∉ evs) (hI : buf.Sane) :
    Safe (evs, some ⟨fl, buf⟩) :=
  ⟨h, fun _ hc => by cases hc; exact hI⟩

theorem safe_closeErr (code : Nat) : Safe (closeErr code) := safe_closed (by simp)

theorem dispatch_safe (fl : WsFlags) (op : Nat) (buf : RBuf) (f : Frame) (hI : buf.Sane) :
    Safe (dispatch true true inflate cc fl op buf f) := by
  unfold dispatch
  refine .ite (fun _ => safe_closeErr _) fun _ => .ite (fun _ => .ite (fun _ => ?cont) fun _ => safe_closeErr _)
    fun _ => .ite (fun _ => .ite (fun _ => ?comp) fun _ => safe_open (by simp) hI) fun _ => ?ctl
  case cont =>
    rcases frameComp_safe inflate fl.isFragCompressed fl.fragOpcode buf f.payload f.fin hI with h | ⟨evs, b', h, hw, hI'⟩
    · rw [h]; exact safe_closeErr _
    · rw [h]; exact safe_open hw hI'
  case comp =>
    cases hr : recvMessage inflate f.payload with
    | ok p => exact safe_open (by simp) rbuf_init_sane
    | wild => exact absurd hr (recvMessage_ne_wild inflate f.payload)
    | _ => exact safe_closeErr _
  case ctl =>
    exact .ite (fun _ => .ite (fun _ => safe_closeErr _) fun _ => safe_open (by simp) hI)
      fun _ => .ite (fun _ => .ite (fun _ => safe_closeErr _) fun _ => safe_open (by simp) hI)
      fun _ => .ite (fun _ => safe_closed (by simp)) fun _ => safe_closeErr _

theorem handleFrame_safe (clr : Bool) (c : Conn) (f : Frame) (hI : c.buf.Sane) :
    Safe (handleFrame clr true true inflate cc c f) := by
  unfold handleFrame
  refine .ite (fun _ => safe_closeErr _) fun _ => .ite (fun _ => safe_closeErr _) fun _ => ?_
  cases fragStart (clearFlag clr c.fl f) f with
  | none => exact safe_closeErr _
  | some r => exact dispatch_safe inflate cc _ _ c.buf f hI

/-- ANY sequence of ANY frames (any opcodes, RSV bits, FIN bits, lengths — legal or not) through the dispatch of
    the code now, with ANY inflater: never a copy outside the reassembly buffer, never the buffer pointer used
    without a buffer — also when the flag `is_frag_compressed` is (wrongly) cleared by control frames. -/
theorem runFrames_safe (clr : Bool) (frames : List Frame) (c : Conn) (hI : c.buf.Sane) :
    Ev.wild ∉ (runFrames clr true true inflate cc c frames).1 := by
  induction frames generalizing c with
  | nil => exact nofun
  | cons f rest ih =>
    have h := handleFrame_safe inflate cc clr c f hI
    rw [runFrames]
    cases hr : handleFrame clr true true inflate cc c f with
    | mk evs oc =>
      rw [hr] at h
      cases oc with
      | none => exact h.1
      | some c' => exact fun hm => (List.mem_append.1 hm).elim h.1 (ih c' (h.2 c' rfl))

end Cjet.Deflate
