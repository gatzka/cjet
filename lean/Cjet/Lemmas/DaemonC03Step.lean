/-
  DaemonC03Step — the invariants and the stability of one routing entry, lifted from the router
  transition system to `step` and `run` of the daemon model.
-/
import Cjet.Lemmas.DaemonC03Sim

namespace Cjet.Daemon.C03

open Cjet Cjet.Json Cjet.Daemon

/-- the router's share of a state, with a given timer log -/
def rsS (s : State) (tl : List Obs) : RS := ⟨s.peers.map pview, s.uuid, s.nextTimer, tl⟩

theorem mkCtx_st (s : State) (o : Oracle) : (mkCtx s o).st = s := Daemon.mkCtx_st s o
theorem mkCtx_out (s : State) (o : Oracle) : (mkCtx s o).out = [] := Daemon.mkCtx_out s o
theorem mkCtx_routeFull (s : State) (o : Oracle) : (mkCtx s o).routeFull = o.routeFull := Daemon.mkCtx_routeFull s o
theorem mkCtx_sends (s : State) (o : Oracle) : (mkCtx s o).sends = o.sends := Daemon.mkCtx_sends s o

theorem isSome_of_not_isNone {α : Type} {o : Option α} (h : ¬ o.isNone = true) : o.isSome = true := by
  cases o <;> simp_all

theorem rs_eq_rsS (x : Ctx) : rs x = rsS x.st (tobs x.out) := rfl

/-! ## connections along the steps of one message -/

theorem conns_steps_from {c : Nat} {f : Bytes → Bool} {ls : List Lbl} {a b : RS} (hs : Steps ls a b)
    (hl : ∀ l ∈ ls, LblFrom c f l) : b.V.map (·.conn) = a.V.map (·.conn) := by
  induction ls generalizing a with
  | nil => cases hs; rfl
  | cons l t ih =>
    rw [ih hs.2 (fun l' h' => hl l' (List.mem_cons_of_mem _ h'))]
    have := hl l (List.mem_cons_self ..)
    cases l with
    | tick => rfl
    | full => rfl
    | issue r tns => exact vAdd_conns ..
    | issueFail r tns => exact (vRemove_conns ..).trans (vAdd_conns ..)
    | drop o r => exact vRemove_conns ..
    | close c' => exact this.elim
    | connect c' addr => exact this.elim

/-! ## one operation -/

/-- the labels an operation can produce -/
def OpLbls (cfg : Config) (s : State) : Op → List Lbl → Prop
  | .connect c _ _ addr, ls => ls = [] ∨ ls = [.connect c addr]
  | .message c msg o, ls =>
    ls = [] ∨ ∃ ls1, ls1.length ≤ msgWeight msg ∧ (∀ lb ∈ ls1, LblFrom c (msgReplies msg) lb) ∧
      ls = ls1 ++ (if (parseMessage cfg (mkCtx s o) c msg).2 then [] else [.close c])
  | .disconnect c _, ls => ls = [] ∨ ls = [.close c]
  | .timerFire t _, ls =>
    ls.length ≤ 1 ∧ ∀ l ∈ ls, ∃ r, l = .drop r.owner r ∧ r.timer = t ∧ r ∈ vRoutes (s.peers.map pview)

theorem sim_step (cfg : Config) (s : State) (op : Op) (hw : (rsS s []).Wf) (tl : List Obs) :
    ∃ ls, OpLbls cfg s op ls ∧
      Sim (EO s) ls (rsS s tl) (rsS (step cfg s op).1 (tobs (step cfg s op).2.reverse ++ tl)) := by
  suffices h : ∃ ls, OpLbls cfg s op ls ∧
      Sim (EO s) ls (rsS s []) (rsS (step cfg s op).1 (tobs (step cfg s op).2.reverse)) from
    h.imp fun _ h => ⟨h.1, h.2.addLog tl⟩
  -- the outputs of the working context, reversed by `step`, are reversed again here
  have fin : ∀ (o : Oracle) (y : Ctx) (ls : List Lbl), Sim (EO s) ls (rs (mkCtx s o)) (rs y) →
      Sim (EO s) ls (rsS s []) (rsS y.st (tobs y.out.reverse.reverse)) :=
    fun _ y _ h => (List.reverse_reverse y.out).symm ▸ h
  cases op with
  | connect c ws isLocal addr =>
    rw [step_connect_eq]
    by_cases h : (findPeer s.peers c).isSome = true
    · rw [if_pos h]; exact ⟨[], .inl rfl, rfl, fun _ => rfl⟩
    · rw [if_neg h]
      refine ⟨[.connect c addr], .inr rfl, .of_steps ⟨fun v hv e => h ?_, ?_⟩ fun _ hl =>
        List.mem_singleton.mp hl ▸ trivial⟩
      · exact findPeer_isSome_iff_conns.mpr (List.mem_map.mpr ⟨v, hv, e⟩)
      · exact congrArg (RS.mk · _ _ _) List.map_append
  | message c msg o =>
    rw [step_message_eq]
    by_cases hlive : (findPeer s.peers c).isNone = true
    · rw [if_pos hlive]; exact ⟨[], .inl rfl, rfl, fun _ => rfl⟩
    · rw [if_neg hlive]
      obtain ⟨ls1, h1, h2, h3⟩ := sim_parseMessage cfg (mkCtx s o) c msg
      refine ⟨_, .inr ⟨ls1, h1, h2, rfl⟩, ?_⟩
      dsimp only
      cases hok : (parseMessage cfg (mkCtx s o) c msg).2 with
      | true =>
        rw [if_pos rfl, if_pos rfl, List.append_nil]
        exact fin o _ _ h3
      | false =>
        rw [if_neg Bool.false_ne_true, if_neg Bool.false_ne_true]
        refine fin o _ _ (h3.append (sim_closePeer _ c ?_) fun _ => trivial)
        -- the peer is still connected after its message: no label of it disconnects anybody
        exact findPeer_isSome_iff_conns.mpr ((congrArg (c ∈ ·) (conns_steps_from h3.steps h2)).mpr
          (findPeer_isSome_iff_conns.mp (isSome_of_not_isNone hlive)))
  | disconnect c o =>
    rw [step_disconnect_eq]
    by_cases h : (findPeer s.peers c).isNone = true
    · rw [if_pos h]; exact ⟨[], .inl rfl, rfl, fun _ => rfl⟩
    · rw [if_neg h]
      exact ⟨[.close c], .inr rfl, fin o _ _ (sim_closePeer (mkCtx s o) c (isSome_of_not_isNone h))⟩
  | timerFire t o =>
    rw [step_timerFire_eq]
    obtain ⟨ls, h1, h2, h3⟩ := sim_timeoutFired (eo := EO s) (mkCtx s o) t hw
    exact ⟨ls, ⟨h1, h2⟩, fin o _ _ h3⟩

/-! ## the invariants on states -/

/-- structural well-formedness of the routing tables of a state (see `WfV`) -/
def RoutesWf (s : State) : Prop := WfV (s.peers.map pview) s.nextTimer

/-- distinctness of the generated ids of a state (see `RidsV`) -/
def RidsWf (s : State) : Prop := RidsV (s.peers.map pview) s.uuid

theorem routesWf_init (us : List User) : RoutesWf { users := us } :=
  ⟨List.nodup_nil, by simp, by simp [vRoutes], by simp [vRoutes], by simp [vRoutes]⟩

theorem ridsWf_init (us : List User) : RidsWf { users := us } :=
  ⟨by simp, by show (0 : Nat) < 4294967296; omega, by simp [vRoutes], by simp [vRoutes]⟩

theorem routesWf_step (cfg : Config) (s : State) (op : Op) (h : RoutesWf s) : RoutesWf (step cfg s op).1 := by
  obtain ⟨ls, _, hs⟩ := sim_step cfg s op h []
  exact wf_steps hs.steps h

theorem routesWf_run (cfg : Config) (ops : List Op) (s : State) (h : RoutesWf s) : RoutesWf (run cfg s ops).1 :=
  run_inv (I := fun s _ => RoutesWf s) (H := []) cfg ops (fun s op _ => routesWf_step cfg s op) h

/-- an upper bound for the number of ids an operation makes the router generate:
    the number of request objects it carries -/
def opWeight : Op → Nat
  | .message _ msg _ => msgWeight msg
  | _ => 0

/-- the address token of a connecting peer is well formed -/
def OpOk : Op → Prop
  | .connect _ _ _ addr => AddrOk addr
  | _ => True

instance (op : Op) : Decidable (OpOk op) := by
  cases op <;> unfold OpOk <;> infer_instance

theorem ticksOf_le_length (ls : List Lbl) : ticksOf ls ≤ ls.length := by
  induction ls with
  | nil => exact Nat.le_refl 0
  | cons l t ih =>
    rw [ticksOf_cons, List.length_cons, Nat.add_comm]
    refine Nat.add_le_add ih ?_
    cases l with
    | drop _ _ | close _ | connect _ _ => exact Nat.zero_le 1
    | _ => exact Nat.le_refl 1

theorem opLbls_ticks {cfg : Config} {s : State} {op : Op} {ls : List Lbl} (h : OpLbls cfg s op ls) :
    ticksOf ls ≤ opWeight op := by
  cases op with
  | connect c ws isLocal addr => rcases h with rfl | rfl <;> exact Nat.le_refl 0
  | message c msg o =>
    rcases h with rfl | ⟨ls1, h1, _, rfl⟩
    · exact Nat.zero_le _
    · have h0 : ∀ b : Bool, ticksOf (if b then [] else [Lbl.close c]) = 0 := fun b => by cases b <;> rfl
      rw [ticksOf_append, h0]
      exact Nat.le_trans (ticksOf_le_length ls1) h1
  | disconnect c o => rcases h with rfl | rfl <;> exact Nat.le_refl 0
  | timerFire t o =>
    -- the labels of an expiry are `drop`s
    exact Nat.le_of_eq (sum_map_eq_zero fun l hl => by obtain ⟨r, rfl, _⟩ := h.2 l hl; rfl)

theorem opLbls_connect {cfg : Config} {s : State} {op : Op} {ls : List Lbl} (h : OpLbls cfg s op ls)
    (hok : OpOk op) : ∀ c addr, Lbl.connect c addr ∈ ls → AddrOk addr := by
  intro c addr hm
  cases op with
  | connect c' ws isLocal addr' =>
    rcases h with rfl | rfl
    · cases hm
    · cases List.mem_singleton.mp hm; exact hok
  | message c' msg o =>
    rcases h with rfl | ⟨ls1, _, h2, rfl⟩
    · cases hm
    · rcases List.mem_append.mp hm with hm | hm
      · exact (h2 _ hm).elim
      · split at hm
        · cases hm
        · cases List.mem_singleton.mp hm
  | disconnect c' o =>
    rcases h with rfl | rfl
    · cases hm
    · cases List.mem_singleton.mp hm
  | timerFire t o =>
    obtain ⟨r, e, _⟩ := h.2 _ hm
    cases e

theorem room_of_op {cfg : Config} {s : State} {op : Op} {ls : List Lbl} (hl : OpLbls cfg s op ls)
    (hw : RoutesWf s) (hr : RidsWf s) (hok : OpOk op) (hb : s.uuid + opWeight op < 4294967296)
    (tl : List Obs) : Room (rsS s tl) ls :=
  ⟨hw, hr, Nat.lt_of_le_of_lt (Nat.add_le_add_left (opLbls_ticks hl) _) hb, opLbls_connect hl hok⟩

theorem ridsWf_step (cfg : Config) (s : State) (op : Op) (hw : RoutesWf s) (h : RidsWf s) (hok : OpOk op)
    (hb : s.uuid + opWeight op < 4294967296) :
    RidsWf (step cfg s op).1 ∧ (step cfg s op).1.uuid ≤ s.uuid + opWeight op := by
  obtain ⟨ls, hl, hs⟩ := sim_step cfg s op hw []
  obtain ⟨h1, h2⟩ := rids_steps hs.steps (room_of_op hl hw h hok hb [])
  have h2 : (step cfg s op).1.uuid = s.uuid + ticksOf ls := h2
  exact ⟨h1, h2 ▸ Nat.add_le_add_left (opLbls_ticks hl) _⟩

def runWeight (ops : List Op) : Nat := (ops.map opWeight).sum

theorem runWeight_cons (op : Op) (ops : List Op) : runWeight (op :: ops) = opWeight op + runWeight ops := by
  simp [runWeight]

theorem run_induct_bounded {I : State → List (List Obs) → Prop} (cfg : Config) (ops : List Op) {s : State}
    {H : List (List Obs)} (hok : ∀ op ∈ ops, OpOk op) (hb : s.uuid + runWeight ops < 4294967296)
    (hstep : ∀ s op H, OpOk op → s.uuid + opWeight op < 4294967296 → I s H →
      I (step cfg s op).1 (H ++ [(step cfg s op).2]) ∧ (step cfg s op).1.uuid ≤ s.uuid + opWeight op)
    (h0 : I s H) :
    I (run cfg s ops).1 (H ++ (run cfg s ops).2) ∧ (run cfg s ops).1.uuid ≤ s.uuid + runWeight ops := by
  induction ops generalizing s H with
  | nil => exact ⟨(List.append_nil H).symm ▸ h0, Nat.le_refl _⟩
  | cons op rest ih =>
    -- the bound, with the weight of `op` split off: `(s.uuid + opWeight op) + runWeight rest`
    rw [runWeight_cons, ← Nat.add_assoc] at hb ⊢
    obtain ⟨h1, h2⟩ := hstep s op H (hok op (List.mem_cons_self ..))
      (Nat.lt_of_le_of_lt (Nat.le_add_right ..) hb) h0
    obtain ⟨h3, h4⟩ := ih (fun o ho => hok o (List.mem_cons_of_mem _ ho))
      (Nat.lt_of_le_of_lt (Nat.add_le_add_right h2 _) hb) h1
    rw [List.append_assoc] at h3
    exact ⟨h3, Nat.le_trans h4 (Nat.add_le_add_right h2 _)⟩

theorem ridsWf_run (cfg : Config) (ops : List Op) (s : State) (hw : RoutesWf s) (h : RidsWf s)
    (hok : ∀ op ∈ ops, OpOk op) (hb : s.uuid + runWeight ops < 4294967296) :
    RidsWf (run cfg s ops).1 ∧ (run cfg s ops).1.uuid ≤ s.uuid + runWeight ops :=
  (run_induct_bounded (I := fun s _ => RoutesWf s ∧ RidsWf s) (H := []) cfg ops hok hb
    (fun s op _ hop hb' h => ⟨⟨routesWf_step cfg s op h.1, (ridsWf_step cfg s op h.1 h.2 hop hb').1⟩,
      (ridsWf_step cfg s op h.1 h.2 hop hb').2⟩) ⟨hw, h⟩).imp And.right id

/-! ## one entry across one operation -/

/-- `r` is stored in the routing table of the peer it names as owner -/
def Stored (s : State) (r : Route) : Prop := ∃ p, findPeer s.peers r.owner = some p ∧ r ∈ p.routes

theorem stored_iff (s : State) (r : Route) : Stored s r ↔ InTable (s.peers.map pview) r := by
  unfold Stored InTable
  rw [vTable_map_pview]
  cases findPeer s.peers r.owner <;> simp

/-- the operations that may end the life of the routing entry `r`: a message of its owner that
    contains a routing response with its id; a message of its owner or requester that gets that
    peer dropped; the disconnect of its owner or requester; the expiry of its timer -/
def Resolves (cfg : Config) (s : State) (r : Route) : Op → Prop
  | .connect _ _ _ _ => False
  | .message c msg o =>
    (c = r.owner ∧ msgReplies msg r.rid = true) ∨
    ((c = r.owner ∨ c = r.requester) ∧ (parseMessage cfg (mkCtx s o) c msg).2 = false)
  | .disconnect c _ => c = r.owner ∨ c = r.requester
  | .timerFire t _ => t = r.timer

theorem stable_steps {ls : List Lbl} {a b : RS} {r : Route} (hs : Steps ls a b) (hr : Room a ls)
    (hin : InTable a.V r) (hk : ∀ l ∈ ls, ¬ Kills r l) : InTable b.V r :=
  (steps_induct hs hr (fun l hl _ hp h hin' => stable_app hp h.wf h.rids hin' (hk l hl)) hin).1

theorem resolves_of_kills {cfg : Config} {s : State} {op : Op} {ls : List Lbl} {l : Lbl} {r : Route}
    (hl : OpLbls cfg s op ls) (hr : RidsWf s) (hin : Stored s r) (hlm : l ∈ ls) (hk : Kills r l) :
    Resolves cfg s r op := by
  cases op with
  | connect c ws isLocal addr =>
    rcases hl with rfl | rfl
    · cases hlm
    · cases List.mem_singleton.mp hlm; exact hk
  | message c msg o =>
    rcases hl with rfl | ⟨ls1, _, h2, rfl⟩
    · cases hlm
    · rcases List.mem_append.mp hlm with hlm | hlm
      · have hf := h2 l hlm
        cases l with
        | drop o' r' => exact .inl ⟨hf.1 ▸ hk.1, hk.2 ▸ hf.2⟩
        | close c' => exact hf.elim
        | _ => exact hk.elim
      · split at hlm
        · cases hlm
        · next hok' =>
          cases List.mem_singleton.mp hlm
          exact .inr ⟨hk, Bool.eq_false_iff.mpr hok'⟩
  | disconnect c o =>
    rcases hl with rfl | rfl
    · cases hlm
    · cases List.mem_singleton.mp hlm; exact hk
  | timerFire t o =>
    -- the expiry drops a stored entry with timer `t`; having `r`'s id, it is `r`
    obtain ⟨r', rfl, htm, hst⟩ := hl.2 l hlm
    have : r' = r := nodup_map_inj (f := (·.rid)) hr.rids hst (vTable_subset_vRoutes ((stored_iff s r).mp hin)) hk.2
    exact this ▸ htm.symm

/-- Third-party independence: a stored routing entry is still stored, unchanged, after every
    operation that is not one of its resolvers. -/
theorem stored_step (cfg : Config) (s : State) (op : Op) (r : Route) (hw : RoutesWf s) (hr : RidsWf s)
    (hok : OpOk op) (hb : s.uuid + opWeight op < 4294967296) (hin : Stored s r)
    (hres : ¬ Resolves cfg s r op) : Stored (step cfg s op).1 r := by
  obtain ⟨ls, hl, hs⟩ := sim_step cfg s op hw []
  exact (stored_iff _ r).mpr (stable_steps hs.steps (room_of_op hl hw hr hok hb []) ((stored_iff s r).mp hin)
    fun l hlm hk => hres (resolves_of_kills hl hr hin hlm hk))

end Cjet.Daemon.C03
