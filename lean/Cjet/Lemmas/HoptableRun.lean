import Cjet.Lemmas.HoptableOps

/-! Helper lemmas for C17 about whole histories of a table: sizes derived from the order, the hash
functions' ranges, the empty table, the association-list reference and the refinement step for
operation sequences; counting empty slots, why `put` refuses (`put_full_reason`,
`put_full_iff_small`) and that a refused `put` does not lose capacity (with fix F25); the
iterate-while-removing loop of `router.c`. -/

set_option linter.unusedSectionVars false

namespace Cjet.Hoptable

section
open Cjet.Generated.Hoptable

/-! ### sizes -/

theorem tableSize_pos (order : Nat) : 0 < tableSize order := by
  unfold tableSize; rw [Nat.shiftLeft_eq, Nat.one_mul]; exact Nat.two_pow_pos _

theorem addRange_le (order : Nat) : addRange order ≤ tableSize order := by
  unfold addRange tableSize
  rw [Nat.shiftLeft_eq, Nat.shiftLeft_eq, Nat.one_mul, Nat.one_mul]
  exact Nat.pow_le_pow_right (by decide) (Nat.sub_le_sub_left (by decide) order)

theorem tableSize_eq (order : Nat) : tableSize order = 2 ^ order := by
  unfold tableSize
  have : tableSizeOrderSub = 0 := by decide
  rw [Nat.shiftLeft_eq, Nat.one_mul, this, Nat.sub_zero]

theorem addRange_eq (order : Nat) : addRange order = 2 ^ (order - 1) := by
  unfold addRange
  have : addRangeOrderSub = 1 := by decide
  rw [Nat.shiftLeft_eq, Nat.one_mul, this]

/-! ### ranges of the three hash functions (for `order ≤ 32`) -/

theorem shr_lt (order : Nat) (ho : order ≤ 32) (x : BitVec 32) :
    (x >>> (32 - order)).toNat < 2 ^ order := by
  rw [BitVec.toNat_ushiftRight, Nat.shiftRight_eq_div_pow]
  apply Nat.div_lt_of_lt_mul
  have h : 2 ^ (32 - order) * 2 ^ order = 2 ^ 32 := by
    rw [← Nat.pow_add]; congr 1; omega
  rw [h]
  exact x.isLt

theorem hsHash32_lt (order : Nat) (ho : order ≤ 32) (x : BitVec 32) :
    hsHash32 order x < tableSize order := by
  rw [tableSize_eq]
  unfold hsHash32
  have : h32Width = 32 := by decide
  simp only [this]
  exact shr_lt order ho _

theorem hsHash64_lt (order : Nat) (ho : order ≤ 32) (x : BitVec 64) :
    hsHash64 order x < tableSize order := by
  rw [tableSize_eq]
  unfold hsHash64
  have : h64Width = 32 := by decide
  simp only [this]
  exact shr_lt order ho _

theorem hashU32_lt (order : Nat) (ho : order ≤ 32) (k : Nat) : hashU32 order k < tableSize order :=
  hsHash32_lt order ho _

theorem hashU64_lt (order : Nat) (ho : order ≤ 32) (k : Nat) : hashU64 order k < tableSize order :=
  hsHash64_lt order ho _

theorem hashStr_lt (order : Nat) (ho : order ≤ 32) (k : Bytes) : hashStr order k < tableSize order :=
  hsHash32_lt order ho _

section
variable {K V : Type} [DecidableEq K] [Inhabited V]
variable {N : Nat} {hash : K → Nat}

/-! ### the empty table -/

theorem not_bit_empty (h d : Nat) : ¬ Bit (empty N : Table K V) h d := by
  unfold Bit; rw [slot_empty]; simp [pristine]

theorem wfs_empty : WFS N hash (empty N : Table K V) :=
  { size := size_empty N
    bits := fun h _ d _ hb => absurd hb (not_bit_empty h d)
    unique := fun p _ _ ⟨h, _, d, _, hb, _⟩ => absurd hb (not_bit_empty h d)
    nostale := fun p _ hk => by rw [slot_empty] at hk; simp [pristine] at hk }

theorem not_maps_empty (k : K) (v : V) : ¬ Maps N (empty N : Table K V) k v := by
  rintro ⟨h, _, d, _, hb, _⟩; exact not_bit_empty h d hb

/-! ### the association-list reference -/

theorem amGet_amPut (m : List (K × V)) (k k' : K) (v : V) :
    amGet (amPut m k v) k' = if k = k' then some v else amGet m k' := by
  simp [amPut, amGet]

theorem amGet_amDel (m : List (K × V)) (k k' : K) :
    amGet (amDel m k) k' = if k' = k then none else amGet m k' := by
  induction m with
  | nil => simp [amDel, amGet]
  | cons e m ih =>
    obtain ⟨k0, v0⟩ := e
    unfold amDel at ih ⊢
    simp only [List.filter_cons]
    by_cases h0 : k0 = k
    · subst h0
      simp only [ne_eq, not_true_eq_false, decide_false, Bool.false_eq_true, if_false]
      rw [ih]
      by_cases h1 : k' = k0
      · simp [h1]
      · have : ¬ k0 = k' := fun x => h1 x.symm
        simp [h1, amGet, this]
    · simp only [ne_eq, h0, not_false_eq_true, decide_true, if_true, amGet]
      by_cases h1 : k0 = k'
      · subst h1; simp [h0]
      · simp only [h1, if_false]; exact ih

/-- the table denotes the reference map -/
def Abs (N : Nat) (t : Table K V) (m : List (K × V)) : Prop :=
  ∀ k v, Maps N t k v ↔ amGet m k = some v

theorem abs_empty : Abs N (empty N : Table K V) [] := by
  intro k v
  constructor
  · intro m; exact absurd m (not_maps_empty k v)
  · intro h; simp [amGet] at h

theorem get_eq_of_abs (hN : 0 < N) {t : Table K V} (wf : WF N hash t) {m : List (K × V)}
    (abs : Abs N t m) {k : K} (hk : hash k < N) : get N hash t k = amGet m k := by
  apply Option.ext
  intro v
  rw [get_iff_maps' hN wf hk v, abs k v]

theorem abs_amPut {t t' : Table K V} {m : List (K × V)} (abs : Abs N t m) {k : K} {v : V}
    (h : ∀ k' v', Maps N t' k' v' ↔ (k' = k ∧ v' = v) ∨ (k' ≠ k ∧ Maps N t k' v')) : Abs N t' (amPut m k v) := by
  intro k' v'
  rw [h, amGet_amPut, abs k' v']
  by_cases e : k = k'
  · subst e; simp [eq_comm]
  · simp [e, Ne.symm e]

theorem abs_amDel {t t' : Table K V} {m : List (K × V)} (abs : Abs N t m) {k : K}
    (h1 : ∀ v, ¬ Maps N t' k v) (h2 : ∀ k', k' ≠ k → ∀ v', Maps N t' k' v' ↔ Maps N t k' v') :
    Abs N t' (amDel m k) := by
  intro k' v'
  rw [amGet_amDel]
  by_cases e : k' = k
  · subst e; simp [h1]
  · rw [if_neg e, h2 k' e, abs k' v']

/-- one step of the refinement -/
theorem step_refines (hN : 0 < N) {A : Nat} (hAN : A ≤ N) (clr : Bool) (hhash : ∀ k, hash k < N)
    {t : Table K V} (wf : WF N hash t) {m : List (K × V)} (abs : Abs N t m) (op : Op K V)
    (fulls : List Bool) (ops : List (Op K V)) :
    WF N hash (stepTable N A hash clr t op).2 ∧
      (clr = true → NoStale N t → NoStale N (stepTable N A hash clr t op).2) ∧
      ∃ m', Abs N (stepTable N A hash clr t op).2 m' ∧
        runAssoc m (op :: ops) ((stepTable N A hash clr t op).1.isFull :: fulls) =
          (stepTable N A hash clr t op).1 :: runAssoc m' ops fulls := by
  cases op with
  | get k =>
    refine ⟨wf, fun _ ns => ns, m, abs, ?_⟩
    simp only [stepTable, runAssoc, List.tail_cons, get_eq_of_abs hN wf abs (hhash k)]
  | remove k =>
    obtain ⟨h1, h2, h3, h4, h5⟩ := remove_spec_full hN wf (hhash k)
    refine ⟨h1, fun _ => h2, amDel m k, abs_amDel abs h4 h5, ?_⟩
    have : (remove N hash t k).1 = amGet m k := Option.ext fun v => by rw [h3, abs k v]
    simp only [stepTable, runAssoc, List.tail_cons, this]
  | put k v =>
    obtain ⟨h1, h2, h3, h4, h5⟩ := put_spec hN hAN clr wf (hhash k) v
    simp only [stepTable]
    split
    · rename_i hrc
      refine ⟨h1, h2, amPut m k v, abs_amPut abs (h3 hrc), ?_⟩
      simp [runAssoc, Out.isFull, h5, get_eq_of_abs hN wf abs (hhash k)]
    · rename_i hrc
      obtain ⟨h4a, h4b⟩ := h4 hrc
      refine ⟨h1, h2, m, fun k' v' => (h4a k' v').trans (abs k' v'), ?_⟩
      have hnone : amGet m k = none := Option.eq_none_iff_forall_ne_some.2 fun v0 hg => h4b v0 ((abs k v0).2 hg)
      simp [runAssoc, Out.isFull, hnone]

/-- any operation sequence: outputs agree with the reference, and the invariants are kept -/
theorem run_refines (hN : 0 < N) {A : Nat} (hAN : A ≤ N) (clr : Bool) (hhash : ∀ k, hash k < N) :
    ∀ (ops : List (Op K V)) (t : Table K V) (m : List (K × V)), WF N hash t → Abs N t m →
      let r := runTable N A hash clr t ops
      r.1 = runAssoc m ops (refusals r.1) ∧ WF N hash r.2 ∧
        (clr = true → NoStale N t → NoStale N r.2) := by
  intro ops
  induction ops with
  | nil => intro t m wf _; exact ⟨by simp [runTable, runAssoc], wf, fun _ ns => ns⟩
  | cons op ops ih =>
    intro t m wf abs
    simp only [runTable]
    obtain ⟨h1, h2, m', h3, h4⟩ := step_refines hN hAN clr hhash wf abs op
      (refusals (runTable N A hash clr (stepTable N A hash clr t op).2 ops).1) ops
    obtain ⟨i1, i2, i3⟩ := ih (stepTable N A hash clr t op).2 m' h1 h3
    refine ⟨?_, i2, fun hc ns => i3 hc (h2 hc ns)⟩
    simp only [refusals, List.map_cons] at h4 ⊢
    rw [h4]
    congr 1

end

/-! ### counting -/

/-- flipping one position from `true` to `false` lowers the count over `range N` by one -/
theorem countP_range_flip (f g : Nat → Bool) :
    ∀ (N a : Nat), a < N → (∀ j, j ≠ a → g j = f j) → f a = true → g a = false →
      (List.range N).countP g + 1 = (List.range N).countP f := by
  intro N
  induction N with
  | zero => intro a h; omega
  | succ n ih =>
    intro a ha hag hfa hga
    rw [List.range_succ, List.countP_append, List.countP_append, List.countP_singleton,
      List.countP_singleton]
    by_cases e : a = n
    · subst e
      have : (List.range a).countP g = (List.range a).countP f := by
        apply List.countP_congr
        intro x hx
        rw [List.mem_range] at hx
        rw [hag x (by omega)]
      rw [this, hfa, hga]; simp
    · have := ih a (by omega) hag hfa hga
      rw [hag n (fun x => e x.symm)]
      omega

/-- moving a `true` from position `a` to position `b` keeps the count -/
theorem countP_range_swap (f g : Nat → Bool) (N a b : Nat) (ha : a < N) (hb : b < N) (hab : a ≠ b)
    (hfa : f a = true) (hfb : f b = false) (hga : g a = false) (hgb : g b = true)
    (hag : ∀ j, j ≠ a → j ≠ b → g j = f j) :
    (List.range N).countP g = (List.range N).countP f := by
  let m : Nat → Bool := fun j => if j = a then false else f j
  have h1 := countP_range_flip f m N a ha (by intro j hj; simp [m, hj]) hfa (by simp [m])
  have h2 := countP_range_flip g m N b hb
    (by
      intro j hj
      by_cases e : j = a
      · subst e; simp [m, hga]
      · simp [m, e, hag j e hj])
    hgb (by simp [m, Ne.symm hab, hfb])
  omega

section
variable {K V : Type} [DecidableEq K] [Inhabited V]
variable {N : Nat} {hash : K → Nat} {t t' : Table K V}

theorem emptyCount_eq_countP (N : Nat) (t : Table K V) :
    emptyCount N t = (List.range N).countP (fun i => (slot t i).key.isNone) := by
  unfold emptyCount; rw [List.countP_eq_length_filter]

theorem map_slot_range (t : Table K V) : (List.range t.size).map (slot t) = t.toList := by
  apply List.ext_getElem
  · simp
  · intro i h1 h2
    simp at h1
    simp [slot, Array.getD, h1]

/-- for evaluation: one pass over the array instead of `N` indexed reads -/
theorem emptyCount_toList (h : t.size = N) : emptyCount N t = t.toList.countP (·.key.isNone) := by
  rw [emptyCount_eq_countP, ← map_slot_range, List.countP_map, h]
  rfl

/-! ### why `put` refuses -/

/-- invariant of the displacement loop of the fixed code, for the refusal analysis -/
structure FullInv (N A : Nat) (hash : K → Nat) (t : Table K V) (h fp fd : Nat) : Prop where
  wf : WF N hash t
  ns : NoStale N t
  pos : (h + fd) % N = fp
  fdA : fd < A
  keynone : (slot t fp).key = none
  before : ∀ d, d < fd → Live N t ((h + d) % N)

theorem displace_full (hN : 0 < N) {A : Nat} (hAN : A ≤ N) {h : Nat} (hh : h < N) (k : K) (v : V) :
    ∀ (f : Nat) (t : Table K V) (fp fd : Nat), fd < f → FullInv N A hash t h fp fd →
      (displace N true h k v f t fp fd).1 = .full →
        Stuck N A (displace N true h k v f t fp fd).2 h ∧
          emptyCount N (displace N true h k v f t fp fd).2 = emptyCount N t := by
  intro f t fp fd hlt inv hfull
  fun_induction displace N true h k v f t fp fd with
  | case1 => omega
  | case2 => cases hfull
  | case3 f t fp fd hfd hfc =>
    refine ⟨⟨fd, Nat.le_of_not_lt hfd, inv.fdA, inv.pos ▸ inv.keynone, inv.before, inv.pos ▸ ?_⟩, rfl⟩
    exact fun cd h1 h2 i hi => findCloser_none true t fp _ hfc cd h1 (Nat.le_sub_of_add_le (Nat.succ_le_of_lt h2)) i hi
  | case4 f t fp fd hfd fp' t' hfc ih =>
    have hWfd : W ≤ fd := Nat.le_of_not_lt hfd
    have hfdN : fd < N := Nat.lt_of_lt_of_le inv.fdA hAN
    have hcdW := closerStart_lt
    generalize W - closerStartSub = cd at hfc hcdW
    have mr := findCloser_some hN true inv.wf (inv.pos ▸ Nat.mod_lt _ hN)
      (inv.wf.not_live_of_none inv.keynone) _ fp' t' hcdW (Nat.lt_trans hcdW (Nat.lt_of_le_of_lt hWfd hfdN)) hfc
    obtain ⟨cd', i, hc1, hc2, hc3, hc4⟩ := mr.dist
    -- the new free position is strictly closer to the home bucket
    have hcd' : cd' ≤ fd := Nat.le_trans hc2 (Nat.le_trans (Nat.le_of_lt hcdW) hWfd)
    obtain ⟨g, hg, hgfd⟩ : ∃ g, fd - cd' + i = g ∧ g < fd :=
      ⟨_, rfl, Nat.lt_of_lt_of_eq (Nat.add_lt_add_left hc3 _) (Nat.sub_add_cancel hcd')⟩
    have hgN : g < N := Nat.lt_trans hgfd hfdN
    have hfp' : fp' = (h + g) % N := by
      rw [hc4, ← inv.pos, subWrap_add_le hcd' (Nat.lt_of_le_of_lt hcd' hfdN), Nat.mod_add_mod, Nat.add_assoc, hg]
    rw [show subWrap N fp' h = g from hfp' ▸ subWrap_add hh hgN] at ih hfull ⊢
    obtain ⟨s1, s2⟩ := ih (Nat.lt_of_lt_of_le hgfd (Nat.le_of_lt_succ hlt))
      { wf := mr.wf'
        ns := mr.nostale rfl inv.ns
        pos := hfp'.symm
        fdA := Nat.lt_trans hgfd inv.fdA
        keynone := by rw [mr.key, if_pos ⟨rfl, rfl⟩]
        before := fun d hd => (mr.live _).2 <| .inl ⟨inv.before d (Nat.lt_trans hd hgfd), fun e =>
          Nat.ne_of_lt hd (add_mod_inj hh (Nat.lt_trans hd hgN) hgN (hfp' ▸ e))⟩ } hfull
    refine ⟨s1, s2.trans ?_⟩
    -- one displacement keeps the number of empty slots
    rw [emptyCount_eq_countP, emptyCount_eq_countP]
    obtain ⟨kk, hkk⟩ := inv.wf.live_key mr.wasLive
    have hne : fp ≠ fp' := fun e => by rw [← e, inv.keynone] at hkk; cases hkk
    apply countP_range_swap _ _ N fp fp' (inv.pos ▸ Nat.mod_lt _ hN) (live_lt hN mr.wasLive) hne
    · simp [inv.keynone]
    · simp [hkk]
    · simp [mr.key, hne, hkk]
    · simp [mr.key]
    · intro j h1 h2; simp [mr.key, h1, h2]

/-- `full_reason` for abstract sizes -/
theorem put_full_reason (hN : 0 < N) {A : Nat} (hAN : A ≤ N) (wfs : WFS N hash t) {k : K}
    (hk : hash k < N) (v : V) (hrc : (put N A hash true t k v).rc = .full) :
    (¬ ∃ v, Maps N t k v) ∧
      (WindowOccupied N A t (hash k) ∨ Stuck N A (put N A hash true t k v).tab (hash k)) ∧
      emptyCount N (put N A hash true t k v).tab = emptyCount N t := by
  have habs := ((put_spec hN hAN true wfs.toWF hk v).2.2.2.1 hrc).2
  refine ⟨fun ⟨v, m⟩ => habs v m, ?_⟩
  obtain ⟨hp3, hp4, hp5⟩ := probe_window hN t A hk
  rw [put_of_lookup_none true v (lookup_eq_none hN hk habs)] at hrc ⊢
  split at hrc
  · rename_i hlt
    rw [if_pos hlt]
    obtain ⟨s1, s2⟩ := displace_full hN hAN hk k v N t _ _ (by omega)
      { wf := wfs.toWF, ns := wfs.nostale, pos := hp3.symm, fdA := hlt, keynone := hp5 hlt
        before := fun d hd => wfs.nostale _ (Nat.mod_lt _ hN) (hp4 d hd) } hrc
    exact ⟨.inr s1, s2⟩
  · rename_i hlt
    rw [if_neg hlt]
    exact ⟨.inl fun d hd => wfs.nostale _ (Nat.mod_lt _ hN) (hp4 d (by omega)), rfl⟩

/-- when the add range does not exceed the hop range, `put` refuses exactly when the key is
absent and every slot of the probe window is occupied (no displacement is ever attempted) -/
theorem put_full_iff_small (hN : 0 < N) {A : Nat} (hAN : A ≤ N) (hAW : A ≤ W) (clr : Bool)
    (wfs : WFS N hash t) {k : K} (hk : hash k < N) (v : V) :
    (put N A hash clr t k v).rc = .full ↔
      (¬ ∃ v, Maps N t k v) ∧ WindowOccupied N A t (hash k) := by
  obtain ⟨hp3, hp4, hp5⟩ := probe_window hN t A hk
  constructor
  · intro hrc
    have habs := ((put_spec hN hAN clr wfs.toWF hk v).2.2.2.1 hrc).2
    refine ⟨fun ⟨v, m⟩ => habs v m, fun d hd => wfs.nostale _ (Nat.mod_lt _ hN) (hp4 d ?_)⟩
    rw [put_of_lookup_none clr v (lookup_eq_none hN hk habs)] at hrc
    split at hrc
    · -- an empty slot within the hop range is taken at once
      rename_i hlt
      obtain ⟨n, rfl⟩ : ∃ n, N = n + 1 := ⟨N - 1, by omega⟩
      rw [displace, if_pos (by omega)] at hrc
      cases hrc
    · omega
  · rintro ⟨habs, hwin⟩
    rw [put_of_lookup_none clr v (lookup_eq_none hN hk fun v m => habs ⟨v, m⟩), if_neg]
    exact fun hlt => wfs.toWF.not_live_of_none (hp5 hlt) (hp3 ▸ hwin _ hlt)

end
end

/-! ### the iterate-while-removing loop of `router.c` -/

section
variable {K V : Type} [DecidableEq K] [Inhabited V]
variable {N : Nat} {hash : K → Nat}

theorem emptyCount_all_none {t : Table K V} (h : ∀ j, j < N → (slot t j).key = none) :
    emptyCount N t = N := by
  rw [emptyCount_eq_countP]
  have : (List.range N).countP (fun i => (slot t i).key.isNone) = (List.range N).length := by
    rw [List.countP_eq_length]
    intro a ha
    rw [List.mem_range] at ha
    simp [h a ha]
  rw [this, List.length_range]

theorem no_maps_of_all_none {t : Table K V} (hN : 0 < N)
    (h : ∀ j, j < N → (slot t j).key = none) (k : K) (v : V) : ¬ Maps N t k v := by
  intro m
  obtain ⟨p, hl, hk, _⟩ := maps_live m
  rw [h p (live_lt hN hl)] at hk; cases hk

theorem sweepFrom_spec (hN : 0 < N) (hhash : ∀ k, hash k < N) :
    ∀ (r i : Nat) (t : Table K V), i + r = N → WFS N hash t →
      (∀ j, j < i → (slot t j).key = none) →
      WFS N hash (sweepFrom N hash r i t).2 ∧ (∀ j, j < N → (slot (sweepFrom N hash r i t).2 j).key = none) ∧
        (∀ v, v ∈ (sweepFrom N hash r i t).1 ↔ ∃ k, Maps N t k v) ∧
        (sweepFrom N hash r i t).1.length + emptyCount N t = N := by
  intro r i t hi wfs hnone
  fun_induction sweepFrom N hash r i t with
  | case1 i t =>
    have hall : ∀ j, j < N → (slot t j).key = none := fun j hj => hnone j ((show i = N from hi) ▸ hj)
    exact ⟨wfs, hall, fun v => ⟨nofun, fun ⟨k, m⟩ => absurd m (no_maps_of_all_none hN hall k v)⟩,
      by simp [emptyCount_all_none hall]⟩
  | case2 r i t hkey ih =>
    exact ih ((Nat.succ_add_eq_add_succ i r).trans hi) wfs fun j hj => (Nat.lt_succ_iff_lt_or_eq.1 hj).elim (hnone j) (· ▸ hkey)
  | case3 r i t k hkey v t' hrem s ih =>
    -- slot `i` is live (no ghost slots), so the lookup of its key finds slot `i` itself
    have hiN : i < N := hi ▸ Nat.lt_add_of_pos_right (Nat.succ_pos r)
    have hlive : Live N t i := wfs.nostale i hiN (by simp [hkey])
    have hl := lookup_of_live hN wfs.toWF (hhash k) hlive hkey
    have m0 := maps_of_live hlive hkey
    obtain ⟨r1, r2, r3, r4, r5⟩ := remove_spec_full hN wfs.toWF (hhash k)
    have hkeys : ∀ j, (slot t' j).key = if j = i then none else (slot t j).key := by
      rw [remove_of_lookup_some hl] at hrem
      obtain ⟨_, rfl⟩ := Prod.mk.inj hrem
      intro j; simp [key_setKey, wfs.size, hiN]
    rw [hrem] at r1 r2 r3 r4 r5
    obtain ⟨i1, i2, i3, i4⟩ := ih ((Nat.succ_add_eq_add_succ i r).trans hi) { toWF := r1, nostale := r2 wfs.nostale } fun j hj => by
      rw [hkeys]; split
      · rfl
      · rename_i hne; exact hnone j (Nat.lt_of_le_of_ne (Nat.le_of_lt_succ hj) hne)
    refine ⟨i1, i2, fun w => ?_, ?_⟩
    · rw [List.mem_cons, i3 w]
      constructor
      · rintro (rfl | ⟨k', m⟩)
        · exact ⟨k, (r3 _).1 rfl⟩
        · exact ⟨k', (r5 k' (fun e => r4 w (e ▸ m)) w).1 m⟩
      · rintro ⟨k', m⟩
        by_cases e : k' = k
        · exact .inl (wfs.maps_fun (e ▸ m) ((r3 _).1 rfl))
        · exact .inr ⟨k', (r5 k' e w).2 m⟩
    · have hcount : emptyCount N t + 1 = emptyCount N t' := by
        rw [emptyCount_eq_countP, emptyCount_eq_countP]
        apply countP_range_flip _ _ N i hiN
        · intro j hj; simp [hkeys, hj]
        · simp [hkeys]
        · simp [hkey]
      simp only [s, List.length_cons]
      omega
  | case4 r i t k hkey t' hrem ih =>
    have hlive : Live N t i := wfs.nostale i (hi ▸ Nat.lt_add_of_pos_right (Nat.succ_pos r)) (by simp [hkey])
    have := (remove_spec_full hN wfs.toWF (hhash k)).2.2.1 _ |>.2 (maps_of_live hlive hkey)
    rw [hrem] at this; cases this

end
end Cjet.Hoptable
