import Cjet.Deflate
import Cjet.Lemmas.DeflateReasm
/-! Helper lemmas for C19, part B: buffer contents, the inflate output loop, tail handling, the sender, a fragmented
message through the frame functions. -/
namespace Cjet.Deflate
open Cjet.Generated.Deflate

/-! ### writeAt -/

theorem writeAt_length (mem : Bytes) (off : Nat) (d : Bytes) (h : off + d.length ≤ mem.length) :
    (writeAt mem off d).length = mem.length := by
  simp only [writeAt, List.length_append, List.length_take, List.length_drop]
  omega

theorem writeAt_payload (mem : Bytes) (k T : Nat) (d : Bytes) (h : k + T + d.length ≤ mem.length) :
    ((writeAt mem (k + T) d).drop k).take (T + d.length) = (mem.drop k).take T ++ d := by
  have hk : (mem.take k).length = k := by rw [List.length_take]; omega
  have hT : ((mem.drop k).take T ++ d).length = T + d.length := by
    rw [List.length_append, List.length_take, List.length_drop]; omega
  rw [writeAt, List.take_add (i := k), List.append_assoc, List.append_assoc, List.drop_left' hk, ← List.append_assoc,
    List.take_left' hT]

theorem append_zeros_payload (mem : Bytes) (k T cap : Nat) (hT : k + T ≤ mem.length) (hle : mem.length ≤ cap) :
    (mem ++ List.replicate (cap - mem.length) 0).length = cap ∧
    ((mem ++ List.replicate (cap - mem.length) 0).drop k).take T = (mem.drop k).take T := by
  constructor
  · rw [List.length_append, List.length_replicate, Nat.add_sub_cancel' hle]
  · rw [List.drop_append_of_le_length (by omega), List.take_append_of_le_length (by rw [List.length_drop]; omega)]

/-! ### the reassembly buffer with its bytes -/

/-- `T` bytes (`data`) of the current message are stored behind the size word -/
def BufInv (b : RBuf) (T : Nat) (data : Bytes) : Prop :=
  Good b.st T ∧ data.length = T ∧ (b.live = true ↔ 0 < T) ∧
  (0 < T → b.mem.length = b.st.cap ∧ (b.mem.drop 4).take T = data)

theorem bufInv_init : BufInv RBuf.init 0 [] :=
  ⟨good_init, rfl, by simp [RBuf.init], fun h => absurd h (Nat.lt_irrefl 0)⟩

theorem reasmBytes_loop (b : RBuf) (T : Nat) (data frag : Bytes) (hI : BufInv b T data) :
    ∃ b', reasmBytes true b frag = some b' ∧ BufInv b' (T + frag.length) (data ++ frag) := by
  by_cases h0 : frag.length = 0
  · obtain rfl := List.eq_nil_of_length_eq_zero h0
    exact ⟨b, rfl, by simpa using hI⟩
  obtain ⟨hg, hlen, hlive, hmem⟩ := hI
  obtain ⟨c1, c2, c3, c4, c5, c6, c7⟩ := stepCopy_loop_good b.st T frag.length hg (Nat.pos_of_ne_zero h0)
  simp only [reasmBytes, h0, if_false, c1, if_true]
  generalize stepCopy true b.st frag.length = r at c1 c2 c3 c4 c5 c6 c7 ⊢
  -- the buffer the fragment is copied into has `cap` bytes, with the bytes stored so far still in place
  have hm0 : ∃ mem0, (if r.1.fresh = true then List.replicate r.1.cap 0
      else b.mem ++ List.replicate (r.1.cap - b.mem.length) 0) = mem0 ∧
      mem0.length = r.1.cap ∧ (mem0.drop 4).take T = data := by
    by_cases hT : T = 0
    · subst hT
      exact ⟨_, if_pos (c4.2 rfl), List.length_replicate, (List.eq_nil_of_length_eq_zero hlen).symm⟩
    · have hT' := Nat.pos_of_ne_zero hT
      obtain ⟨hm1, hm2⟩ := hmem hT'
      have hfill : 4 + T ≤ b.mem.length := by
        rcases hg.2 with ⟨h, _⟩ | ⟨_, _, h⟩
        · exact absurd h hT
        · omega
      obtain ⟨l1, l2⟩ := append_zeros_payload b.mem 4 T r.1.cap hfill (by rw [hm1, c5]; exact c7 hT')
      exact ⟨_, if_neg fun h => hT (c4.1 h), l1, l2.trans hm2⟩
  obtain ⟨mem0, hm, hl0, hp0⟩ := hm0
  have hcapL : 4 + T + frag.length ≤ mem0.length := by
    rw [hl0, ← c2, ← c3]; exact of_decide_eq_true c1
  rw [hm, c2]
  refine ⟨_, rfl, c6, by rw [List.length_append, hlen], ⟨fun _ => Nat.add_pos_right _ (Nat.pos_of_ne_zero h0), fun _ => rfl⟩,
    fun _ => ⟨?_, ?_⟩⟩
  · rw [writeAt_length _ _ _ hcapL, hl0, c5]
  · rw [writeAt_payload _ _ _ _ hcapL, hp0]
/-! ### the inflate output loop -/

/-- the buffer the next `inflate` call gets (doubled if it was full) -/
theorem outGrow_spec (st : OutSt) (hs : 0 < st.sizeOut) (hn : st.nextOut + st.availOut = st.sizeOut) :
    ∃ st1, (if st.availOut = 0 then ⟨st.sizeOut * 2, st.availOut + st.sizeOut, st.sizeOut * 2 / 2⟩ else st) = st1 ∧
      st1.nextOut = st.nextOut ∧ 0 < st1.availOut ∧ st1.nextOut + st1.availOut = st1.sizeOut := by
  by_cases h : st.availOut = 0
  · have hd : st.sizeOut * 2 / 2 = st.sizeOut := Nat.mul_div_cancel _ (by decide)
    refine ⟨_, if_pos h, ?_, Nat.add_pos_right _ hs, ?_⟩
    · show st.sizeOut * 2 / 2 = st.nextOut; omega
    · show st.sizeOut * 2 / 2 + (st.availOut + st.sizeOut) = st.sizeOut * 2; omega
  · exact ⟨_, if_neg h, rfl, Nat.pos_of_ne_zero h, hn⟩

/-- every `inflate` call of the loop stores inside the output buffer it was given, directly behind the
    previous one -/
def chunksFrom : Nat → List OutChunk → Prop
  | _, [] => True
  | n, c :: rest => c.off = n ∧ c.off + c.len ≤ c.size ∧ chunksFrom (n + c.len) rest

theorem outLoop_spec (fuel remaining : Nat) (st : OutSt)
    (hs : 0 < st.sizeOut) (hn : st.nextOut + st.availOut = st.sizeOut) :
    chunksFrom st.nextOut (outLoop fuel remaining st).1 ∧
    (outLoop fuel remaining st).2.nextOut + (outLoop fuel remaining st).2.availOut =
      (outLoop fuel remaining st).2.sizeOut ∧
    (remaining < fuel → (outLoop fuel remaining st).2.nextOut = st.nextOut + remaining) := by
  induction fuel generalizing remaining st with
  | zero => exact ⟨trivial, hn, nofun⟩
  | succ n ih =>
    obtain ⟨st1, h, e1, e2, e3⟩ := outGrow_spec st hs hn
    simp only [outLoop, h]
    rw [← e1]
    by_cases hle : st1.availOut ≤ remaining
    · -- the call fills the buffer: one more turn, with the rest
      rw [Nat.min_eq_left hle, Nat.sub_self, if_pos rfl]
      obtain ⟨i1, i2, i3⟩ := ih (remaining - st1.availOut) ⟨st1.sizeOut, 0, st1.nextOut + st1.availOut⟩
        (by rw [← e3]; exact Nat.add_pos_right _ e2) e3
      refine ⟨⟨rfl, Nat.le_of_eq e3, i1⟩, i2, fun hf => ?_⟩
      rw [i3 (by omega), Nat.add_assoc, Nat.add_sub_of_le hle]
    · have hlt := Nat.lt_of_not_le hle
      rw [Nat.min_eq_right (Nat.le_of_lt hlt), if_neg (Nat.sub_ne_zero_of_lt hlt)]
      refine ⟨⟨rfl, ?_, trivial⟩, ?_, fun _ => rfl⟩
      · show st1.nextOut + remaining ≤ st1.sizeOut; omega
      · show st1.nextOut + remaining + (st1.availOut - remaining) = st1.sizeOut; omega

theorem outHave_eq (total s0 : Nat) (h : 0 < s0) : outHave total s0 = total := by
  obtain ⟨-, h1, h2⟩ := outLoop_spec (total + 2) total ⟨s0, s0, 0⟩ h (Nat.zero_add s0)
  have := h2 (by omega)
  unfold outHave
  simp only at this ⊢
  omega

theorem privateDecompress_eq (inflate : Bytes → Option Bytes) {msg : Bytes} (hne : msg ≠ []) :
    privateDecompress inflate msg = inflate (msg ++ tail) := by
  have hlen : 0 < inflateOutFactor * msg.length := Nat.mul_pos (by decide) (List.length_pos_iff.2 hne)
  rw [privateDecompress, if_neg (Nat.ne_of_gt hlen)]
  cases inflate (msg ++ tail) with
  | none => rfl
  | some out => simp only [outHave_eq _ _ hlen, List.take_length]

theorem recvMessage_ne_wild (inflate : Bytes → Option Bytes) (m : Bytes) : recvMessage inflate m ≠ .wild := by
  unfold recvMessage
  split <;> nofun

/-! ### tail -/

theorem tail_length : tail.length = 4 := rfl

theorem tailStrip_eq : tailStrip = 4 := rfl

/-- strip-then-reappend is the identity on streams that end with the tail -/
theorem strip_append_tail (s : Bytes) (ht : endsWithTail s = true) : stripTail s ++ tail = s := by
  unfold endsWithTail at ht
  unfold stripTail
  have : s.drop (s.length - tailStrip) = tail := by simpa using ht
  rw [← this]
  exact List.take_append_drop _ _

theorem length_append_tail_sub (c : Bytes) : (c ++ tail).length - tailStrip = c.length := by
  simp [tail_length, tailStrip]

theorem endsWithTail_append (c : Bytes) : endsWithTail (c ++ tail) = true := by
  rw [endsWithTail, length_append_tail_sub, List.drop_left]
  exact beq_self_eq_true tail

theorem stripTail_append (c : Bytes) : stripTail (c ++ tail) = c := by
  rw [stripTail, length_append_tail_sub, List.take_left]

theorem endsWithTail_length (s : Bytes) (h : endsWithTail s = true) : tailStrip ≤ s.length := by
  have := congrArg List.length (eq_of_beq h)
  rw [List.length_drop, tail_length] at this
  unfold tailStrip at this ⊢
  omega

variable (zd : Bytes → Option Bytes) (destSize : Nat) (x : Bytes)

/-! ### the sender -/

/-- The repaired compressor in one piece, for ANY zlib output and ANY destination size: data exactly when zlib's complete
    output ends with the tail and is shorter than the destination (that output without its tail), otherwise an error; the
    model's `wild` (the out-of-bounds tail check) does not occur. -/
theorem compress_strict_eq :
    compress true zd destSize x =
      match zd x with
      | none => .error
      | some full =>
        if full.length < destSize ∧ endsWithTail full = true then .ok (stripTail full) true else .error := by
  unfold compress
  cases zd x with
  | none => exact ite_self _
  | some full =>
    dsimp only
    by_cases hd : destSize = 0
    · rw [if_pos hd, if_neg fun h => absurd h.1 (by omega)]
    rw [if_neg hd]
    simp only [Bool.true_and, if_true]
    by_cases hlt : full.length < destSize
    · rw [List.take_of_length_le (Nat.le_of_lt hlt), if_neg (by rw [beq_iff_eq]; omega)]
      by_cases ht : endsWithTail full = true
      · have := endsWithTail_length full ht
        rw [if_neg (by omega), ht, if_neg nofun, if_pos ⟨hlt, rfl⟩]
      · rw [Bool.not_eq_true] at ht
        simp only [ht, Bool.not_false, if_true, ite_self, Bool.false_eq_true, and_false, if_false]
    · rw [if_pos (by rw [beq_iff_eq, List.length_take]; omega), if_neg fun h => hlt h.1]

/-- a complete message (`c`, then the tail) or an error, never a cut-off stream -/
theorem compress_strict_spec :
    compress true zd destSize x = .error ∨
      ∃ c, compress true zd destSize x = .ok c true ∧ zd x = some (c ++ tail) ∧ (c ++ tail).length < destSize := by
  rw [compress_strict_eq]
  cases zd x with
  | none => exact .inl rfl
  | some full =>
    dsimp only
    split
    · next hc => exact .inr ⟨_, rfl, by rw [strip_append_tail _ hc.2], by rw [strip_append_tail _ hc.2]; exact hc.1⟩
    · exact .inl rfl

theorem compress_strict_ok {zd : Bytes → Option Bytes} {destSize : Nat} {x c : Bytes}
    (hz : zd x = some (c ++ tail)) (hlt : (c ++ tail).length < destSize) :
    compress true zd destSize x = .ok c true := by
  rw [compress_strict_eq, hz]
  exact (if_pos ⟨hlt, endsWithTail_append c⟩).trans (by rw [stripTail_append])

/-- what the repaired compressor touches of `dest`, for ANY zlib output: zlib stores at most `destSize`
    bytes, and the tail check reads only bytes that were just stored -/
theorem compressAccess_strict :
    (compressAccess true zd destSize x).written ≤ destSize ∧
    ∀ i ∈ (compressAccess true zd destSize x).reads,
      0 ≤ i ∧ i < Int.ofNat (compressAccess true zd destSize x).written := by
  unfold compressAccess
  by_cases hd : destSize = 0
  · rw [if_pos hd]; exact ⟨Nat.zero_le _, nofun⟩
  rw [if_neg hd]
  cases zd x with
  | none => exact ⟨Nat.zero_le _, nofun⟩
  | some full =>
    dsimp only
    have hw : (full.take destSize).length ≤ destSize := by rw [List.length_take]; exact Nat.min_le_left _ _
    generalize (full.take destSize).length = w at hw ⊢
    by_cases hc : (true && (w == destSize || decide (w < tailStrip))) = true
    · rw [if_pos hc]; exact ⟨hw, nofun⟩
    · rw [if_neg hc]
      refine ⟨hw, fun i hi => ?_⟩
      obtain ⟨k, hk, rfl⟩ := List.mem_map.1 hi
      -- at least `tailStrip` bytes were stored, and `k < tailStrip`
      have h4 : ¬ w < tailStrip := fun h => hc (by simp [h])
      rw [List.mem_range] at hk
      unfold tailStrip at h4 hk
      simp only [Int.ofNat_eq_natCast]
      omega

theorem compressCopy_strict :
    compressCopy true destSize x = (if destSize < x.length then .error else .ok x true) := rfl

/-- `send_frame` of the repaired code when `malloc` succeeds -/
theorem sendFrame_checked (strict : Bool) (dbound : Nat → Nat) :
    sendFrame strict true true dbound zd x =
      match compress strict zd (compressBound dbound x.length) x with
      | .ok c _ => .sent c
      | _ => .error := rfl

/-! ### a codec that satisfies the assumptions made about zlib -/

def storedDeflate (x : Bytes) : Bytes := (0 :: x) ++ tail

def storedInflate (s : Bytes) : Bytes := (s.drop 1).take (s.length - 5)

/-- zlib's conservative `deflateBound` formula -/
def storedBound (n : Nat) : Nat := n + (n + 7) / 8 + (n + 63) / 64 + 5

theorem storedInflate_deflate (x : Bytes) : storedInflate (storedDeflate x) = x := by
  simp [storedInflate, storedDeflate, tail_length]

theorem storedDeflate_length_le (x : Bytes) : (storedDeflate x).length ≤ storedBound x.length + flushMarkerMax := by
  simp only [storedDeflate, storedBound, flushMarkerMax, List.length_append, List.length_cons, tail_length]
  omega

/-! ### a whole fragmented message through the fixed code -/

theorem recvFrames_cons_cons (loops guard : Bool) (inflate : Bytes → Option Bytes) (b : RBuf)
    (f g : Bytes) (r : List Bytes) :
    recvFrames loops guard inflate b (f :: g :: r) =
      match reasmBytes loops b f with
      | none => Recv.wild
      | some b' => recvFrames loops guard inflate b' (g :: r) := by
  rw [recvFrames]
  cases reasmBytes loops b f <;> rfl

theorem BufInv.final {b : RBuf} {T : Nat} {data : Bytes} (hI : BufInv b T data) :
    (data = [] ∧ b.st.avail = 0) ∨
    (data ≠ [] ∧ b.st.avail ≠ 0 ∧ b.live = true ∧
      (b.mem.drop reasmHeader).take (b.st.cap - b.st.avail - reasmHeader) = data) := by
  obtain ⟨hg, hlen, hlive, hmem⟩ := hI
  rcases hg.2 with ⟨hT, ha⟩ | ⟨hT, ha, hc⟩
  · exact .inl ⟨List.eq_nil_of_length_eq_zero (hlen.trans hT), ha⟩
  · have hs : b.st.cap - b.st.avail - reasmHeader = T := by unfold reasmHeader; omega
    exact .inr ⟨fun h => by rw [h] at hlen; exact absurd hlen.symm (Nat.ne_of_gt hT), by omega, hlive.2 hT,
      hs ▸ (hmem hT).2⟩

theorem recvFrames_eq (inflate : Bytes → Option Bytes) (frs : List Bytes) (hne : frs ≠ [])
    (b : RBuf) (T : Nat) (data : Bytes) (hI : BufInv b T data) :
    recvFrames true true inflate b frs =
      if data ++ frs.flatten = [] then Recv.error else recvMessage inflate (data ++ frs.flatten) := by
  induction frs generalizing b T data with
  | nil => exact absurd rfl hne
  | cons f rest ih =>
    obtain ⟨b', hb', hI'⟩ := reasmBytes_loop b T data f hI
    cases rest with
    | nil =>
      simp only [recvFrames, hb', List.flatten_cons, List.flatten_nil, List.append_nil, Bool.true_and]
      rcases hI'.final with ⟨hd, ha⟩ | ⟨hd, ha, hl, hm⟩
      · rw [if_pos (beq_iff_eq.2 ha), if_pos hd]
      · rw [if_neg (by rwa [beq_iff_eq]), hl, if_neg nofun, if_neg hd, hm]
    | cons g rest' =>
      rw [recvFrames_cons_cons, hb']
      show recvFrames true true inflate b' (g :: rest') = _
      rw [ih (by simp) b' (T + f.length) (data ++ f) hI']
      simp [List.append_assoc]

theorem recvFrames_ne_wild (inflate : Bytes → Option Bytes) (frs : List Bytes) {b : RBuf} {T : Nat} {data : Bytes}
    (hI : BufInv b T data) : recvFrames true true inflate b frs ≠ .wild := by
  cases frs with
  | nil => rw [recvFrames]; nofun
  | cons f rest =>
    rw [recvFrames_eq inflate (f :: rest) (List.cons_ne_nil _ _) b T data hI]
    split
    · nofun
    · exact recvMessage_ne_wild inflate _

end Cjet.Deflate
