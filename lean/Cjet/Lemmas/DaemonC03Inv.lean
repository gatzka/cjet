/-
  DaemonC03Inv — invariants of the router transition system, one proof per label.  Of the tables:
  `WfV` (unconditional: owners, live requesters, timers below the counter and distinct) and `RidsV`
  (needs "the 32-bit counter did not wrap" and well-formed address tokens: every stored id was
  generated from a counter value below the current one, ids distinct); `Room` bundles the side
  conditions of `RidsV` along a list of labels, `steps_induct` is the induction along router steps
  that the other files use.  Of ONE routing entry: it stays in its owner's table unless the step
  is the resolution of that very entry (`drop` with its id in its owner's table) or the release of
  its owner or requester.  Of the timer log (`DInv`): a timer id is destroyed at most once over the
  whole history and never while an entry with that timer is stored.  Of ids (`RidDead`): an id
  that was generated in the past and is not stored now is never stored again (while the counter
  does not wrap).
-/
import Cjet.Lemmas.DaemonC03Lts

namespace Cjet.Daemon.C03

open Cjet Cjet.Json Cjet.Daemon

/-! ## WfV -/

theorem WfV.mono_nt {V : List PV} {nt nt' : Nat} (h : WfV V nt) (hle : nt ≤ nt') : WfV V nt' :=
  ⟨h.conns, h.owner, h.requester, fun r hr => Nat.lt_of_lt_of_le (h.timerLt r hr) hle, h.timers⟩

theorem WfV.vRemove {V : List PV} {nt : Nat} (h : WfV V nt) (o : Nat) (rid : Bytes) :
    WfV (vRemove V o rid) nt := by
  have hsub := vRoutes_vRemove_sublist V o rid
  refine ⟨by rw [vRemove_conns]; exact h.conns, ?_, ?_, ?_, ?_⟩
  · intro w hw r hr
    obtain ⟨v, hv, rfl⟩ := mem_vRemove.mp hw
    split at hr
    · next hc =>
      simp only [hc]
      exact h.owner v hv r (List.mem_filter.mp hr).1
    · next hc =>
      simp only [hc]
      exact h.owner v hv r hr
  · intro r hr
    rw [vRemove_conns]
    exact h.requester r (hsub.subset hr)
  · intro r hr
    exact h.timerLt r (hsub.subset hr)
  · exact List.Nodup.sublist (hsub.map _) h.timers

theorem WfV.vAdd {V : List PV} {nt : Nat} (h : WfV V nt) (r : Route)
    (hreq : r.requester ∈ V.map (·.conn)) (ht : r.timer = nt) : WfV (vAdd V r.owner r) (nt + 1) := by
  refine ⟨by rw [vAdd_conns]; exact h.conns, ?_, ?_, ?_, ?_⟩
  · intro w hw r' hr'
    obtain ⟨v, hv, rfl⟩ := mem_vAdd.mp hw
    split at hr'
    · next hc =>
      simp only [hc]
      simp only [List.mem_append, List.mem_singleton] at hr'
      rcases hr' with hr' | rfl
      · exact h.owner v hv r' hr'
      · exact (beq_iff_eq.mp hc).symm
    · next hc =>
      simp only [hc]
      exact h.owner v hv r' hr'
  · intro r' hr'
    rw [vAdd_conns]
    rcases mem_vRoutes_vAdd hr' with hr' | rfl
    · exact h.requester r' hr'
    · exact hreq
  · intro r' hr'
    rcases mem_vRoutes_vAdd hr' with hr' | rfl
    · exact Nat.lt_succ_of_lt (h.timerLt r' hr')
    · omega
  · apply nodup_vRoutes_vAdd _ h.conns h.timers
    intro a ha
    have := h.timerLt a ha
    omega

theorem WfV.vClose {V : List PV} {nt : Nat} (h : WfV V nt) (c : Nat) : WfV (vClose V c) nt := by
  have hsub := vRoutes_vClose_sublist V c
  refine ⟨List.Nodup.sublist (vClose_conns_sublist V c) h.conns, ?_, ?_, ?_, ?_⟩
  · intro w hw r hr
    obtain ⟨v, hv, _, rfl⟩ := mem_vClose.mp hw
    exact h.owner v hv r (List.mem_filter.mp hr).1
  · intro r hr
    obtain ⟨v, hv, _, hrv, hne⟩ := mem_vRoutes_vClose.mp hr
    exact mem_vClose_conns (h.requester r (mem_vRoutes.mpr ⟨v, hv, hrv⟩)) hne
  · intro r hr
    exact h.timerLt r (hsub.subset hr)
  · exact List.Nodup.sublist (hsub.map _) h.timers

theorem WfV.connect {V : List PV} {nt : Nat} (h : WfV V nt) (c : Nat) (addr : Bytes)
    (hc : ∀ v ∈ V, v.conn ≠ c) : WfV (V ++ [⟨c, addr, []⟩]) nt := by
  have hr := vRoutes_connect V c addr
  refine ⟨?_, ?_, ?_, ?_, ?_⟩
  · rw [List.map_append, List.nodup_append]
    refine ⟨h.conns, by simp, ?_⟩
    intro a ha b hb
    simp only [List.map_cons, List.map_nil, List.mem_singleton] at hb
    obtain ⟨v, hv, rfl⟩ := List.mem_map.mp ha
    rw [hb]; exact hc v hv
  · intro w hw r hr'
    rcases List.mem_append.mp hw with hw | hw
    · exact h.owner w hw r hr'
    · simp only [List.mem_singleton] at hw
      subst hw
      cases hr'
  · intro r hr'
    rw [hr] at hr'
    rw [List.map_append]
    exact List.mem_append_left _ (h.requester r hr')
  · intro r hr'
    rw [hr] at hr'
    exact h.timerLt r hr'
  · rw [hr]; exact h.timers

theorem Fresh.requester_mem {a : RS} {r : Route} (h : Fresh a r) : r.requester ∈ a.V.map (·.conn) := by
  obtain ⟨q, hq, h1, _, _⟩ := h
  exact List.mem_map.mpr ⟨q, hq, h1.symm⟩

theorem Fresh.timer {a : RS} {r : Route} (h : Fresh a r) : r.timer = a.nt := h.choose_spec.2.2.2

/-- the structural invariant is preserved by every router step -/
theorem wf_app {l : Lbl} {a : RS} (hp : Pre l a) (h : a.Wf) : (app l a).Wf := by
  cases l with
  | tick => exact h
  | full => exact WfV.mono_nt h (Nat.le_succ _)
  | issue r tns => exact WfV.vAdd h r hp.requester_mem hp.timer
  | issueFail r tns => exact (WfV.vAdd h r hp.requester_mem hp.timer).vRemove _ _
  | drop o r => exact WfV.vRemove h o r.rid
  | close c => exact WfV.vClose h c
  | connect c addr => exact WfV.connect h c addr hp

theorem wf_steps {ls : List Lbl} {a b : RS} (hs : Steps ls a b) (h : a.Wf) : b.Wf := by
  induction ls generalizing a with
  | nil => cases hs; exact h
  | cons l t ih => exact ih hs.2 (wf_app hs.1 h)

/-! ## RidsV: distinct generated ids -/

/-- Every address token is well formed, the counter is below 2³², every stored id was generated
    from a counter value below the current one, and the stored ids are pairwise distinct. -/
structure RidsV (V : List PV) (uuid : Nat) : Prop where
  addrs : ∀ v ∈ V, AddrOk v.addr
  bound : uuid < 4294967296
  issued : ∀ r ∈ vRoutes V, ∃ u, u < uuid ∧ uuidSeg r.rid = hexDigits u
  rids : ((vRoutes V).map (·.rid)).Nodup

def RS.Rids (a : RS) : Prop := RidsV a.V a.uuid

theorem RidsV.mono {V : List PV} {u u' : Nat} (h : RidsV V u) (hle : u ≤ u') (hb : u' < 4294967296) :
    RidsV V u' :=
  ⟨h.addrs, hb, fun r hr => (h.issued r hr).imp fun _ hx => ⟨Nat.lt_of_lt_of_le hx.1 hle, hx.2⟩, h.rids⟩

theorem RidsV.sub {V W : List PV} {u : Nat} (h : RidsV V u) (ha : ∀ w ∈ W, ∃ v ∈ V, w.addr = v.addr)
    (hs : (vRoutes W).Sublist (vRoutes V)) : RidsV W u :=
  ⟨fun w hw => by obtain ⟨v, hv, e⟩ := ha w hw; rw [e]; exact h.addrs v hv, h.bound,
   fun r hr => h.issued r (hs.subset hr), List.Nodup.sublist (hs.map _) h.rids⟩

theorem RidsV.vRemove {V : List PV} {u : Nat} (h : RidsV V u) (o : Nat) (rid : Bytes) :
    RidsV (vRemove V o rid) u := by
  apply h.sub _ (vRoutes_vRemove_sublist V o rid)
  intro w hw
  obtain ⟨v, hv, rfl⟩ := mem_vRemove.mp hw
  exact ⟨v, hv, by split <;> rfl⟩

theorem RidsV.vClose {V : List PV} {u : Nat} (h : RidsV V u) (c : Nat) : RidsV (vClose V c) u := by
  apply h.sub _ (vRoutes_vClose_sublist V c)
  intro w hw
  obtain ⟨v, hv, _, rfl⟩ := mem_vClose.mp hw
  exact ⟨v, hv, rfl⟩

/-- the id of a fresh entry carries the current counter value -/
theorem Fresh.uuidSeg {a : RS} {r : Route} (h : Fresh a r) (hr : a.Rids) :
    uuidSeg r.rid = hexDigits a.uuid := by
  obtain ⟨q, hq, _, h2, _⟩ := h
  rw [h2]
  exact uuidSeg_routedId _ _ _ (hr.addrs q hq)

/-- a fresh id differs from every stored one -/
theorem Fresh.rid_new {a : RS} {r : Route} (h : Fresh a r) (hr : a.Rids) :
    ∀ r' ∈ vRoutes a.V, r'.rid ≠ r.rid := by
  intro r' hr' e
  obtain ⟨u, hu, hseg⟩ := hr.issued r' hr'
  rw [e, h.uuidSeg hr] at hseg
  have := hexDigits_inj hseg
  omega

theorem RidsV.vAdd {a : RS} {r : Route} (h : a.Rids) (hc : (a.V.map (·.conn)).Nodup) (hf : Fresh a r)
    (hb : a.uuid + 1 < 4294967296) : RidsV (vAdd a.V r.owner r) (a.uuid + 1) := by
  refine ⟨?_, hb, ?_, ?_⟩
  · intro w hw
    obtain ⟨v, hv, rfl⟩ := mem_vAdd.mp hw
    have := h.addrs v hv
    split <;> exact this
  · intro r' hr'
    rcases mem_vRoutes_vAdd hr' with hr' | rfl
    · obtain ⟨u, hu, hs⟩ := h.issued r' hr'
      exact ⟨u, by omega, hs⟩
    · exact ⟨a.uuid, by omega, hf.uuidSeg h⟩
  · exact nodup_vRoutes_vAdd _ hc h.rids (hf.rid_new h)

theorem rids_app {l : Lbl} {a : RS} (hp : Pre l a) (hw : a.Wf) (h : a.Rids)
    (hb : a.uuid + l.ticks < 4294967296) (hconn : ∀ c addr, l = .connect c addr → AddrOk addr) :
    (app l a).Rids ∧ (app l a).uuid = a.uuid + l.ticks := by
  refine ⟨?_, app_uuid hb⟩
  show RidsV _ _
  rw [app_uuid hb]
  cases l with
  | tick => exact h.mono (Nat.le_succ _) hb
  | full => exact h.mono (Nat.le_succ _) hb
  | issue r tns => exact RidsV.vAdd h hw.conns hp hb
  | issueFail r tns => exact (RidsV.vAdd h hw.conns hp hb).vRemove _ _
  | drop o r => exact RidsV.vRemove h o r.rid
  | close c => exact RidsV.vClose h c
  | connect c addr =>
    refine ⟨?_, h.bound, fun r hr => h.issued r (vRoutes_connect a.V c addr ▸ hr),
      (vRoutes_connect a.V c addr).symm ▸ h.rids⟩
    intro v hv
    rcases List.mem_append.mp hv with hv | hv
    · exact h.addrs v hv
    · exact List.mem_singleton.mp hv ▸ hconn c addr rfl

/-! ## the side conditions of the id invariant, along a list of labels -/

structure Room (a : RS) (ls : List Lbl) : Prop where
  wf : a.Wf
  rids : a.Rids
  bound : a.uuid + ticksOf ls < 4294967296
  addrs : ∀ c addr, Lbl.connect c addr ∈ ls → AddrOk addr

theorem Room.head {a : RS} {l : Lbl} {ls : List Lbl} (h : Room a (l :: ls)) : Room a [l] :=
  ⟨h.wf, h.rids, by have := h.bound; simp only [ticksOf_cons, ticksOf_nil] at this ⊢; omega,
   fun c addr hm => h.addrs c addr (List.mem_cons.mpr (.inl (List.mem_singleton.mp hm)))⟩

theorem Room.bound_one {a : RS} {l : Lbl} (h : Room a [l]) : a.uuid + l.ticks < 4294967296 := by
  have := h.bound
  rwa [ticksOf_cons, ticksOf_nil, Nat.add_zero] at this

theorem Room.step {a : RS} {l : Lbl} {ls : List Lbl} (h : Room a (l :: ls)) (hp : Pre l a) :
    Room (app l a) ls ∧ (app l a).uuid = a.uuid + l.ticks := by
  have hb := h.bound
  rw [ticksOf_cons] at hb
  obtain ⟨h1, h2⟩ := rids_app hp h.wf h.rids (by omega) (fun c addr e => h.addrs c addr (e ▸ List.mem_cons_self ..))
  exact ⟨⟨wf_app hp h.wf, h1, by omega, fun c addr hm => h.addrs c addr (List.mem_cons_of_mem _ hm)⟩, h2⟩

theorem steps_induct {I : RS → Prop} {ls : List Lbl} {a b : RS} (hs : Steps ls a b) (hr : Room a ls)
    (step : ∀ l ∈ ls, ∀ a', Pre l a' → Room a' [l] → I a' → I (app l a')) (h0 : I a) :
    I b ∧ Room b [] ∧ b.uuid = a.uuid + ticksOf ls := by
  induction ls generalizing a with
  | nil => cases hs; exact ⟨h0, hr, rfl⟩
  | cons l t ih =>
    obtain ⟨h1, h2⟩ := hr.step hs.1
    obtain ⟨h3, h4, h5⟩ := ih hs.2 h1 (fun l' hl' => step l' (List.mem_cons_of_mem _ hl'))
      (step l (List.mem_cons_self ..) a hs.1 hr.head h0)
    exact ⟨h3, h4, by rw [h5, h2, ticksOf_cons, Nat.add_assoc]⟩

theorem rids_steps {ls : List Lbl} {a b : RS} (hs : Steps ls a b) (hr : Room a ls) :
    b.Rids ∧ b.uuid = a.uuid + ticksOf ls :=
  let ⟨_, h, hu⟩ := steps_induct (I := fun _ => True) hs hr (fun _ _ _ _ _ _ => trivial) trivial
  ⟨h.rids, hu⟩

/-! ## one entry -/

/-- `r` is stored in the table of the peer it names as owner -/
def InTable (V : List PV) (r : Route) : Prop := r ∈ vTable V r.owner

theorem inTable_iff {V : List PV} (hn : (V.map (·.conn)).Nodup) {r : Route} :
    InTable V r ↔ ∃ v ∈ V, v.conn = r.owner ∧ r ∈ v.routes := by
  constructor
  · exact vTable_mem
  · rintro ⟨v, hv, hc, hr⟩
    unfold InTable
    rw [← hc, vTable_of_mem hn hv]
    exact hr

/-- the steps that may remove the entry `r` -/
def Kills (r : Route) : Lbl → Prop
  | .drop o r' => o = r.owner ∧ r'.rid = r.rid
  | .close c => c = r.owner ∨ c = r.requester
  | _ => False

theorem inTable_vAdd {V : List PV} (hn : (V.map (·.conn)).Nodup) {r : Route} (o : Nat) (r' : Route)
    (h : InTable V r) : InTable (vAdd V o r') r := by
  obtain ⟨v, hv, hc, hr⟩ := (inTable_iff hn).mp h
  refine (inTable_iff (by rw [vAdd_conns]; exact hn)).mpr ⟨_, mem_vAdd.mpr ⟨v, hv, rfl⟩, ?_, ?_⟩
  · split <;> exact hc
  · split
    · simp [hr]
    · exact hr

theorem inTable_vRemove {V : List PV} (hn : (V.map (·.conn)).Nodup) {r : Route} (o : Nat) (rid : Bytes)
    (h : InTable V r) (hk : ¬ (o = r.owner ∧ rid = r.rid)) : InTable (vRemove V o rid) r := by
  obtain ⟨v, hv, hc, hr⟩ := (inTable_iff hn).mp h
  refine (inTable_iff (by rw [vRemove_conns]; exact hn)).mpr ⟨_, mem_vRemove.mpr ⟨v, hv, rfl⟩, ?_, ?_⟩
  · split <;> exact hc
  · split
    · next hvo =>
      have hvo' : v.conn = o := by simpa using hvo
      refine List.mem_filter.mpr ⟨hr, ?_⟩
      simp only [bne_iff_ne, ne_eq]
      intro e
      exact hk ⟨by rw [← hvo', hc], e.symm⟩
    · exact hr

theorem stable_app {l : Lbl} {a : RS} {r : Route} (hp : Pre l a) (hw : a.Wf) (hr : a.Rids)
    (hin : InTable a.V r) (hk : ¬ Kills r l) : InTable (app l a).V r := by
  have hn := hw.conns
  cases l with
  | tick => exact hin
  | full => exact hin
  | issue r' tns => exact inTable_vAdd hn _ _ hin
  | issueFail r' tns =>
    refine inTable_vRemove (by rw [vAdd_conns]; exact hn) _ _ (inTable_vAdd hn _ _ hin) ?_
    rintro ⟨_, e⟩
    exact Fresh.rid_new hp hr r (vTable_subset_vRoutes hin) e.symm
  | drop o r' =>
    exact inTable_vRemove hn _ _ hin (fun ⟨h1, h2⟩ => hk ⟨h1, h2⟩)
  | close c =>
    have hk' : c ≠ r.owner ∧ c ≠ r.requester := by
      constructor
      · exact fun e => hk (Or.inl e)
      · exact fun e => hk (Or.inr e)
    obtain ⟨v, hv, hc, hrv⟩ := (inTable_iff hn).mp hin
    refine (inTable_iff (List.Nodup.sublist (vClose_conns_sublist _ _) hn)).mpr
      ⟨_, mem_vClose.mpr ⟨v, hv, by rw [hc]; exact fun e => hk'.1 e.symm, rfl⟩, hc, ?_⟩
    refine List.mem_filter.mpr ⟨hrv, ?_⟩
    simp only [bne_iff_ne, ne_eq]
    exact fun e => hk'.2 e.symm
  | connect c addr =>
    obtain ⟨v, hv, hc, hrv⟩ := (inTable_iff hn).mp hin
    exact (inTable_iff (WfV.connect hw c addr hp).conns).mpr ⟨v, List.mem_append_left _ hv, hc, hrv⟩

/-! ## the timer log -/

def destroyedOf : Obs → Option Nat
  | .timerDestroy t => some t
  | _ => none

/-- timer ids destroyed so far -/
def destroyed (tl : List Obs) : List Nat := tl.filterMap destroyedOf

@[simp] theorem destroyed_nil : destroyed [] = [] := rfl
@[simp] theorem destroyed_cons_destroy (t : Nat) (l : List Obs) : destroyed (.timerDestroy t :: l) = t :: destroyed l := rfl
@[simp] theorem destroyed_cons_arm (t n : Nat) (l : List Obs) : destroyed (.timerArm t n :: l) = destroyed l := rfl
theorem destroyed_append (l₁ l₂ : List Obs) : destroyed (l₁ ++ l₂) = destroyed l₁ ++ destroyed l₂ := by
  simp [destroyed]

theorem destroyed_tobs (l : List Obs) : destroyed (tobs l) = destroyed l := by
  induction l with
  | nil => rfl
  | cons o t ih => cases o <;> first | exact ih | exact congrArg (_ :: ·) ih

theorem destroyed_map_reverse (l : List Route) :
    destroyed ((l.map (fun r => Obs.timerDestroy r.timer)).reverse) = (l.map (·.timer)).reverse := by
  simp only [destroyed, ← List.map_reverse, List.filterMap_map]
  induction l.reverse with
  | nil => rfl
  | cons a t ih => simp [destroyedOf, ih]

/-- A destroyed timer id is below the counter and no stored entry carries it; no id is destroyed twice. -/
structure DInv (a : RS) : Prop where
  dead : ∀ t ∈ destroyed a.tl, t < a.nt ∧ ∀ r ∈ vRoutes a.V, r.timer ≠ t
  once : (destroyed a.tl).Nodup

theorem no_timer_after_drop {a : RS} (hw : a.Wf) {o : Nat} {r : Route} (hr : r ∈ vTable a.V o) :
    ∀ r' ∈ vRoutes (vRemove a.V o r.rid), r'.timer ≠ r.timer := by
  intro r' hr' e
  obtain ⟨v, hv, hrv, hne⟩ := mem_vRoutes_vRemove.mp hr'
  -- an entry with `r`'s timer is `r`, which sat in `o`'s table and was filtered out
  cases nodup_map_inj (f := (·.timer)) hw.timers (mem_vRoutes.mpr ⟨v, hv, hrv⟩) (vTable_subset_vRoutes hr) e
  exact hne ((hw.owner v hv r hrv).symm.trans (hw.table_owner hr)) rfl

theorem vCloseRoutes_timers_nodup {V : List PV} {nt : Nat} (hw : WfV V nt) (c : Nat) :
    ((vCloseRoutes V c).map (·.timer)).Nodup := by
  unfold vCloseRoutes
  rw [List.map_append, List.nodup_append]
  refine ⟨List.Nodup.sublist ((vTable_sublist_vRoutes V c).map _) hw.timers,
    List.Nodup.sublist ((vMine_sublist_vRoutes V c).map _) hw.timers, ?_⟩
  intro t ht t' ht' e
  obtain ⟨r1, hr1, rfl⟩ := List.mem_map.mp ht
  obtain ⟨r2, hr2, rfl⟩ := List.mem_map.mp ht'
  have : r1 = r2 := nodup_map_inj (f := (·.timer)) hw.timers ((vTable_sublist_vRoutes V c).subset hr1)
    ((vMine_sublist_vRoutes V c).subset hr2) e
  subst this
  obtain ⟨v, hv, hvc, hrv, _⟩ := mem_vMine.mp hr2
  have h1 := hw.table_owner hr1
  have h2 := hw.owner v hv r1 hrv
  exact hvc (by rw [← h2, h1])

theorem no_timer_after_close {V : List PV} {nt : Nat} (hw : WfV V nt) {c : Nat} {r : Route}
    (hr : r ∈ vCloseRoutes V c) : ∀ r' ∈ vRoutes (vClose V c), r'.timer ≠ r.timer := by
  intro r' hr' e
  have hsub := (vRoutes_vClose_sublist V c).subset hr'
  have : r' = r := nodup_map_inj (f := (·.timer)) hw.timers hsub (vCloseRoutes_subset hr) e
  subst this
  obtain ⟨v, hv, hvc, hrv, hreq⟩ := mem_vRoutes_vClose.mp hr'
  rcases List.mem_append.mp hr with h | h
  · have h1 := hw.table_owner h
    have h2 := hw.owner v hv r' hrv
    exact hvc (by rw [← h2, h1])
  · obtain ⟨_, _, _, _, h3⟩ := mem_vMine.mp h
    exact hreq h3

/-! ### what a step does to the timer counter and to the log -/

def Lbl.creates : Lbl → Nat
  | .full => 1
  | .issue _ _ => 1
  | .issueFail _ _ => 1
  | _ => 0

theorem Lbl.creates_le (l : Lbl) : l.creates ≤ 1 := by
  cases l <;> first | exact Nat.le_refl 1 | exact Nat.zero_le 1

/-- the timers a step destroys, newest first -/
def Lbl.destroys : Lbl → RS → List Nat
  | .full, a => [a.nt]
  | .issueFail _ _, a => [a.nt]
  | .drop _ r, _ => [r.timer]
  | .close c, a => ((vCloseRoutes a.V c).map (·.timer)).reverse
  | _, _ => []

theorem Lbl.created {l : Lbl} {n t : Nat} (ht : t < n + l.creates) (e : ¬ t < n) : l.creates = 1 ∧ t = n := by
  have := l.creates_le
  omega

theorem app_nt (l : Lbl) (a : RS) : (app l a).nt = a.nt + l.creates := by cases l <;> rfl

theorem destroyed_app (l : Lbl) (a : RS) : destroyed (app l a).tl = l.destroys a ++ destroyed a.tl := by
  cases l with
  | close c => exact (destroyed_append ..).trans (congrArg (· ++ _) (destroyed_map_reverse _))
  | _ => rfl

theorem destroys_spec {l : Lbl} {a : RS} (hp : Pre l a) (hw : a.Wf) :
    (l.destroys a).Nodup ∧ ∀ t ∈ l.destroys a,
      ((t = a.nt ∧ l.creates = 1) ∨ ∃ r ∈ vRoutes a.V, r.timer = t) ∧
      ∀ r ∈ vRoutes (app l a).V, r.timer ≠ t := by
  have single : ∀ {t : Nat} {P : Nat → Prop}, P t → [t].Nodup ∧ ∀ t' ∈ [t], P t' := fun h =>
    ⟨List.pairwise_singleton _ _, fun _ ht => List.mem_singleton.mp ht ▸ h⟩
  cases l with
  | full => exact single ⟨.inl ⟨rfl, rfl⟩, fun r hr => Nat.ne_of_lt (hw.timerLt r hr)⟩
  | issueFail r' tns =>
    exact single ⟨.inl ⟨rfl, rfl⟩, fun r hr => Nat.ne_of_lt (hw.timerLt r (mem_vRoutes_vRemove_vAdd hr))⟩
  | drop o r' => exact single ⟨.inr ⟨r', vTable_subset_vRoutes hp, rfl⟩, no_timer_after_drop hw hp⟩
  | close c =>
    refine ⟨nodup_reverse (vCloseRoutes_timers_nodup hw c), fun t ht => ?_⟩
    obtain ⟨r, hr, rfl⟩ := List.mem_map.mp (List.mem_reverse.mp ht)
    exact ⟨.inr ⟨r, vCloseRoutes_subset hr, rfl⟩, no_timer_after_close hw hr⟩
  | _ => exact ⟨List.nodup_nil, fun _ h => nomatch h⟩

theorem dinv_app {l : Lbl} {a : RS} (hp : Pre l a) (hw : a.Wf) (h : DInv a) : DInv (app l a) := by
  obtain ⟨hnd, hsp⟩ := destroys_spec hp hw
  refine ⟨fun t ht => ?_, ?_⟩
  · rw [destroyed_app, List.mem_append] at ht
    rw [app_nt]
    rcases ht with ht | ht
    · refine ⟨?_, (hsp t ht).2⟩
      rcases (hsp t ht).1 with ⟨rfl, hc⟩ | ⟨r, hr, rfl⟩
      · exact hc ▸ Nat.lt_succ_self _
      · exact Nat.lt_of_lt_of_le (hw.timerLt r hr) (Nat.le_add_right ..)
    · refine ⟨Nat.lt_of_lt_of_le (h.dead t ht).1 (Nat.le_add_right ..), fun r hr => ?_⟩
      -- an entry stored now was stored before, or is new and carries the newest timer
      rcases mem_vRoutes_app hr with hr | ⟨tns, rfl⟩
      · exact (h.dead t ht).2 r hr
      · exact Fresh.timer hp ▸ Nat.ne_of_gt (h.dead t ht).1
  · rw [destroyed_app, List.nodup_append]
    refine ⟨hnd, h.once, fun t ht t' ht' e => ?_⟩
    subst e
    rcases (hsp t ht).1 with ⟨rfl, _⟩ | ⟨r, hr, rfl⟩
    · exact Nat.lt_irrefl _ (h.dead _ ht').1
    · exact (h.dead _ ht').2 r hr rfl

theorem dinv_steps {ls : List Lbl} {a b : RS} (hs : Steps ls a b) (hw : a.Wf) (h : DInv a) : DInv b := by
  induction ls generalizing a with
  | nil => cases hs; exact h
  | cons l t ih => exact ih hs.2 (wf_app hs.1 hw) (dinv_app hs.1 hw h)

/-! ## ids of the past -/

/-- `rid` carries a counter value of the past and is not stored -/
def RidDead (a : RS) (rid : Bytes) : Prop :=
  (∃ u, u < a.uuid ∧ uuidSeg rid = hexDigits u) ∧ ∀ r ∈ vRoutes a.V, r.rid ≠ rid

theorem ridDead_app {l : Lbl} {a : RS} {rid : Bytes} (hp : Pre l a) (hr : a.Rids)
    (hb : a.uuid + l.ticks < 4294967296) (h : RidDead a rid) : RidDead (app l a) rid := by
  obtain ⟨⟨u, hu, hseg⟩, hdead⟩ := h
  refine ⟨⟨u, by rw [app_uuid hb]; omega, hseg⟩, fun r hr' e => ?_⟩
  rcases mem_vRoutes_app hr' with h' | ⟨tns, rfl⟩
  · exact hdead r h' e
  · -- a fresh id carries the current counter value, a dead one an earlier value
    have := Fresh.uuidSeg hp hr
    rw [e, hseg] at this
    have := hexDigits_inj this
    omega

end Cjet.Daemon.C03
