/-
  Helper lemmas for property C18 (Cjet.Utf8): single-byte facts; `isByteValid` in each state class, the
  reset on failure and the invariant `Checker.ok`; `runBytes`; acceptance = RFC 3629 grammar
  (`accepts_eq_wellFormed`) and the completion of every reachable state.  The property theorems are in
  Cjet/Props/C18.lean.
-/
import Cjet.Utf8

namespace Cjet.Utf8
open Cjet.Generated.Utf8

/-! ## 1. single-byte facts -/

/-- A fact about every byte, by evaluating it on the 256 of them. -/
theorem forall_u8 {P : UInt8 → Prop} [DecidablePred P]
    (h : (List.range 256).all (fun n => decide (P (UInt8.ofNat n))) = true) : ∀ b, P b := by
  intro b
  simpa using List.all_eq_true.mp h b.toNat (List.mem_range.mpr b.toNat_lt)

theorem notCont_eq : ∀ b : UInt8, notCont b = !(utf8Tail b) :=
  forall_u8 (by decide +kernel)

/-- The second byte a lead byte admits (RFC 3629: E0 A0-BF, ED 80-9F, F0 90-BF, F4 80-8F,
    otherwise a plain tail byte). -/
def secondRange (b0 b1 : UInt8) : Bool :=
  if b0 == 0xE0 then inRange 0xA0 0xBF b1
  else if b0 == 0xED then inRange 0x80 0x9F b1
  else if b0 == 0xF0 then inRange 0x90 0xBF b1
  else if b0 == 0xF4 then inRange 0x80 0x8F b1
  else utf8Tail b1

/-- Some second byte that `secondRange` admits. -/
def goodSecond (b0 : UInt8) : UInt8 :=
  if b0 == 0xE0 then 0xA0 else if b0 == 0xF0 then 0x90 else 0x80

theorem secondRange_goodSecond (b0 : UInt8) : secondRange b0 (goodSecond b0) = true := by
  simp only [secondRange, goodSecond, utf8Tail, inRange]; grind

/-- Inside the tail range `80..BF` the range test of `case 2:` subsumes the continuation test. -/
theorem range_sub_tail (lo hi b : UInt8) (hlo : 0x80 ≤ lo) (hhi : hi ≤ 0xBF) :
    (if (b < lo || b > hi) = true then false else utf8Tail b) = inRange lo hi b := by
  simp only [utf8Tail, inRange]
  grind

theorem secondRet_eq (b0 b1 : UInt8) : secondRet b0 b1 = secondRange b0 b1 := by
  have e : (if notCont b1 = true then false else true) = utf8Tail b1 := by
    rw [notCont_eq]; cases utf8Tail b1 <;> rfl
  simp only [secondRet, secondRange, e, range_sub_tail 0xA0 0xBF b1 (by decide) (by decide),
    range_sub_tail 0x80 0x9F b1 (by decide) (by decide),
    range_sub_tail 0x90 0xBF b1 (by decide) (by decide),
    range_sub_tail 0x80 0x8F b1 (by decide) (by decide)]

/- In the next four lemmas only the class of `b0` matters: what `secondRange` and the grammar ask
   of `b1` is made opaque before the case analysis on `b0`. -/

theorem secondRange_lead2 (b0 b1 : UInt8) (h : inRange 0xC2 0xDF b0 = true) :
    secondRange b0 b1 = utf8Tail b1 := by
  simp only [secondRange]
  generalize inRange 0xA0 0xBF b1 = r1, inRange 0x80 0x9F b1 = r2, inRange 0x90 0xBF b1 = r3,
    inRange 0x80 0x8F b1 = r4, utf8Tail b1 = t1
  simp only [inRange] at h
  grind

theorem utf8_2_eq (b0 b1 : UInt8) :
    utf8_2 b0 b1 = (inRange 0xC2 0xDF b0 && secondRange b0 b1) := by
  cases h : inRange 0xC2 0xDF b0
  · simp [utf8_2, h]
  · simp [utf8_2, h, secondRange_lead2 b0 b1 h]

theorem utf8_3_eq (b0 b1 b2 : UInt8) :
    utf8_3 b0 b1 b2 = (inRange 0xE0 0xEF b0 && secondRange b0 b1 && utf8Tail b2) := by
  simp only [utf8_3, secondRange]
  generalize inRange 0xA0 0xBF b1 = r1, inRange 0x80 0x9F b1 = r2, inRange 0x90 0xBF b1 = r3,
    inRange 0x80 0x8F b1 = r4, utf8Tail b1 = t1, utf8Tail b2 = t2
  simp only [inRange]
  grind

theorem utf8_4_eq (b0 b1 b2 b3 : UInt8) :
    utf8_4 b0 b1 b2 b3 =
      (inRange 0xF0 0xF4 b0 && secondRange b0 b1 && utf8Tail b2 && utf8Tail b3) := by
  simp only [utf8_4, secondRange]
  generalize inRange 0xA0 0xBF b1 = r1, inRange 0x80 0x9F b1 = r2, inRange 0x90 0xBF b1 = r3,
    inRange 0x80 0x8F b1 = r4, utf8Tail b1 = t1, utf8Tail b2 = t2, utf8Tail b3 = t3
  simp only [inRange]
  grind

theorem lead_classes (b0 : UInt8) :
    (inRange 0xC2 0xDF b0 = true → utf8_1 b0 = false) ∧
    (inRange 0xE0 0xEF b0 = true → utf8_1 b0 = false ∧ inRange 0xC2 0xDF b0 = false) ∧
    (inRange 0xF0 0xF4 b0 = true →
      utf8_1 b0 = false ∧ inRange 0xC2 0xDF b0 = false ∧ inRange 0xE0 0xEF b0 = false) := by
  simp only [utf8_1, inRange]; grind

/-! ## 2. `isByteValid` per state class -/

theorem isByteValid_init : ∀ b : UInt8,
    isByteValid init b =
      (utf8_1 b || inRange 0xC2 0xDF b || inRange 0xE0 0xEF b || inRange 0xF0 0xF4 b,
        if utf8_1 b then init
        else if inRange 0xC2 0xDF b then ⟨b, 2, 2⟩
        else if inRange 0xE0 0xEF b then ⟨b, 3, 2⟩
        else if inRange 0xF0 0xF4 b then ⟨b, 4, 2⟩
        else init) :=
  forall_u8 (by decide +kernel)

theorem isByteValid_init_lead (s : UInt8) :
    (inRange 0xC2 0xDF s = true → isByteValid init s = (true, ⟨s, 2, 2⟩)) ∧
    (inRange 0xE0 0xEF s = true → isByteValid init s = (true, ⟨s, 3, 2⟩)) ∧
    (inRange 0xF0 0xF4 s = true → isByteValid init s = (true, ⟨s, 4, 2⟩)) := by
  obtain ⟨d2, d3, d4⟩ := lead_classes s
  rw [isByteValid_init]
  exact ⟨fun h => by simp [h, d2 h], fun h => by simp [h, d3 h], fun h => by simp [h, d4 h]⟩

theorem isByteValid_two (s l b : UInt8) :
    isByteValid ⟨s, l, 2⟩ b =
      (secondRange s b, if secondRange s b then (if l == 2 then init else ⟨s, l, 3⟩) else init) := by
  unfold isByteValid switchNext
  rw [← secondRet_eq]
  cases secondRet s b <;> cases l == 2 <;> rfl

theorem isByteValid_three (s l b : UInt8) :
    isByteValid ⟨s, l, 3⟩ b =
      (utf8Tail b, if utf8Tail b then (if l == 3 then init else ⟨s, l, 4⟩) else init) := by
  unfold isByteValid switchNext
  rw [notCont_eq]
  cases utf8Tail b <;> cases l == 3 <;> rfl

theorem isByteValid_four (s l b : UInt8) :
    isByteValid ⟨s, l, 4⟩ b = (utf8Tail b, init) := by
  unfold isByteValid switchNext
  rw [notCont_eq]
  cases utf8Tail b <;> rfl

/-- A rejected byte re-initialises the checker — in every state, reachable or not. -/
theorem isByteValid_false (c : Checker) (b : UInt8) (h : (isByteValid c b).1 = false) :
    (isByteValid c b).2 = init := by
  -- the verdict is the `ret` of `switchNext`, and `finished || !ret` takes the resetting branch
  simp only [isByteValid, init] at *
  grind

theorem ok_init : init.ok = true := by decide

theorem ok_cases (c : Checker) (h : c.ok = true) :
    c = init ∨ (∃ s, inRange 0xC2 0xDF s = true ∧ c = ⟨s, 2, 2⟩)
    ∨ (∃ s, inRange 0xE0 0xEF s = true ∧ (c = ⟨s, 3, 2⟩ ∨ c = ⟨s, 3, 3⟩))
    ∨ (∃ s, inRange 0xF0 0xF4 s = true ∧ (c = ⟨s, 4, 2⟩ ∨ c = ⟨s, 4, 3⟩ ∨ c = ⟨s, 4, 4⟩)) := by
  obtain ⟨s, l, n⟩ := c
  simp only [Checker.ok, Bool.or_eq_true, Bool.and_eq_true, beq_iff_eq] at h
  rcases h with ((⟨⟨rfl, rfl⟩, rfl⟩ | ⟨⟨h, rfl⟩, rfl⟩) | ⟨⟨h, rfl⟩, rfl | rfl⟩) |
    ⟨⟨h, rfl⟩, (rfl | rfl) | rfl⟩
  · exact .inl rfl
  · exact .inr (.inl ⟨s, h, rfl⟩)
  · exact .inr (.inr (.inl ⟨s, h, .inl rfl⟩))
  · exact .inr (.inr (.inl ⟨s, h, .inr rfl⟩))
  · exact .inr (.inr (.inr ⟨s, h, .inl rfl⟩))
  · exact .inr (.inr (.inr ⟨s, h, .inr (.inl rfl)⟩))
  · exact .inr (.inr (.inr ⟨s, h, .inr (.inr rfl)⟩))

theorem ok_lead2 (s : UInt8) (h : inRange 0xC2 0xDF s = true) : (Checker.mk s 2 2).ok = true := by
  simp [Checker.ok, h]
theorem ok_lead3 (s : UInt8) (h : inRange 0xE0 0xEF s = true) :
    (Checker.mk s 3 2).ok = true ∧ (Checker.mk s 3 3).ok = true := by
  simp [Checker.ok, h]
theorem ok_lead4 (s : UInt8) (h : inRange 0xF0 0xF4 s = true) :
    (Checker.mk s 4 2).ok = true ∧ (Checker.mk s 4 3).ok = true ∧ (Checker.mk s 4 4).ok = true := by
  simp [Checker.ok, h]

theorem ok_ite (p : Prop) [Decidable p] {c d : Checker} (hc : p → c.ok = true)
    (hd : ¬p → d.ok = true) : (if p then c else d).ok = true := by
  split
  · exact hc ‹_›
  · exact hd ‹_›

/-- The invariant is preserved by every byte. -/
theorem ok_isByteValid (c : Checker) (b : UInt8) (h : c.ok = true) : (isByteValid c b).2.ok = true := by
  rcases ok_cases c h with rfl | ⟨s, hs, rfl⟩ | ⟨s, hs, rfl | rfl⟩ | ⟨s, hs, rfl | rfl | rfl⟩
  · rw [isByteValid_init]
    exact ok_ite _ (fun _ => ok_init) fun _ => ok_ite _ (ok_lead2 b) fun _ =>
      ok_ite _ (fun h => (ok_lead3 b h).1) fun _ => ok_ite _ (fun h => (ok_lead4 b h).1) fun _ => ok_init
  · rw [isByteValid_two]; exact ok_ite _ (fun _ => ok_init) fun _ => ok_init
  · rw [isByteValid_two]; exact ok_ite _ (fun _ => (ok_lead3 s hs).2) fun _ => ok_init
  · rw [isByteValid_three]; exact ok_ite _ (fun _ => ok_init) fun _ => ok_init
  · rw [isByteValid_two]; exact ok_ite _ (fun _ => (ok_lead4 s hs).2.1) fun _ => ok_init
  · rw [isByteValid_three]; exact ok_ite _ (fun _ => (ok_lead4 s hs).2.2) fun _ => ok_init
  · rw [isByteValid_four]; exact ok_init

/-- In a reachable state `next_byte == 1` means "initial state". -/
theorem ok_next_one (c : Checker) (h : c.ok = true) (h1 : c.next = 1) : c = init := by
  rcases ok_cases c h with rfl | ⟨s, hs, rfl⟩ | ⟨s, hs, rfl | rfl⟩ | ⟨s, hs, rfl | rfl | rfl⟩ <;>
    first | rfl | (exfalso; simp at h1)

theorem ok_start_finish (c : Checker) (h : c.ok = true) (h1 : c.start = ucFinish) : c = init := by
  rcases ok_cases c h with rfl | ⟨s, hs, rfl⟩ | ⟨s, hs, rfl | rfl⟩ | ⟨s, hs, rfl | rfl | rfl⟩ <;>
    first | rfl | (exfalso; simp only at h1; subst h1; revert hs; decide)

/-! ## 3. `runBytes` -/

theorem runBytes_nil (c : Checker) : runBytes c [] = (true, c) := rfl

theorem runBytes_cons (c : Checker) (b : UInt8) (bs : List UInt8) :
    runBytes c (b :: bs) =
      if (isByteValid c b).1 then runBytes (isByteValid c b).2 bs else (false, (isByteValid c b).2) := by
  rw [runBytes]
  rcases isByteValid c b with ⟨_ | _, c'⟩ <;> rfl

theorem runBytes_append (c : Checker) (xs ys : List UInt8) :
    runBytes c (xs ++ ys) =
      if (runBytes c xs).1 then runBytes (runBytes c xs).2 ys else runBytes c xs := by
  induction xs generalizing c with
  | nil => rfl
  | cons b xs ih =>
    rw [List.cons_append, runBytes_cons, runBytes_cons]
    split
    · exact ih _
    · rfl

theorem runBytes_false (c : Checker) (bs : List UInt8) (h : (runBytes c bs).1 = false) :
    (runBytes c bs).2 = init := by
  induction bs generalizing c with
  | nil => cases h
  | cons b bs ih =>
    rw [runBytes_cons] at h ⊢
    cases hb : (isByteValid c b).1
    · exact isByteValid_false c b hb
    · rw [hb] at h; exact ih _ h

theorem ok_runBytes (c : Checker) (bs : List UInt8) (h : c.ok = true) : (runBytes c bs).2.ok = true := by
  induction bs generalizing c with
  | nil => exact h
  | cons b bs ih =>
    rw [runBytes_cons]
    split
    · exact ih _ (ok_isByteValid c b h)
    · exact ok_isByteValid c b h

theorem byteSeq_eq_finish (c : Checker) (bs : List UInt8) (k : Bool) :
    byteSeq c bs k = finish (runBytes c bs) k := rfl

theorem finish_false (r : Bool × Checker) : finish r false = r := by
  rcases r with ⟨_ | _, c⟩ <;> rfl

theorem byteSeq_false_eq (c : Checker) (bs : List UInt8) : byteSeq c bs false = runBytes c bs :=
  finish_false _

theorem finish_true (r : Bool × Checker) (hok : r.2.ok = true) (hf : r.1 = false → r.2 = init) :
    finish r true = (r.1 && atBoundary r.2, init) := by
  obtain ⟨v, c⟩ := r
  cases v
  · rw [show c = init from hf rfl]; rfl
  · simp only [finish, atBoundary, Bool.true_and, bne]
    cases hb : c.start == ucFinish
    · rfl
    · rw [ok_start_finish c hok (beq_iff_eq.mp hb)]; rfl

theorem ok_finish (r : Bool × Checker) (k : Bool) (h : r.2.ok = true) : (finish r k).2.ok = true := by
  rcases r with ⟨_ | _, c⟩
  · exact h
  · simp only [finish]
    split
    · exact ok_init
    · exact h

theorem ok_byteSeq (c : Checker) (bs : List UInt8) (k : Bool) (h : c.ok = true) :
    (byteSeq c bs k).2.ok = true := by
  rw [byteSeq_eq_finish]; exact ok_finish _ _ (ok_runBytes c bs h)

/-- `cjet_is_text_valid` differs from `cjet_is_byte_sequence_valid` only in the state it leaves
    after an incomplete tail. -/
theorem textSeq_fst (c : Checker) (bs : List UInt8) (k : Bool) :
    (textSeq c bs k).1 = (byteSeq c bs k).1 := by
  rw [byteSeq, textSeq]
  rcases runBytes c bs with ⟨v, c'⟩
  cases v <;> simp <;> split <;> rfl

theorem ok_textSeq (c : Checker) (bs : List UInt8) (k : Bool) (h : c.ok = true) :
    (textSeq c bs k).2.ok = true := by
  have := ok_runBytes c bs h
  rw [textSeq]
  generalize runBytes c bs = r at *
  obtain ⟨v, c'⟩ := r
  cases v
  · exact this
  · simp only; split <;> exact this

/-! ## 4. acceptance = grammar -/

/-- accepted as a complete text when started in state `c` -/
def accepts (c : Checker) (bs : List UInt8) : Bool := (byteSeq c bs true).1

theorem accepts_eq (c : Checker) (bs : List UInt8) :
    accepts c bs = ((runBytes c bs).1 && atBoundary (runBytes c bs).2) := by
  rw [accepts, byteSeq]
  rcases runBytes c bs with ⟨_ | _, c'⟩
  · rfl
  · simp only [atBoundary, bne, Bool.true_and]
    cases c'.start == ucFinish <;> rfl

theorem accepts_nil (c : Checker) : accepts c [] = atBoundary c := by
  rw [accepts_eq]; rfl

theorem accepts_cons (c : Checker) (b : UInt8) (rest : List UInt8) :
    accepts c (b :: rest) = ((isByteValid c b).1 && accepts (isByteValid c b).2 rest) := by
  simp only [accepts, byteSeq, runBytes_cons]
  cases (isByteValid c b).1 <;> rfl

def tailsThen : Nat → List UInt8 → Bool
  | 0, bs => wellFormed bs
  | _ + 1, [] => false
  | n + 1, b :: bs => utf8Tail b && tailsThen n bs

def afterLead (b0 : UInt8) (n : Nat) : List UInt8 → Bool
  | [] => false
  | b1 :: r => secondRange b0 b1 && tailsThen n r

/-- The grammar read one byte at a time, as the checker reads it. -/
theorem wellFormed_cons_lead (b0 : UInt8) (rest : List UInt8) :
    wellFormed (b0 :: rest) =
      ((utf8_1 b0 && wellFormed rest) || (inRange 0xC2 0xDF b0 && afterLead b0 0 rest)
        || (inRange 0xE0 0xEF b0 && afterLead b0 1 rest)
        || (inRange 0xF0 0xF4 b0 && afterLead b0 2 rest)) := by
  rcases rest with _ | ⟨b1, _ | ⟨b2, _ | ⟨b3, r3⟩⟩⟩ <;>
    simp [wellFormed, afterLead, tailsThen, utf8_2_eq, utf8_3_eq, utf8_4_eq, Bool.and_assoc,
      Bool.or_assoc]

/-- What a reachable state still expects of the text: the rest of the character it is in
    (`length + 1 - next` tail bytes, after the second byte if that is next), then whole characters. -/
def expects (c : Checker) (bs : List UInt8) : Bool :=
  if c.next == 1 then wellFormed bs
  else if c.next == 2 then afterLead c.start (c.length.toNat - 2) bs
  else tailsThen (c.length.toNat + 1 - c.next.toNat) bs

theorem expects_nil (c : Checker) (h : c.ok = true) : expects c [] = atBoundary c := by
  rcases ok_cases c h with rfl | ⟨s, hs, rfl⟩ | ⟨s, hs, rfl | rfl⟩ | ⟨s, hs, rfl | rfl | rfl⟩
  · rfl
  all_goals
    have : (s == ucFinish) = false := by apply beq_false_of_ne; rintro rfl; revert hs; decide
    exact this.symm

theorem expects_cons (c : Checker) (h : c.ok = true) (b : UInt8) (rest : List UInt8) :
    expects c (b :: rest) = ((isByteValid c b).1 && expects (isByteValid c b).2 rest) := by
  rcases ok_cases c h with rfl | ⟨s, hs, rfl⟩ | ⟨s, hs, rfl | rfl⟩ | ⟨s, hs, rfl | rfl | rfl⟩
  · rw [isByteValid_init]
    show wellFormed (b :: rest) = _
    rw [wellFormed_cons_lead]
    -- the four classes of `b` exclude each other, so the alternatives are the checker's tests
    obtain ⟨d2, d3, d4⟩ := lead_classes b
    generalize utf8_1 b = u, inRange 0xC2 0xDF b = l2, inRange 0xE0 0xEF b = l3,
      inRange 0xF0 0xF4 b = l4 at *
    cases l4
    · cases l3
      · cases l2
        · cases u <;> simp only [Bool.true_and, Bool.false_and, Bool.or_false] <;> rfl
        · obtain rfl := d2 rfl; simp only [Bool.true_and, Bool.false_and, Bool.or_false, Bool.false_or]; rfl
      · obtain ⟨rfl, rfl⟩ := d3 rfl; simp only [Bool.true_and, Bool.false_and, Bool.or_false, Bool.false_or]; rfl
    · obtain ⟨rfl, rfl, rfl⟩ := d4 rfl; simp only [Bool.true_and, Bool.false_and, Bool.false_or]; rfl
  all_goals
    simp only [isByteValid_two, isByteValid_three, isByteValid_four]
    show (_ && _) = _
    cases secondRange s b <;> cases utf8Tail b <;> rfl

theorem accepts_eq_expects (bs : List UInt8) :
    ∀ c : Checker, c.ok = true → accepts c bs = expects c bs := by
  induction bs with
  | nil => intro c h; rw [accepts_nil, expects_nil c h]
  | cons b rest ih =>
    intro c h
    rw [accepts_cons, expects_cons c h, ih _ (ok_isByteValid c b h)]

theorem accepts_eq_wellFormed (bs : List UInt8) : accepts init bs = wellFormed bs :=
  accepts_eq_expects bs init ok_init

theorem byteSeq_complete (c : Checker) (hc : c.ok = true) (bs : List UInt8) :
    byteSeq c bs true = (accepts c bs, init) := by
  rw [accepts_eq, byteSeq_eq_finish, finish_true _ (ok_runBytes c bs hc) (runBytes_false c bs)]

theorem runBytes_of_accepts (c : Checker) (hc : c.ok = true) (bs : List UInt8)
    (h : accepts c bs = true) : runBytes c bs = (true, init) := by
  rw [accepts_eq, Bool.and_eq_true] at h
  exact Prod.ext h.1 (ok_start_finish _ (ok_runBytes c bs hc) (beq_iff_eq.mp h.2))

/-- Bytes that bring a reachable state back to the initial state. -/
def completion (c : Checker) : List UInt8 :=
  if c.next == 2 then
    goodSecond c.start :: (if c.length == 2 then [] else if c.length == 3 then [0x80] else [0x80, 0x80])
  else if c.next == 3 then
    (if c.length == 3 then [0x80] else [0x80, 0x80])
  else if c.next == 4 then [0x80]
  else []

theorem runBytes_completion (c : Checker) (h : c.ok = true) :
    runBytes c (completion c) = (true, init) := by
  have t80 : utf8Tail 0x80 = true := by decide
  rcases ok_cases c h with rfl | ⟨s, hs, rfl⟩ | ⟨s, hs, rfl | rfl⟩ | ⟨s, hs, rfl | rfl | rfl⟩
  · rfl
  all_goals
    simp [completion, runBytes_cons, runBytes_nil, isByteValid_two, isByteValid_three,
      isByteValid_four, secondRange_goodSecond, t80]

/-! ### `Checker.ok` is exactly reachability -/

theorem reachable_ok (c : Checker) (h : Reachable c) : c.ok = true := by
  induction h with
  | init => exact ok_init
  | step c b _ ih => exact ok_isByteValid c b ih

theorem reach_of_eq {c c' : Checker} (b : UInt8) (h : Reachable c) (e : (isByteValid c b).2 = c') :
    Reachable c' := e ▸ Reachable.step c b h

/-- Every state of the invariant is reached by the lead byte, then `goodSecond`, then `0x80`. -/
theorem ok_reachable (c : Checker) (h : c.ok = true) : Reachable c := by
  have first : ∀ {s l : UInt8}, isByteValid init s = (true, ⟨s, l, 2⟩) → Reachable ⟨s, l, 2⟩ :=
    fun e => reach_of_eq _ Reachable.init (by rw [e])
  have second : ∀ {s l : UInt8}, Reachable ⟨s, l, 2⟩ → l ≠ 2 → Reachable ⟨s, l, 3⟩ := fun {s _} r hl =>
    reach_of_eq (goodSecond s) r (by simp [isByteValid_two, secondRange_goodSecond, hl])
  rcases ok_cases c h with rfl | ⟨s, hs, rfl⟩ | ⟨s, hs, hc⟩ | ⟨s, hs, hc⟩
  · exact Reachable.init
  · exact first ((isByteValid_init_lead s).1 hs)
  · have r2 := first ((isByteValid_init_lead s).2.1 hs)
    rcases hc with rfl | rfl
    · exact r2
    · exact second r2 (by decide)
  · have r2 := first ((isByteValid_init_lead s).2.2 hs)
    rcases hc with rfl | rfl | rfl
    · exact r2
    · exact second r2 (by decide)
    · exact reach_of_eq 0x80 (second r2 (by decide))
        (by simp [isByteValid_three, show utf8Tail 0x80 = true by decide])

/-! ### the Boolean spec against the grammar read as "a concatenation of characters" -/

theorem wellFormed_cons_any (b0 : UInt8) (rest : List UInt8) :
    wellFormed (b0 :: rest) = [1, 2, 3, 4].any fun k =>
      isUtf8Char ((b0 :: rest).take k) && wellFormed ((b0 :: rest).drop k) := by
  rcases rest with _ | ⟨b1, _ | ⟨b2, _ | ⟨b3, r3⟩⟩⟩ <;> simp [wellFormed, isUtf8Char]

theorem wellFormed_append_char (ch rest : List UInt8) (hc : isUtf8Char ch = true)
    (hr : wellFormed rest = true) : wellFormed (ch ++ rest) = true := by
  have hl : ch.length ∈ [1, 2, 3, 4] := by
    rcases ch with _ | ⟨b0, _ | ⟨b1, _ | ⟨b2, _ | ⟨b3, _ | ⟨b4, r⟩⟩⟩⟩⟩ <;> simp [isUtf8Char] at hc ⊢
  obtain ⟨b0, t, rfl⟩ := List.exists_cons_of_length_pos (l := ch) (by
    simp only [List.mem_cons, List.mem_nil_iff, or_false] at hl; omega)
  rw [List.cons_append, wellFormed_cons_any, List.any_eq_true]
  refine ⟨_, hl, ?_⟩
  rw [← List.cons_append, List.take_left, List.drop_left, hc, hr]; rfl

theorem wellFormed_flatten (chars : List (List UInt8))
    (h : ∀ ch ∈ chars, isUtf8Char ch = true) : wellFormed chars.flatten = true := by
  induction chars with
  | nil => rfl
  | cons ch chars ih =>
    rw [List.flatten_cons]
    exact wellFormed_append_char ch _ (h ch (by simp))
      (ih (fun c hc => h c (by simp [hc])))

theorem wellFormed_chars (bs : List UInt8) (hw : wellFormed bs = true) :
    ∃ chars : List (List UInt8), (∀ ch ∈ chars, isUtf8Char ch = true) ∧ bs = chars.flatten := by
  match bs with
  | [] => exact ⟨[], by simp, rfl⟩
  | b0 :: rest =>
    rw [wellFormed_cons_any, List.any_eq_true] at hw
    obtain ⟨k, hk, h⟩ := hw
    rw [Bool.and_eq_true] at h
    have hpos : 0 < k := by
      simp only [List.mem_cons, List.mem_nil_iff, or_false] at hk; omega
    obtain ⟨cs, hcs, e⟩ := wellFormed_chars ((b0 :: rest).drop k) h.2
    refine ⟨(b0 :: rest).take k :: cs, ?_, ?_⟩
    · simpa [h.1] using hcs
    · rw [List.flatten_cons, ← e, List.take_append_drop]
termination_by bs.length
decreasing_by simp only [List.length_drop, List.length_cons]; omega

end Cjet.Utf8
