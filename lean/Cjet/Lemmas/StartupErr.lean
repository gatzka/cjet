import Cjet.Startup
import Cjet.Lemmas.Startup
/-!
Success paths of the start-up functions: the exact shape of the trace they emit when they report success,
and the consequence for the monitor of hard failures (`hfStep`): a run_io that returns 0 saw no step fail
for good.
-/
namespace Cjet.Startup

def hfOf (tr : List Ev) : HF := tr.foldl hfStep {}

theorem hfOf_append (tr seg : List Ev) : hfOf (tr ++ seg) = seg.foldl hfStep (hfOf tr) := List.foldl_append ..

/-- events that leave the monitor alone outside a getaddrinfo window -/
def Ev.quiet (e : Ev) : Bool :=
  !e.failedHard && !e.perAddress && (match e with | .gai _ _ (some _) => false | .freeai => false | _ => true)

theorem hfStep_quiet (s : HF) (e : Ev) (hw : s.win = none) (hq : e.quiet = true) : hfStep s e = s := by
  simp only [Ev.quiet, Bool.and_eq_true, Bool.not_eq_true'] at hq
  unfold hfStep
  split
  · exact nomatch hq.2
  · exact nomatch hq.2
  · rw [hw]; exact congrArg (HF.mk · s.hard) hw.symm
  · rw [if_neg (by rw [hq.1.1]; exact Bool.false_ne_true), if_neg (by rw [hq.1.2]; exact fun h => Bool.false_ne_true h.1)]

theorem foldl_quiet (seg : List Ev) : ∀ (s : HF), s.win = none → (∀ e ∈ seg, e.quiet = true) → seg.foldl hfStep s = s := by
  induction seg with
  | nil => intro s _ _; rfl
  | cons e seg ih =>
    intro s hw hq
    rw [List.foldl_cons, hfStep_quiet s e hw (hq e List.mem_cons_self)]
    exact ih s hw fun e' h' => hq e' (List.mem_cons_of_mem _ h')

/-- `k'` extends `k` by events that are all quiet -/
def QuietExt (k k' : K) : Prop := ∃ seg, k'.tr = k.tr ++ seg ∧ ∀ e ∈ seg, e.quiet = true

/-- the monitor is outside a window and unchanged -/
def HFSame (k k' : K) : Prop := (hfOf k.tr).win = none → hfOf k'.tr = hfOf k.tr

theorem QuietExt.hfSame {k k' : K} (h : QuietExt k k') : HFSame k k' := by
  intro hw
  obtain ⟨seg, ht, hq⟩ := h
  rw [ht, hfOf_append, foldl_quiet seg _ hw hq]

theorem HFSame.trans {a b c : K} (h1 : HFSame a b) (h2 : HFSame b c) : HFSame a c := by
  intro hw
  have e1 := h1 hw
  rw [h2 (by rw [e1]; exact hw), e1]

theorem HFSame.refl (k : K) : HFSame k k := fun _ => rfl

theorem QuietExt.refl (k : K) : QuietExt k k := Ext.refl k

theorem QuietExt.emit (k : K) (e : Ev) (h : e.quiet = true) : QuietExt k (k.emit e) := Ext.emit (Ext.refl k) h

theorem setNonBlocking_quiet (fd : Nat) (k : K) : OkExt (·.quiet = true) k (setNonBlocking fd k) :=
  of_ite (fun h1 h2 => Ext.sys_ok (Ext.sys_ok (QuietExt.refl k) h1 rfl) h2 rfl) fun _ => nofun

def SomeQuiet (k : K) (r : Option Nat × K) : Prop := ∀ fd, r.1 = some fd → QuietExt k r.2

theorem openSocket_quiet (f : Fam) (k : K) : SomeQuiet k (openSocket f k) :=
  of_ite (fun _ _ _ => Ext.emit (QuietExt.refl k) rfl) fun _ _ h => nomatch h

theorem createPlain_quiet (f : Fam) (t : Target) (k : K) : SomeQuiet k (createPlain f t k) := by
  unfold createPlain
  have h1 := openSocket_quiet f k
  generalize openSocket f k = r at h1 ⊢
  obtain ⟨_ | fd, k1⟩ := r
  · exact fun _ h => nomatch h
  · refine of_ite_false (fun _ _ h => nomatch h) fun b2 => ?_
    refine of_ite_false (fun _ _ h => nomatch h) fun b3 => ?_
    refine of_ite_false (fun _ _ h => nomatch h) fun b4 => ?_
    refine of_ite_false (fun _ _ h => nomatch h) fun b5 _ _ => ?_
    exact Ext.sys_ok (Ext.sys_ok (Ext.trans (Ext.sys_ok (h1 fd rfl) b2 rfl) (setNonBlocking_quiet _ _ b3)) b4 rfl) b5 rfl


/-! ## inside the getaddrinfo window -/

def WinEv : Ev → Prop
  | .socket _ _ => True
  | .sockopt _ _ _ => True
  | .fcntl _ _ _ => True
  | .bind _ _ _ => True
  | .close _ => True
  | _ => False

theorem hfStep_win (s : HF) (e : Ev) (bd : Bool) (hw : s.win = some bd) (he : WinEv e) :
    (hfStep s e).hard = s.hard ∧ ∃ bd', (hfStep s e).win = some bd' := by
  -- inside a window only a successful bind changes the monitor
  have keep : ∀ {x : HF} (fh pa : Bool), fh = false → (if fh then x else if pa ∧ s.win = none then x else s) = s :=
    fun _ _ h => by rw [if_neg (by rw [h]; exact Bool.false_ne_true), if_neg (by rw [hw]; exact fun h => nomatch h.2)]
  have same : hfStep s e = s → (hfStep s e).hard = s.hard ∧ ∃ bd', (hfStep s e).win = some bd' :=
    fun h => by rw [h]; exact ⟨rfl, bd, hw⟩
  cases e with
  | socket f o => cases o; exact same (keep _ _ rfl); exact same rfl
  | sockopt | fcntl => exact same (keep _ _ rfl)
  | close => exact same rfl
  | bind fd t b =>
    cases b
    · exact same (keep _ _ rfl)
    · exact ⟨rfl, true, by show s.win.map _ = _; rw [hw]; rfl⟩
  | _ => exact he.elim

theorem foldl_win (seg : List Ev) : ∀ (s : HF) (bd : Bool), s.win = some bd → (∀ e ∈ seg, WinEv e) →
    (seg.foldl hfStep s).hard = s.hard ∧ ∃ bd', (seg.foldl hfStep s).win = some bd' := by
  induction seg with
  | nil => intro s bd hw _; exact ⟨rfl, bd, hw⟩
  | cons e seg ih =>
    intro s bd hw hq
    obtain ⟨h1, bd', h2⟩ := hfStep_win s e bd hw (hq e List.mem_cons_self)
    obtain ⟨i1, i2⟩ := ih (hfStep s e) bd' h2 fun e' h' => hq e' (List.mem_cons_of_mem _ h')
    exact ⟨i1.trans h1, i2⟩

/-- a getaddrinfo window in which an address is bound leaves the monitor as it was -/
theorem foldl_window (s : HF) (hw : s.win = none) (n : Node) (p : Port) (cnt : Nat) (seg : List Ev)
    (hseg : ∀ e ∈ seg, WinEv e) (fd : Nat) (t : Target) :
    (Ev.gai n p (some cnt) :: seg ++ [Ev.bind fd t true, Ev.freeai]).foldl hfStep s = s := by
  rw [List.foldl_append, List.foldl_cons, List.foldl_cons, List.foldl_cons, List.foldl_nil]
  obtain ⟨f1, bd, f2⟩ := foldl_win seg (hfStep s (.gai n p (some cnt))) false rfl hseg
  generalize seg.foldl hfStep _ = s2 at f1 f2
  obtain ⟨_, _⟩ := s2
  obtain ⟨_, _⟩ := s
  cases f1; cases f2; cases hw
  rfl

/-- `k'` extends `k` by per-address events -/
def WinExt (k k' : K) : Prop := ∃ seg, k'.tr = k.tr ++ seg ∧ ∀ e ∈ seg, WinEv e

theorem WinExt.refl (k : K) : WinExt k k := Ext.refl k

theorem openSocket_win (f : Fam) (k : K) : WinExt k (openSocket f k).2 :=
  of_ite (P := fun r : Option Nat × K => WinExt k r.2) (fun _ => Ext.emit (Ext.refl k) trivial) fun _ =>
    Ext.emit (Ext.refl k) trivial

theorem setNonBlocking_win (fd : Nat) (k : K) : WinExt k (setNonBlocking fd k).2 :=
  of_ite (P := fun r : Bool × K => WinExt k r.2) (fun _ => Ext.sys (Ext.sys (Ext.refl k) trivial) trivial) fun _ =>
    Ext.sys (Ext.refl k) trivial

/-- when the loop over the addresses ends with a bound socket, its trace is per-address events followed by
    the successful bind -/
def BoundWin (k0 : K) (r : Option Nat × Bool × K) : Prop :=
  r.2.1 = true → ∃ kb fd t, WinExt k0 kb ∧ r.2.2.tr = kb.tr ++ [.bind fd t true]

theorem boundLoop_win (v6 : Bool) (p : Port) (k0 : K) : ∀ (cnt : Nat) (last : Option Nat) (k : K), WinExt k0 k →
    BoundWin k0 (boundLoop v6 p cnt last k) := by
  intro cnt
  induction cnt with
  | zero => exact fun _ _ _ h => nomatch h
  | succ cnt ih =>
    intro last k w
    unfold boundLoop
    have w1 : WinExt k0 (openSocket _ k).2 := Ext.trans w (openSocket_win (if v6 then .inet6 else .inet) k)
    generalize openSocket _ k = r at w1 ⊢
    obtain ⟨_ | fd, k1⟩ := r
    · exact ih _ _ w1
    · have again : ∀ {k' : K}, WinExt k0 k' → BoundWin k0 (boundLoop v6 p cnt (some fd) (k'.emit (.close fd))) :=
        fun w => ih _ _ (Ext.emit w trivial)
      have w2 : WinExt k0 (k1.sys (.sockopt fd .reuse)).2 := Ext.sys w1 trivial
      refine of_ite (fun _ => again w2) fun _ => ?_
      have w6 := of_ite (P := fun r : Bool × K => WinExt k0 r.2) (c := v6 = true) (b := (true, _))
        (fun _ => Ext.sys (mk := .sockopt fd .v6only) w2 trivial) fun _ => w2
      refine of_ite (fun _ => again w6) fun _ => ?_
      have w3 := Ext.trans w6 (setNonBlocking_win fd _)
      refine of_ite (fun _ => again w3) fun _ => ?_
      refine of_ite (fun b4 _ => ⟨_, fd, _, w3, by rw [sys_tr, b4]⟩) fun _ => again (Ext.sys w3 trivial)


def SomeSame (k : K) (r : Option Nat × K) : Prop := ∀ fd, r.1 = some fd → HFSame k r.2

theorem createBound_hf (n : Node) (p : Port) (k : K) : SomeSame k (createBound n p k) := by
  unfold createBound
  cases gaiEntries k.ans with
  | none => exact fun _ h => nomatch h
  | some cnt =>
    dsimp only
    have hb := boundLoop_win (decide (n = .lo6)) p _ cnt none (k.adv.emit (.gai n p (some cnt))) (Ext.refl _)
    generalize boundLoop _ p cnt none _ = r at hb ⊢
    obtain ⟨_ | x, _ | _, k1⟩ := r
    iterate 3 exact fun _ h => nomatch h
    obtain ⟨kb, bfd, bt, ⟨seg, hseg, hwin⟩, htr⟩ := hb rfl
    refine of_ite_false (fun _ _ h => nomatch h) fun hl _ _ hw => ?_
    have e : ((k1.emit .freeai).sys (.listen x)).2.tr =
        k.tr ++ ((Ev.gai n p (some cnt) :: seg ++ [.bind bfd bt true, .freeai]) ++ [.listen x true]) := by
      rw [sys_tr, hl]
      show k1.tr ++ _ ++ _ = _
      rw [htr, hseg]
      show k.tr ++ _ ++ _ ++ _ ++ _ ++ _ = _
      simp only [List.append_assoc, List.cons_append, List.nil_append]
    rw [e, hfOf_append, List.foldl_append, foldl_window _ hw _ _ _ _ hwin]
    exact hfStep_quiet _ (.listen x true) hw rfl

theorem create_hf (l : LSpec) (k : K) : SomeSame k (l.create k) := by
  cases l with
  | bound n p kind => exact createBound_hf n p k
  | all p kind => exact fun fd h => (createPlain_quiet .inet6 (.any p) k fd h).hfSame
  | uds => exact fun fd h => (createPlain_quiet .unix .udsAbstract k fd h).hfSame

theorem acceptLoop_quiet (fd : Nat) (kind : Kind) : ∀ (script : List Ans) (nx : Nat) (tr : List Ev),
    (acceptLoop fd kind script nx tr).1 = true →
    ∃ seg, (acceptLoop fd kind script nx tr).2.2.2 = tr ++ seg ∧ ∀ e ∈ seg, e.quiet = true := by
  intro script
  induction script with
  | nil => exact fun _ _ _ => ⟨[_], rfl, List.forall_mem_cons.2 ⟨rfl, List.forall_mem_nil _⟩⟩
  | cons a rest ih =>
    intro nx tr
    cases a <;> rw [acceptLoop]
    case ok | addrs => exact fun _ => ⟨[_], rfl, List.forall_mem_cons.2 ⟨rfl, List.forall_mem_nil _⟩⟩
    case fail => exact nofun
    case retry =>
      intro h
      obtain ⟨seg, e, q⟩ := ih nx _ h
      exact ⟨.accept fd .retry :: seg, by rw [e, List.append_assoc]; rfl, List.forall_mem_cons.2 ⟨rfl, q⟩⟩
    case conn =>
      intro h
      obtain ⟨seg, e, q⟩ := ih (nx + 1) _ h
      exact ⟨.accept fd (.conn nx) :: .peer nx kind :: seg, by rw [e, List.append_assoc]; rfl,
        List.forall_mem_cons.2 ⟨rfl, List.forall_mem_cons.2 ⟨rfl, q⟩⟩⟩

theorem startServer_quiet (fd : Nat) (kind : Kind) (k : K) : OkExt (·.quiet = true) k (startServer fd kind k) := by
  unfold startServer
  refine of_ite_false (fun _ => nofun) fun b => ?_
  refine of_ite (fun hp _ => ?_) fun _ => nofun
  exact Ext.trans (Ext.sys_ok (QuietExt.refl k) b rfl) (acceptLoop_quiet fd kind _ _ _ hp)

theorem startListener_hf (l : LSpec) (k : K) : SomeSame k (startListener l k) := by
  unfold startListener
  have h1 := create_hf l k
  generalize l.create k = r at h1 ⊢
  obtain ⟨_ | x, k1⟩ := r
  · exact fun _ h => nomatch h
  · exact of_ite (fun hs _ _ => (h1 x rfl).trans (QuietExt.hfSame (startServer_quiet x l.kind k1 hs))) fun _ _ h => nomatch h

theorem startAll_hf : ∀ (ls : List LSpec) (k : K) (acc : List (LSpec × Nat)), (startAll ls k acc).2.1 = true →
    HFSame k (startAll ls k acc).2.2
  | [], k, _ => fun _ => HFSame.refl k
  | l :: ls, k, acc => by
    unfold startAll
    have h1 := startListener_hf l k
    generalize startListener l k = r at h1 ⊢
    obtain ⟨_ | fd, k1⟩ := r
    · exact nofun
    · exact fun h => (h1 fd rfl).trans (startAll_hf ls k1 _ h)

theorem registerSignals_quiet (restore : Bool) (k : K) : OkExt (·.quiet = true) k (registerSignals restore k) :=
  of_ite_false (fun _ => nofun) fun b1 =>
    of_ite_false (fun _ => nofun) fun b2 =>
      of_ite_false (fun _ => nofun) fun b3 _ =>
        Ext.sys_ok (Ext.sys_ok (Ext.sys_ok (QuietExt.refl k) b1 rfl) b2 rfl) b3 rfl

theorem stopEvents_quiet : ∀ (acc : List (LSpec × Nat)), ∀ e ∈ stopEvents acc, e.quiet = true
  | [] => List.forall_mem_nil _
  | (l, fd) :: rest => by
    rw [stopEvents, List.append_assoc]
    refine List.forall_mem_append.2 ⟨List.forall_mem_cons.2 ⟨rfl, List.forall_mem_cons.2 ⟨rfl, List.forall_mem_nil _⟩⟩,
      List.forall_mem_append.2 ⟨?_, stopEvents_quiet rest⟩⟩
    split <;> decide

theorem finish_quiet (c : Cfg) (k : K) : QuietExt k (finish c k) := by
  unfold finish unregisterSignals
  cases c.code.destroyAtEnd
  · exact Ext.emit (Ext.emit (Ext.emit (QuietExt.refl k) rfl) rfl) rfl
  · exact Ext.emit (Ext.emit (Ext.emit (Ext.emit (Ext.emit (QuietExt.refl k) rfl) rfl) rfl) rfl) rfl


theorem bootPhase_hf (c : Cfg) (k : K) (acc : List (LSpec × Nat)) (k1 : K) :
    bootPhase c k = some (acc, true, k1) → HFSame k k1 := by
  unfold bootPhase
  refine of_ite_false (P := fun o => o = some (acc, true, k1) → _) (fun _ => nofun) fun bs => ?_
  refine of_ite_false (P := fun o => o = some (acc, true, k1) → _) (fun _ => nofun) fun bi h => ?_
  have e := Option.some.inj h
  have hs := startAll_hf (listeners c) _ [] (congrArg (·.2.1) e)
  rw [show (startAll (listeners c) _ []).2.2 = k1 from congrArg (·.2.2) e] at hs
  exact (QuietExt.hfSame (Ext.sys_ok (registerSignals_quiet _ k bs) bi rfl)).trans hs

/-- a run_io that returns 0 saw no step fail for good -/
theorem run_ok_no_hard_failure (c : Cfg) (script : List Ans) (h : (run c script).1.ret = 0) :
    hardFailures (run c script).2.tr = 0 := by
  obtain ⟨acc, k1, hb, hj, he⟩ := runIo_ran c (K.start script) true ((IoEnd.ret_eq_zero _).1 h)
  obtain ⟨k', hx, ht⟩ := runJet_tr c k1 true hj
  have qj : QuietExt k1 (runJet c k1).2 :=
    Ext.trans (hx.mono fun e he => by rcases he with rfl | rfl | rfl | rfl <;> rfl)
      ⟨_, ht, List.forall_mem_cons.2 ⟨rfl, List.forall_mem_cons.2 ⟨rfl, List.forall_mem_cons.2 ⟨rfl, List.forall_mem_nil _⟩⟩⟩⟩
  have qs : QuietExt (runJet c k1).2 (stopAll acc (runJet c k1).2) := ⟨_, stopAll_tr acc _, stopEvents_quiet acc⟩
  have all := (bootPhase_hf c _ acc k1 hb).trans (QuietExt.hfSame (Ext.trans qj (Ext.trans qs (finish_quiet c _))))
  show (hfOf (runIo c (K.start script)).2.tr).hard = 0
  rw [he]
  exact congrArg HF.hard (all rfl)

end Cjet.Startup
