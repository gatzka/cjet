/-
  DaemonC14Loop — two small models beside the daemon model:

  * `toItimerspec`: `convert_timeoutns_to_itimerspec` of `src/linux/timer_linux.c`;
  * the dispatch loop of `src/linux/eventloop_epoll.c` over one harvested batch, in its FIXED form
    (`eventloop_epoll_remove` also nulls the not yet dispatched entries of the current batch that
    refer to the removed registration) and in its ORIGINAL form (it only forgets `current_ev`).

  Registrations (`struct io_event *`) are numbers.  What callbacks do to the set of registrations
  is an arbitrary function (`Behaviour`) of the event being dispatched, the callback kind and
  everything removed so far in the batch — theorems quantify over all of them.
-/

namespace Cjet.Daemon.C14

/-! ## timer_linux.c -/

def NSECONDS_IN_SECONDS : Nat := 1000000000

/-- `convert_timeoutns_to_itimerspec`: (`it_value.tv_sec`, `it_value.tv_nsec`) -/
def toItimerspec (ns : Nat) : Nat × Nat :=
  let seconds := ns / NSECONDS_IN_SECONDS
  (seconds, ns - seconds * NSECONDS_IN_SECONDS)

/-! ## eventloop_epoll.c -/

/-- one harvested `struct epoll_event`: the registration it points to (`none` once nulled) and
    whether EPOLLIN / EPOLLOUT are set -/
structure Ev where
  reg : Option Nat
  rd : Bool
  wr : Bool
  deriving DecidableEq, Repr

inductive Kind | read | write
  deriving DecidableEq, Repr

/-- What the callback of registration `reg` (kind `kd`) removes from the event loop — any
    registrations, its own included — given everything removed earlier in this batch. -/
abbrev Behaviour := Nat → Kind → List Nat → List Nat

/-- a callback invocation: which registration, which callback, and the registrations that had been
    removed (and probably freed) in this batch before the call -/
structure Call where
  reg : Nat
  kind : Kind
  removedBefore : List Nat
  deriving DecidableEq, Repr

/-- `eventloop_epoll_remove`, fixed: entries of the pending batch that refer to a removed
    registration are nulled -/
def nullify (rm : List Nat) (pending : List Ev) : List Ev :=
  pending.map (fun e => match e.reg with
    | some x => if rm.contains x then { e with reg := none } else e
    | none => e)

/-- the callbacks of one event: read, then — unless the read callback removed this very
    registration (`current_ev == NULL`) — write.  Returns the calls and what they removed. -/
def dispatchOne (beh : Behaviour) (reg : Nat) (rd wr : Bool) (removed : List Nat) : List Call × List Nat :=
  let (calls1, rm1) := if rd then ([Call.mk reg .read removed], beh reg .read removed) else ([], [])
  if wr && !rm1.contains reg then
    (calls1 ++ [Call.mk reg .write (removed ++ rm1)], rm1 ++ beh reg .write (removed ++ rm1))
  else (calls1, rm1)

/-- `dispatch_events`, fixed loop -/
def dispatchFixed (beh : Behaviour) : List Ev → List Nat → List Call
  | [], _ => []
  | e :: rest, removed =>
    match e.reg with
    | none => dispatchFixed beh rest removed
    | some reg =>
      let r := dispatchOne beh reg e.rd e.wr removed
      r.1 ++ dispatchFixed beh (nullify r.2 rest) (removed ++ r.2)
termination_by l => l.length
decreasing_by all_goals simp [nullify]

/-- `dispatch_events`, original loop: removal does not touch the harvested batch -/
def dispatchOrig (beh : Behaviour) : List Ev → List Nat → List Call
  | [], _ => []
  | e :: rest, removed =>
    match e.reg with
    | none => dispatchOrig beh rest removed
    | some reg =>
      let r := dispatchOne beh reg e.rd e.wr removed
      r.1 ++ dispatchOrig beh rest (removed ++ r.2)

/-! ### lemmas -/

theorem toItimerspec_exact (ns : Nat) :
    (toItimerspec ns).1 * 1000000000 + (toItimerspec ns).2 = ns ∧ (toItimerspec ns).2 < 1000000000 ∧
    (ns > 0 → toItimerspec ns ≠ (0, 0)) := by
  -- the second component is `ns % 10⁹`
  have hm : (toItimerspec ns).2 = ns % 1000000000 := by
    show ns - ns / 1000000000 * 1000000000 = _
    rw [Nat.mul_comm, Nat.mod_def]
  have hd : (toItimerspec ns).1 * 1000000000 + (toItimerspec ns).2 = ns := hm ▸ Nat.div_add_mod' ns _
  refine ⟨hd, hm ▸ Nat.mod_lt ns (by decide), fun hpos h => ?_⟩
  rw [h] at hd
  exact Nat.ne_of_gt hpos hd.symm

/-- the `uint64_t` computation does not wrap and `tv_sec` fits a signed 64-bit `time_t` -/
theorem toItimerspec_in_range (ns : Nat) (h : ns < 2 ^ 64) :
    (toItimerspec ns).1 < 2 ^ 63 ∧ (toItimerspec ns).1 * NSECONDS_IN_SECONDS ≤ ns :=
  -- `tv_sec = ns / 10⁹ ≤ ns / 2 < 2⁶³`
  ⟨Nat.lt_of_le_of_lt (Nat.div_le_div_left (c := 2) (by decide) (by decide)) (Nat.div_lt_of_lt_mul (n := 2) h),
   Nat.div_mul_le_self ns _⟩

/-- pending entries never refer to a registration removed earlier in the batch -/
def Clean (pending : List Ev) (removed : List Nat) : Prop :=
  ∀ e ∈ pending, ∀ x, e.reg = some x → x ∉ removed

theorem clean_nullify {pending : List Ev} {removed rm : List Nat} (h : Clean pending removed) :
    Clean (nullify rm pending) (removed ++ rm) := by
  intro e he x hx
  unfold nullify at he
  obtain ⟨e0, he0, rfl⟩ := List.mem_map.mp he
  cases hreg : e0.reg with
  | none => simp [hreg] at hx
  | some y =>
    simp only [hreg] at hx
    by_cases hc : y ∈ rm
    · simp [hc] at hx
    · simp only [List.contains_eq_mem, hc, decide_false, Bool.false_eq_true, ↓reduceIte, hreg,
        Option.some.injEq] at hx
      subst hx
      simp only [List.mem_append, not_or]
      exact ⟨h e0 he0 y hreg, hc⟩

theorem dispatchOne_safe (beh : Behaviour) (reg : Nat) (rd wr : Bool) (removed : List Nat)
    (h : reg ∉ removed) : ∀ c ∈ (dispatchOne beh reg rd wr removed).1, c.reg ∉ c.removedBefore := by
  intro c hc
  unfold dispatchOne at hc
  cases rd with
  | false =>
    simp only [Bool.false_eq_true, ↓reduceIte, List.nil_append, List.append_nil] at hc
    split at hc
    · simp only [List.mem_singleton] at hc
      subst hc; exact h
    · cases hc
  | true =>
    simp only [↓reduceIte] at hc
    split at hc
    · next hw =>
      simp only [List.mem_append, List.mem_singleton] at hc
      rcases hc with rfl | rfl
      · exact h
      · simp only [List.mem_append, not_or]
        refine ⟨h, ?_⟩
        simp only [Bool.and_eq_true, Bool.not_eq_eq_eq_not, Bool.not_true] at hw
        simpa using hw.2
    · simp only [List.mem_singleton] at hc
      subst hc; exact h

theorem dispatchFixed_safe (beh : Behaviour) (pending : List Ev) (removed : List Nat) (h : Clean pending removed) :
    ∀ c ∈ dispatchFixed beh pending removed, c.reg ∉ c.removedBefore := by
  induction hn : pending.length using Nat.strongRecOn generalizing pending removed with
  | _ n ih =>
    cases pending with
    | nil => intro c hc; simp [dispatchFixed] at hc
    | cons e rest =>
      have hrest : Clean rest removed := fun e' he' => h e' (List.mem_cons_of_mem _ he')
      rw [dispatchFixed]
      cases hreg : e.reg with
      | none =>
        simp only
        exact ih rest.length (by rw [← hn]; simp) rest removed hrest rfl
      | some reg =>
        simp only
        intro c hc
        rcases List.mem_append.mp hc with hc | hc
        · exact dispatchOne_safe beh reg e.rd e.wr removed (h e (List.mem_cons_self ..) reg hreg) c hc
        · exact ih (nullify _ rest).length (by rw [← hn]; simp [nullify]) _ _ (clean_nullify hrest) rfl c hc

end Cjet.Daemon.C14
