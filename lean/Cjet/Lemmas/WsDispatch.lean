import Cjet.Ws.Wire
import Cjet.Lemmas.WsMachine
/-! What the endpoint sends and what it does with a frame: `send_frame` produces the RFC wire layout, so a refusal is a close
    frame (`handleError_server`); which frames reach the `switch` of `ws_handle_frame`, and what becomes of a fragment
    (`fragment_outcome`). -/
namespace Cjet.Ws
open Cjet.Generated.Ws

/-! ## `send_frame` is the wire layout -/

section
variable {word align typ : Nat} {key payload : Bytes}

theorem ofNat_or_fin (h : typ < 16) : UInt8.ofNat (typ ||| wsHeaderFin) = UInt8.ofNat (bit true + 0 * 16 + typ) := by
  have : ∀ t : Fin 16, UInt8.ofNat (t.val ||| wsHeaderFin) = UInt8.ofNat (bit true + 0 * 16 + t.val) := by decide
  exact this ⟨typ, h⟩

theorem ofNat_or_mask {v : Nat} (h : v < 128) : (UInt8.ofNat v ||| UInt8.ofNat wsMaskSet) = UInt8.ofNat (bit true + v) := by
  have : ∀ t : Fin 128, (UInt8.ofNat t.val ||| UInt8.ofNat wsMaskSet) = UInt8.ofNat (bit true + t.val) := by decide +kernel
  exact this ⟨v, h⟩

theorem minimal_eq (n : Nat) :
    LenForm.minimal n = if n < sendLen7Limit then .short else if n < sendLen16Limit then .ext16 else .ext64 := by
  simp only [LenForm.minimal, Nat.lt_succ_iff]

theorem minimal_fits {n : Nat} (h : n < 18446744073709551616) : (LenForm.minimal n).fits n := by
  unfold LenForm.minimal
  split
  · exact Nat.lt_succ_of_le ‹_›
  · split
    · exact Nat.lt_succ_of_le ‹_›
    · exact h

theorem frameHeader_eq_wireHeader (isServer : Bool) (key : Bytes) (len : Nat) (ht : typ < 16) :
    frameHeader isServer key typ len =
      wireHeader true 0 typ (!isServer) (LenForm.minimal len) len ++ (if isServer then [] else key.take maskBytes) := by
  have hm : ∀ v, v < 128 → (if isServer then UInt8.ofNat v else UInt8.ofNat v ||| UInt8.ofNat wsMaskSet) =
      UInt8.ofNat (bit (!isServer) + v) := by
    intro v hv
    cases isServer
    · exact ofNat_or_mask hv
    · simp [bit]
  simp only [frameHeader, wireHeader, minimal_eq, ofNat_or_fin ht]
  by_cases h1 : len < sendLen7Limit
  · simp only [h1, if_true, ← hm len (by simp only [sendLen7Limit] at h1; omega)]
    cases isServer <;> rfl
  · by_cases h2 : len < sendLen16Limit
    · simp only [h1, h2, if_true, if_false, ← hm sendLen16Marker (by decide)]
      cases isServer <;> rfl
    · simp only [h1, h2, if_false, ← hm sendLen64Marker (by decide)]
      cases isServer <;> rfl

/-- server frames are exactly the wire layout with FIN, no RSV bit, no mask and the minimal length form -/
theorem sendFrame_server_eq_wire (ht : typ < 16) :
    sendFrame true word align key typ payload = wire true 0 typ none (LenForm.minimal payload.length) payload := by
  simp [sendFrame, wire, wirePayload, frameHeader_eq_wireHeader true key _ ht]

/-- client frames: the same layout with the mask bit, the key and the masked payload -/
theorem sendFrame_client_eq_wire (hw0 : 0 < word) (hw : word % 4 = 0) (hk : key.length = 4) (ht : typ < 16) :
    sendFrame false word align key typ payload = wire true 0 typ (some key) (LenForm.minimal payload.length) payload := by
  have hk' : key.take maskBytes = key := List.take_of_length_le (by rw [hk]; decide)
  simp [sendFrame, wire, wirePayload, frameHeader_eq_wireHeader false key _ ht, hk',
    unmaskPayload_eq_xorMask word hw0 hw]

end

/-! ## `ws_handle_frame` -/

/-- `handle_error` of an upgraded server: close frame `88 02 code`, connection closed, `on_error` -/
theorem handleError_server {c : Conf} (hs : c.isServer = true) (hu : c.upgradeComplete = true) (code : Nat) :
    handleError c code = [Action.write c.sendOk (serverCloseFrame code), Action.closeConn, Action.onError] := by
  simp only [handleError, websocketClose, hu, if_true, Conf.frame, hs, closePayload, serverCloseFrame]
  rw [sendFrame_server_eq_wire (by decide)]
  simp [LenForm.minimal, be16]

theorem refuse_refusedWith (c : Conf) (f : Flags) (code : Nat) : (refuse c f code).refusedWith c code :=
  ⟨rfl, rfl⟩

theorem fragStep_some {f f' : Flags} {comp : Bool} (h : fragStep f comp = some f') :
    (f' = f ∧ (f.fin = true ∨ f.opcode = opContinuation)) ∨
    (f'.opcode = opContinuation ∧ f'.fragOpcode = f.opcode) := by
  unfold fragStep at h
  split at h
  · split at h
    · split at h
      · cases h
      · cases h; exact .inr ⟨rfl, rfl⟩
    · split at h
      · cases h
      · split at h
        · cases h
        · cases h; exact .inl ⟨rfl, .inr (by simpa using ‹¬ f.opcode ≠ 0›)⟩
  · cases h; exact .inl ⟨rfl, .inl (by simpa using ‹¬ (!f.fin) = true›)⟩

/-- the part of `ws_handle_frame` before the `switch`; a first fragment enters the `switch` with opcode 0 and its own opcode saved -/
theorem wsHandleFrame_cases (c : Conf) (f : Flags) (p : Bytes) :
    (∃ f', wsHandleFrame c f p = refuse c f' closeProtocolError) ∨
    ((f.fin = true ∨ f.opcode = opContinuation) ∧ wsHandleFrame c f p = dispatchOpcode c f p) ∨
    (∃ f', f'.opcode = opContinuation ∧ f'.fragOpcode = f.opcode ∧ wsHandleFrame c f p = dispatchOpcode c f' p) := by
  unfold wsHandleFrame
  split
  · exact .inl ⟨f, rfl⟩
  · split
    · exact .inl ⟨f, rfl⟩
    · split
      · exact .inl ⟨f, rfl⟩
      · next f' hf' =>
        split
        · exact .inl ⟨f', rfl⟩
        · rcases fragStep_some hf' with ⟨rfl, h⟩ | ⟨h1, h2⟩
          · exact .inr (.inl ⟨h, rfl⟩)
          · exact .inr (.inr ⟨f', h1, h2, rfl⟩)

theorem wsHandleFrame_fin {c : Conf} {f : Flags} {p : Bytes} (hfin : f.fin = true) (hrsv : f.rsv = 0)
    (h : f.isFragmented = false ∨ opClose ≤ f.opcode) : wsHandleFrame c f p = dispatchOpcode c f p := by
  have hd : (f.isFragmented && (decide (f.opcode < opClose) && decide (f.opcode > 0))) = false := by
    rcases h with h | h
    · simp [h]
    · simp; omega
  simp [wsHandleFrame, rsvCheck, fragStep, hfin, hrsv, hd]

def FragOutcome (c : Conf) (p : Bytes) (r : HandleResult) : Prop :=
  (c.cbs.textFrame.isSome ∧ ∃ last, r.actions.head? = some (Action.textFrame p last)) ∨
  (c.cbs.binaryFrame.isSome ∧ ∃ last, r.actions.head? = some (Action.binaryFrame p last)) ∨
  r.refusedWith c closeProtocolError ∨
  r.refusedWith c closeUnsupported

theorem fragOutcome_refuse1002 (c : Conf) (p : Bytes) (f : Flags) : FragOutcome c p (refuse c f closeProtocolError) :=
  .inr (.inr (.inl (refuse_refusedWith c f _)))

theorem fragOutcome_refuse1003 (c : Conf) (p : Bytes) (f : Flags) : FragOutcome c p (refuse c f closeUnsupported) :=
  .inr (.inr (.inr (refuse_refusedWith c f _)))

theorem dispatch_continuation (c : Conf) {f : Flags} (p : Bytes) (h0 : f.opcode = opContinuation) :
    FragOutcome c p (dispatchOpcode c f p) := by
  unfold dispatchOpcode
  simp only [h0, if_true]
  by_cases hb : f.fragOpcode = opBinary
  · simp only [hb, if_true]
    split
    · exact fragOutcome_refuse1003 c p f
    · next cb hcb => exact .inr (.inl ⟨by rw [hcb]; rfl, f.fin, rfl⟩)
  · simp only [hb, if_false]
    by_cases ht : f.fragOpcode = opText
    · simp only [ht, if_true]
      split
      · exact fragOutcome_refuse1003 c p f
      · next cb hcb => split <;> exact .inl ⟨by rw [hcb]; rfl, f.fin, rfl⟩
    · simp only [ht, if_false]
      exact fragOutcome_refuse1002 c p f

theorem fragment_outcome (c : Conf) (f : Flags)
    (hfrag : (f.fin = false ∧ f.opcode < opClose) ∨ f.opcode = opContinuation) (p : Bytes) :
    FragOutcome c p (wsHandleFrame c f p) := by
  rcases wsHandleFrame_cases c f p with ⟨f', h⟩ | ⟨h0, h⟩ | ⟨f', h0, _, h⟩
  · rw [h]; exact fragOutcome_refuse1002 c p f'
  · rw [h]
    refine dispatch_continuation c p ?_
    rcases hfrag with ⟨hf, _⟩ | ho
    · simpa [hf] using h0
    · exact ho
  · rw [h]; exact dispatch_continuation c p h0

end Cjet.Ws
