/-
  DaemonC14Deadline — which deadline a request gets (`get_timeout_in_nsec`), what a refused
  timeout does, and what happens after the final answer: the id of a resolved routing entry is
  never stored again, so replies that arrive late find nothing.  (That a timer id is destroyed at
  most once over a whole run is the `DInv` part of the ledger of `DaemonC07Run`.)
  `Float` stays opaque: `belowMin` is the comparison `valuedouble < MIN_TIMEOUT_IN_S`
  and `secondsToNs` the conversion, both functions of the number's bits that are never unfolded.
-/
import Cjet.Lemmas.DaemonC03Exact
import Cjet.Lemmas.DaemonC14Elem

namespace Cjet.Daemon.C14

open Cjet Cjet.Json Cjet.Daemon Cjet.Daemon.C03

/-! ## the deadline of a request -/

/-- `timeout->valuedouble < MIN_TIMEOUT_IN_S` -/
def belowMin (cfg : Config) (n : JNum) : Prop := Float.ofBits n.bits < Float.ofBits cfg.minTimeoutBits

instance (cfg : Config) (n : JNum) : Decidable (belowMin cfg n) := by unfold belowMin; infer_instance

/-- The deadline (in ns) a `timeout` member asks for: absent → the default handed in;
    a number not below the minimum → its conversion; anything else → refused (`none`). -/
def deadlineOf (cfg : Config) (t : Option Json) (dflt : Nat) : Option Nat :=
  match t with
  | none => some dflt
  | some (.num n) => if belowMin cfg n then none else some (secondsToNs n.bits)
  | some _ => none

theorem getTimeout_ns_iff (cfg : Config) (t : Option Json) (dflt tns : Nat) :
    getTimeout cfg t dflt = .ns tns ↔ deadlineOf cfg t dflt = some tns := by
  unfold getTimeout deadlineOf belowMin
  cases t with
  | none => simp
  | some j =>
    cases j with
    | num n =>
      dsimp only
      split
      · next h => simp [h]
      · next h => simp [h]
    | null => simp
    | bool _ => simp
    | str _ => simp
    | arr _ => simp
    | obj _ => simp

theorem getTimeout_err_of_none (cfg : Config) (t : Option Json) (dflt : Nat) (h : deadlineOf cfg t dflt = none) :
    ∃ reason, (reason = "timeout value is too small" ∨ reason = "timeout is not a number") ∧
      getTimeout cfg t dflt = .err reason := by
  unfold getTimeout
  unfold deadlineOf belowMin at h
  cases t with
  | none => simp at h
  | some j =>
    cases j with
    | num n =>
      dsimp only at h ⊢
      split
      · exact ⟨_, Or.inl rfl, rfl⟩
      · next hn => simp [hn] at h
    | null => exact ⟨_, Or.inr rfl, rfl⟩
    | bool _ => exact ⟨_, Or.inr rfl, rfl⟩
    | str _ => exact ⟨_, Or.inr rfl, rfl⟩
    | arr _ => exact ⟨_, Or.inr rfl, rfl⟩
    | obj _ => exact ⟨_, Or.inr rfl, rfl⟩

theorem deadlineOf_none_iff (cfg : Config) (t : Option Json) (dflt : Nat) :
    deadlineOf cfg t dflt = none ↔
      ∃ j, t = some j ∧ ((∀ n, j ≠ .num n) ∨ ∃ n, j = .num n ∧ belowMin cfg n) := by
  unfold deadlineOf
  split
  · exact ⟨nofun, fun ⟨_, h, _⟩ => nomatch h⟩
  · next n =>
    by_cases hb : belowMin cfg n
    · rw [if_pos hb]
      exact ⟨fun _ => ⟨_, rfl, .inr ⟨n, rfl, hb⟩⟩, fun _ => rfl⟩
    · rw [if_neg hb]
      refine ⟨nofun, fun ⟨_, hj, h⟩ => ?_⟩
      cases hj
      rcases h with h | ⟨m, hm, hbm⟩
      · exact absurd rfl (h n)
      · cases hm; exact absurd hbm hb
  · next j hj => exact ⟨fun _ => ⟨j, rfl, .inl fun n h => hj n (h ▸ rfl)⟩, fun _ => rfl⟩

/-! ## refusals -/

theorem setOrCall_timeout_refused {cfg : Config} {x : Ctx} {p : Peer} {req : Json} {isState : Bool}
    {params : Json} {path : Bytes} {e : Element}
    (hc : Checks cfg x.st p req isState params path e)
    (hv : isState = true → (params.getItem (k "value")).isSome = true)
    (hbad : deadlineOf cfg (params.getItem (k "timeout")) e.timeoutNs = none) :
    ∃ reason, (reason = "timeout value is too small" ∨ reason = "timeout is not a number") ∧
      setOrCall cfg x p req isState =
        ({ x with st := { x.st with uuid := (x.st.uuid + 1) % 4294967296 } },
         errorFromRequest req INVALID_PARAMS "reason" (k reason)) := by
  obtain ⟨reason, hr, hg⟩ := getTimeout_err_of_none cfg _ _ hbad
  refine ⟨reason, hr, ?_⟩
  rw [setOrCall_of_checks hc, routeCore_badTimeout hv hg]
  rfl

theorem addElement_timeout_refused {cfg : Config} {x : Ctx} {p : Peer} {req : Json} {params : Json} {path : Bytes}
    (hlocal : (cfg.localOnlyAdd && !p.isLocal) = false)
    (hpp : getParamsAndPath req = .ok params path)
    (hfo : params.getItem (k "fetchOnly") = none ∨ ∃ b, params.getItem (k "fetchOnly") = some (.bool b))
    (hbad : deadlineOf cfg (params.getItem (k "timeout")) cfg.defaultTimeoutNs = none) :
    ∃ reason, (reason = "timeout value is too small" ∨ reason = "timeout is not a number") ∧
      addElement cfg x p req = (x, errorFromRequest req INVALID_PARAMS "reason" (k reason)) := by
  obtain ⟨reason, hr, hg⟩ := getTimeout_err_of_none cfg _ _ hbad
  refine ⟨reason, hr, ?_⟩
  rw [addElement_eq, addChecks, if_neg (by simp [hlocal])]
  rcases hfo with h | ⟨b, h⟩ <;> simp only [hpp, h, hg]

/-- whatever the other members are: an `add` whose timeout is refused changes nothing and emits nothing -/
theorem addElement_timeout_refused' {cfg : Config} {x : Ctx} {p : Peer} {req : Json} {params : Json} {path : Bytes}
    (hpp : getParamsAndPath req = .ok params path)
    (hbad : deadlineOf cfg (params.getItem (k "timeout")) cfg.defaultTimeoutNs = none) :
    (addElement cfg x p req).1 = x := by
  rw [addElement_eq]
  cases hc : addChecks cfg x.st p req with
  | error r => rfl
  | ok e0 =>
    -- the checks let no element with a refused timeout through
    obtain ⟨params', hpp', _, _, _, ht, _⟩ := addChecks_ok hc
    cases hpp.symm.trans hpp'
    rw [(getTimeout_ns_iff ..).mp ht] at hbad
    cases hbad

/-! ## entries of the past -/

theorem routes_after_steps {ls : List Lbl} {a b : RS} (hs : Steps ls a b) (hr : Room a ls) {r : Route}
    (h : r ∈ vRoutes b.V) : r ∈ vRoutes a.V ∨ ∃ u, a.uuid ≤ u ∧ uuidSeg r.rid = hexDigits u := by
  refine (steps_induct (I := fun x => a.uuid ≤ x.uuid ∧
    ∀ r ∈ vRoutes x.V, r ∈ vRoutes a.V ∨ ∃ u, a.uuid ≤ u ∧ uuidSeg r.rid = hexDigits u) hs hr ?_
    ⟨Nat.le_refl _, fun _ h => .inl h⟩).1.2 r h
  intro l _ x hp hx ⟨hle, hI⟩
  refine ⟨by rw [app_uuid hx.bound_one]; omega, fun r hr' => ?_⟩
  rcases mem_vRoutes_app hr' with h | ⟨tns, rfl⟩
  · exact hI r h
  · exact .inr ⟨x.uuid, hle, Fresh.uuidSeg hp hx.rids⟩

/-- `rid` was generated in the past and is stored nowhere -/
def RidDeadS (s : State) (rid : Bytes) : Prop := RidDead (rsS s []) rid

theorem ridDead_step (cfg : Config) (s : State) (op : Op) (rid : Bytes) (hw : RoutesWf s) (hr : RidsWf s)
    (hok : OpOk op) (hb : s.uuid + opWeight op < 4294967296) (h : RidDeadS s rid) :
    RidDeadS (step cfg s op).1 rid := by
  obtain ⟨ls, hl, hs⟩ := sim_step cfg s op hw []
  exact (steps_induct hs.steps (room_of_op hl hw hr hok hb [])
    (fun _ _ _ hp hx h => ridDead_app hp hx.rids hx.bound_one h) h).1

theorem ridDead_run (cfg : Config) (ops : List Op) (s : State) (rid : Bytes) (hw : RoutesWf s) (hr : RidsWf s)
    (hok : ∀ op ∈ ops, OpOk op) (hb : s.uuid + runWeight ops < 4294967296) (h : RidDeadS s rid) :
    RidDeadS (run cfg s ops).1 rid :=
  (run_induct_bounded (I := fun s _ => RoutesWf s ∧ RidsWf s ∧ RidDeadS s rid) (H := []) cfg ops hok hb
    (fun s op _ hop hb' h =>
      have h' := ridsWf_step cfg s op h.1 h.2.1 hop hb'
      ⟨⟨routesWf_step cfg s op h.1, h'.1, ridDead_step cfg s op rid h.1 h.2.1 hop hb' h.2.2⟩, h'.2⟩)
    ⟨hw, hr, h⟩).1.2.2

/-- the id of an entry that an operation removed is dead afterwards -/
theorem resolved_is_dead (cfg : Config) (s : State) (op : Op) (r : Route) (hw : RoutesWf s) (hr : RidsWf s)
    (hok : OpOk op) (hb : s.uuid + opWeight op < 4294967296) (hin : Stored s r)
    (hgone : ¬ Stored (step cfg s op).1 r) : RidDeadS (step cfg s op).1 r.rid := by
  obtain ⟨ls, hl, ⟨hs, _⟩⟩ := sim_step cfg s op hw []
  have hroom := room_of_op hl hw hr hok hb []
  have hmem : r ∈ vRoutes (s.peers.map pview) := vTable_subset_vRoutes ((stored_iff s r).mp hin)
  obtain ⟨u, hu, hseg⟩ := hr.issued r hmem
  have huu : (step cfg s op).1.uuid = s.uuid + ticksOf ls := (rids_steps hs hroom).2
  refine ⟨⟨u, Nat.lt_of_lt_of_le hu (Nat.le.intro huu.symm), hseg⟩, fun r' hr'mem e => ?_⟩
  rcases routes_after_steps hs hroom hr'mem with hold | ⟨u', hu', hseg'⟩
  · -- an old entry with `r`'s id is `r`, which would still be stored
    cases nodup_map_inj (f := (·.rid)) hr.rids hold hmem e
    exact hgone ((stored_iff _ _).mpr ((wf_steps hs hw).mem_table hr'mem))
  · -- a new entry carries a later counter value than `r`
    rw [e, hseg] at hseg'
    have := hexDigits_inj hseg'
    have : s.uuid ≤ u' := hu'
    have : u < s.uuid := hu
    omega

/-- a routing response carrying a dead id does nothing, whoever sends it -/
theorem reply_to_dead_ignored (cfg : Config) (s : State) (c : Nat) (orc : Oracle) (members : List (Bytes × Json))
    (payload : Json) (typ : String) (rid : Bytes) (hdead : RidDeadS s rid)
    (hresp : IsResponse (.obj members) payload typ)
    (hid : (Json.obj members).getItem (k "id") = some (.str rid)) :
    step cfg s (.message c (some (.obj members)) orc) = (s, []) := by
  cases hp : findPeer s.peers c with
  | none =>
    rw [step_message_eq]
    simp [hp]
  | some p =>
    apply step_reply_miss cfg s c orc members payload typ rid p hp hresp hid
    intro r hrp
    apply hdead.2 r
    show r ∈ vRoutes (s.peers.map pview)
    rw [vRoutes_map_pview]
    exact List.mem_flatMap.mpr ⟨p, findPeer_mem hp, hrp⟩

end Cjet.Daemon.C14
