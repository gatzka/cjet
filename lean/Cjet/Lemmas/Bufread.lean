import Cjet.Bufread
/-!
Helper lemmas for the reader model (`Cjet.Bufread`): buffer surgery (`slice`/`splice`), the `memmem`
transcription `findSub`, the bridge between what the reader sees in its buffer (`avail`) and what the
stream-only specification prescribes (`Spec.next`), the one-step simulation `step_spec` and its lifting to
`goReading` and `runEvents`.
-/
namespace Cjet.Bufread

/-! ## slice / splice -/

theorem slice_length {buf : Bytes} {r w : Nat} (hw : w ≤ buf.length) :
    (slice buf r w).length = w - r := by
  rw [slice, List.length_take, List.length_drop]
  exact Nat.min_eq_left (Nat.sub_le_sub_right hw r)

theorem slice_split {buf : Bytes} {r m w : Nat} (h1 : r ≤ m) (h2 : m ≤ w) :
    slice buf r w = slice buf r m ++ slice buf m w := by
  rw [slice, slice, slice, ← Nat.sub_add_sub_cancel h2 h1, Nat.add_comm, List.take_add, List.drop_drop,
    Nat.add_sub_cancel' h1]

theorem slice_append_left {a x : Bytes} {r w : Nat} (hw : w ≤ a.length) :
    slice (a ++ x) r w = slice a r w := by
  rw [slice, slice, List.drop_append, List.take_append_of_le_length]
  rw [List.length_drop]
  exact Nat.sub_le_sub_right hw r

theorem slice_take {buf : Bytes} {r w pos : Nat} (hw : w ≤ pos) :
    slice (buf.take pos) r w = slice buf r w := by
  rw [slice, slice, List.drop_take, List.take_take, Nat.min_eq_left (Nat.sub_le_sub_right hw r)]

theorem slice_zero_append {a x : Bytes} : slice (a ++ x) 0 a.length = a :=
  List.take_left' rfl

theorem splice_length {buf b : Bytes} {pos : Nat} (h : pos + b.length ≤ buf.length) :
    (splice buf pos b).length = buf.length := by
  rw [splice, List.length_append, List.length_append, List.length_take, List.length_drop,
    Nat.min_eq_left (Nat.le_trans (Nat.le_add_right ..) h), Nat.add_sub_cancel' h]

theorem slice_splice_before {buf b : Bytes} {r w pos : Nat} (hw : w ≤ pos) (hp : pos ≤ buf.length) :
    slice (splice buf pos b) r w = slice buf r w := by
  rw [splice, List.append_assoc, slice_append_left (by rw [List.length_take_of_le hp]; exact hw), slice_take hw]

theorem slice_splice_at {buf b : Bytes} {pos : Nat} (hp : pos ≤ buf.length) :
    slice (splice buf pos b) pos (pos + b.length) = b := by
  rw [slice, splice, List.append_assoc, List.drop_left' (List.length_take_of_le hp), Nat.add_sub_cancel_left]
  exact List.take_left' rfl

/-! ## the reader's unread region under the three buffer operations -/

variable {cap : Nat} {rd : Reader}

theorem Inv.w_le_length (h : Inv cap rd) : rd.w ≤ rd.buf.length :=
  h.len ▸ h.wc

theorem unread_length (h : Inv cap rd) : rd.unread.length = rd.w - rd.r :=
  slice_length h.w_le_length

theorem unread_length_le (h : Inv cap rd) : rd.unread.length ≤ cap :=
  unread_length h ▸ Nat.le_trans (Nat.sub_le ..) h.wc

theorem Inv.init (cap : Nat) (fill : UInt8) : Inv cap (Reader.init cap fill) :=
  ⟨Nat.le_refl _, Nat.zero_le _, List.length_replicate⟩

theorem unread_init (cap : Nat) (fill : UInt8) : (Reader.init cap fill).unread = [] :=
  rfl

theorem reorganize_inv (h : Inv cap rd) : Inv cap (reorganize rd) := by
  have hu : rd.w - rd.r ≤ cap := Nat.le_trans (Nat.sub_le ..) h.wc
  refine ⟨Nat.zero_le _, hu, ?_⟩
  show (slice rd.buf rd.r rd.w ++ rd.buf.drop (rd.w - rd.r)).length = cap
  rw [List.length_append, slice_length h.w_le_length, List.length_drop, h.len, Nat.add_sub_cancel' hu]

theorem reorganize_unread (h : Inv cap rd) : (reorganize rd).unread = rd.unread :=
  List.take_left' (slice_length h.w_le_length)

theorem prep_inv (count : Nat) (h : Inv cap rd) : Inv cap (prep cap rd count) := by
  rw [prep]; split
  · exact reorganize_inv h
  · exact h

theorem prep_unread (count : Nat) (h : Inv cap rd) :
    (prep cap rd count).unread = rd.unread := by
  rw [prep]; split
  · exact reorganize_unread h
  · rfl

/-- after `prep`, "still too small" means the request can never fit: `cap - unread < count`. -/
theorem prep_small {count : Nat} :
    (cap - (prep cap rd count).w < count) ↔ (cap - (rd.w - rd.r) < count) := by
  rw [prep]; split
  · exact Iff.rfl
  · next hn => exact iff_of_false hn fun h => hn (Nat.lt_of_le_of_lt (Nat.sub_le_sub_left (Nat.sub_le ..) cap) h)

theorem read_inv {b : Bytes} (h : Inv cap rd) (hb : b.length ≤ cap - rd.w) :
    Inv cap { rd with buf := splice rd.buf rd.w b, w := rd.w + b.length } :=
  have hw : rd.w + b.length ≤ cap := Nat.add_le_of_le_sub' h.wc hb
  ⟨Nat.le_trans h.rw (Nat.le_add_right ..), hw, (splice_length (h.len ▸ hw)).trans h.len⟩

theorem read_unread {b : Bytes} (h : Inv cap rd) :
    (Reader.unread { rd with buf := splice rd.buf rd.w b, w := rd.w + b.length }) = rd.unread ++ b := by
  show slice _ rd.r (rd.w + b.length) = _
  rw [slice_split h.rw (Nat.le_add_right ..), slice_splice_before (Nat.le_refl _) h.w_le_length,
    slice_splice_at h.w_le_length]
  rfl

theorem advance_inv {len : Nat} (h : Inv cap rd) (hlen : len ≤ rd.w - rd.r) :
    Inv cap { rd with r := rd.r + len } :=
  ⟨Nat.add_le_of_le_sub' h.rw hlen, h.wc, h.len⟩

theorem advance_unread {len : Nat} (h : Inv cap rd) (hlen : len ≤ rd.w - rd.r) :
    rd.unread = slice rd.buf rd.r (rd.r + len) ++ Reader.unread { rd with r := rd.r + len } :=
  slice_split (Nat.le_add_right ..) (Nat.add_le_of_le_sub' h.rw hlen)

theorem advance_slice_length {len : Nat} (h : Inv cap rd) (hlen : len ≤ rd.w - rd.r) :
    (slice rd.buf rd.r (rd.r + len)).length = len := by
  rw [slice_length (Nat.le_trans (Nat.add_le_of_le_sub' h.rw hlen) h.w_le_length), Nat.add_sub_cancel_left]

theorem advance_take_drop {len : Nat} (h : Inv cap rd) (hlen : len ≤ rd.w - rd.r)
    (x : Bytes) :
    (rd.unread ++ x).take len = slice rd.buf rd.r (rd.r + len) ∧
    (rd.unread ++ x).drop len = Reader.unread { rd with r := rd.r + len } ++ x := by
  have hl := advance_slice_length h hlen
  rw [advance_unread h hlen, List.append_assoc]
  exact ⟨List.take_left' hl, List.drop_left' hl⟩

/-! ## findSub (memmem) -/

theorem findSub_nil_left (h : Bytes) : findSub [] h = some 0 := by
  cases h <;> simp [findSub]

theorem findSub_eq_some_iff {d h : Bytes} {i : Nat} :
    findSub d h = some i ↔ d <+: h.drop i ∧ i + d.length ≤ h.length ∧ ∀ j, j < i → ¬ d <+: h.drop j := by
  have hs := findSub_spec d h
  refine ⟨fun hf => by rwa [hf] at hs, fun ⟨hp, hl, hfirst⟩ => ?_⟩
  cases hf : findSub d h with
  | none => rw [hf] at hs; exact absurd hp (hs i (Nat.le_trans (Nat.le_add_right ..) hl))
  | some k =>
    rw [hf] at hs
    rcases Nat.lt_trichotomy k i with hlt | rfl | hgt
    · exact absurd hs.1 (hfirst k hlt)
    · rfl
    · exact absurd hp (hs.2.2 i hgt)

theorem findSub_append {d h : Bytes} {i : Nat} (x : Bytes) (hf : findSub d h = some i) :
    findSub d (h ++ x) = some i := by
  obtain ⟨hp, hl, hfirst⟩ := findSub_eq_some_iff.mp hf
  have hi : i ≤ h.length := Nat.le_trans (Nat.le_add_right ..) hl
  refine findSub_eq_some_iff.mpr ⟨?_, ?_, fun j hj hpj => hfirst j hj ?_⟩
  · rw [List.drop_append_of_le_length hi]
    exact hp.trans (List.prefix_append _ _)
  · exact Nat.le_trans hl (List.length_append ▸ Nat.le_add_right ..)
  · -- an occurrence before `i` in `h ++ x` ends before `i + d.length`, so it lies in `h`
    rw [List.drop_append_of_le_length (Nat.le_trans (Nat.le_of_lt hj) hi)] at hpj
    refine List.prefix_of_prefix_length_le hpj (List.prefix_append _ _) ?_
    rw [List.length_drop]
    exact Nat.le_sub_of_add_le' (Nat.le_trans (Nat.add_le_add_right (Nat.le_of_lt hj) _) hl)

/-! ## unfolding the stream-only specification -/

/-- put deliveries in front of a specified behaviour. -/
def prepend (ds : List (σ × Bytes)) (x : List (σ × Bytes) × Outcome) : List (σ × Bytes) × Outcome :=
  (ds ++ x.1, x.2)

@[simp] theorem prepend_nil (x : List (σ × Bytes) × Outcome) : prepend [] x = x := rfl

theorem prepend_append (a b : List (σ × Bytes)) (x : List (σ × Bytes) × Outcome) :
    prepend (a ++ b) x = prepend a (prepend b x) := by
  simp [prepend, List.append_assoc]

theorem deliveries_append (a b : List (Obs σ)) : deliveries (a ++ b) = deliveries a ++ deliveries b := by
  induction a with
  | nil => rfl
  | cons o os ih => cases o <;> simp [deliveries, ih]

/-- `Spec.run` without the proofs its termination argument carries. -/
theorem Spec.run_eq (c : Client σ) (cap : Nat) (s : σ) (str : Bytes) (t : Terminal) :
    Spec.run c cap s str t =
      match Spec.next cap (c.want s) str with
      | .tooMuch => ([], .tooMuch)
      | .needMore => ([], .ofTerminal t)
      | .take len =>
        if len = 0 then ([], .peerClosed)
        else if (c.deliver s (str.take len)).2 then ([(s, str.take len)], .clientClosed)
        else prepend [(s, str.take len)] (Spec.run c cap (c.deliver s (str.take len)).1 (str.drop len) t) := by
  rw [Spec.run]
  split <;> rename_i h <;> simp only [h]
  split
  · rfl
  · split <;> rfl

variable {c : Client σ} {s : σ} {ks : List KRes} {str : Bytes} {t : Terminal}

theorem Spec.run_tooMuch (h : Spec.next cap (c.want s) str = .tooMuch) : Spec.run c cap s str t = ([], .tooMuch) := by
  rw [Spec.run_eq, h]

theorem Spec.run_needMore (h : Spec.next cap (c.want s) str = .needMore) : Spec.run c cap s str t = ([], .ofTerminal t) := by
  rw [Spec.run_eq, h]

theorem Spec.run_take_zero (h : Spec.next cap (c.want s) str = .take 0) : Spec.run c cap s str t = ([], .peerClosed) := by
  rw [Spec.run_eq, h]; rfl

theorem Spec.run_take {len : Nat} (h : Spec.next cap (c.want s) str = .take len) (h0 : len ≠ 0) :
    Spec.run c cap s str t =
      if (c.deliver s (str.take len)).2 then ([(s, str.take len)], .clientClosed)
      else prepend [(s, str.take len)] (Spec.run c cap (c.deliver s (str.take len)).1 (str.drop len) t) := by
  rw [Spec.run_eq, h]; exact if_neg h0

/-! ## what the reader sees in its buffer vs. what the stream prescribes -/

theorem asked_pos {req : Req} {rd : Reader} {asked : Nat} (h : avail req rd = none) (hfit : ¬ asked < need req rd) :
    0 < asked := by
  refine Nat.lt_of_lt_of_le ?_ (Nat.le_of_not_lt hfit)
  cases req with
  | exactly n =>
    rw [avail] at h
    split at h
    · cases h
    · next hn => exact Nat.sub_pos_of_lt (Nat.lt_of_not_le hn)
  | «until» d => exact Nat.one_pos

theorem next_of_avail {req : Req} {len : Nat} (hi : Inv cap rd)
    (h : avail req rd = some len) (x : Bytes) : Spec.next cap req (rd.unread ++ x) = .take len := by
  have hc := unread_length_le hi
  cases req with
  | exactly n =>
    rw [avail, ← unread_length hi] at h
    split at h <;> cases h
    next hn =>
    rw [Spec.next, List.length_append, if_neg (Nat.not_lt.mpr (Nat.le_trans hn hc)),
      if_pos (Nat.le_trans hn (Nat.le_add_right ..))]
  | «until» d =>
    obtain ⟨i, hf, rfl⟩ := Option.map_eq_some_iff.mp h
    rw [Spec.next, List.take_append, List.take_of_length_le hc, findSub_append _ hf]

theorem next_tooMuch {req : Req} (hi : Inv cap rd)
    (h : avail req rd = none) (hs : cap - (rd.w - rd.r) < need req rd) (x : Bytes) :
    Spec.next cap req (rd.unread ++ x) = .tooMuch := by
  have hc := unread_length_le hi
  rw [← unread_length hi] at hs
  cases req with
  | exactly n =>
    rw [need, ← unread_length hi] at hs
    exact if_pos (Nat.lt_of_not_le fun hle => Nat.not_le_of_lt hs (Nat.sub_le_sub_right hle _))
  | «until» d =>
    -- the buffer is full: the first `cap` bytes of the stream are the unread region
    have hfull : cap - rd.unread.length = 0 := Nat.lt_one_iff.mp hs
    rw [Spec.next, List.take_append, List.take_of_length_le hc, hfull, List.take_zero, List.append_nil,
      Option.map_eq_none_iff.mp h]
    exact if_pos (Nat.le_trans (Nat.le_of_sub_eq_zero hfull) (List.length_append ▸ Nat.le_add_right ..))

theorem next_needMore {req : Req} (hi : Inv cap rd)
    (h : avail req rd = none) (hs : ¬ cap - (rd.w - rd.r) < need req rd) :
    Spec.next cap req rd.unread = .needMore := by
  have hc := unread_length_le hi
  rw [← unread_length hi] at hs
  cases req with
  | exactly n =>
    rw [avail, ← unread_length hi] at h
    split at h
    · cases h
    · next hn =>
      rw [need, ← unread_length hi] at hs
      rw [Spec.next, if_neg fun hbig => hs (Nat.sub_lt_sub_right hc hbig), if_neg hn]
  | «until» d =>
    rw [Spec.next, List.take_of_length_le hc, Option.map_eq_none_iff.mp h]
    exact if_neg fun hfull => hs (Nat.sub_eq_zero_of_le hfull ▸ Nat.one_pos)

/-- nothing deliverable is left in the buffer and the armed request still fits. -/
def Drained (c : Client σ) (cap : Nat) (rd : Reader) (s : σ) : Prop :=
  Spec.next cap (c.want s) rd.unread = .needMore

/-! ## the scripted kernel -/

theorem kread_spec {asked : Nat} (ha : 0 < asked) (ks : List KRes) :
    match kread asked ks with
    | (.data b, ks') => evBytes ks = b ++ evBytes ks' ∧ evFin ks' = evFin ks
    | (.wouldBlock, _) => evBytes ks = [] ∧ evFin ks = .none
    | (.eof, _) => evBytes ks = [] ∧ evFin ks = .eof
    | (.err, _) => evBytes ks = [] ∧ evFin ks = .err := by
  fun_cases kread asked ks
  case case2 b ks h0 => simp [evBytes, evFin, h0.resolve_right (Nat.ne_of_gt ha)]
  case case3 b ks h0 h1 => simp [evBytes, evFin, show ¬ b.length = 0 from fun h => h0 (.inl h)]
  case case4 b ks h0 h1 =>
    have hb : ¬ b.length = 0 := fun h => h0 (.inl h)
    have hd : ¬ (b.drop asked).length = 0 := List.length_drop ▸ Nat.sub_ne_zero_of_lt (Nat.lt_of_not_le h1)
    simp only [evBytes, evFin, hb, hd, if_false, and_true]
    rw [← List.append_assoc, List.take_append_drop]
  all_goals simp [evBytes, evFin]

/-! ## pointer discipline of single observations -/

theorem deliver_ok {req : Req} {len : Nat} (s : σ) (hi : Inv cap rd)
    (hav : avail req rd = some len) (h0 : len ≠ 0) :
    Obs.ok cap (.deliver rd.r rd.w s (slice rd.buf rd.r (rd.r + len))) := by
  have hle := avail_le hav
  show 0 < (slice _ _ _).length ∧ _ + (slice _ _ _).length ≤ _ ∧ _
  rw [advance_slice_length hi hle]
  exact ⟨Nat.pos_of_ne_zero h0, Nat.add_le_of_le_sub' hi.rw hle, hi.wc⟩

theorem read_ok {got : Got} (hi : Inv cap rd) (hpos : 0 < cap - rd.w)
    (hgot : match got with
      | .data b => 0 < b.length ∧ b.length ≤ cap - rd.w
      | _ => True) :
    Obs.ok (σ := σ) cap (.read rd.r rd.w (cap - rd.w) got) :=
  ⟨hi.rw, hi.wc, hpos, rfl, hgot⟩

theorem ok_one {a : Obs σ} (ha : Obs.ok cap a) : ∀ o ∈ [a], Obs.ok cap o :=
  List.forall_mem_singleton.mpr ha

theorem ok_two {a b : Obs σ} (ha : Obs.ok cap a) (hb : Obs.ok cap b) : ∀ o ∈ [a, b], Obs.ok cap o :=
  List.forall_mem_cons.mpr ⟨ha, ok_one hb⟩

/-! ## one loop iteration against the specification -/

/-- The stream seen from `(rd, s)` is the unread bytes, then the bytes of `ks`, then any `rest`. -/
structure Meets (c : Client σ) (cap : Nat) (rd : Reader) (s : σ) (ks : List KRes) (res : Res σ) : Prop where
  inv : Inv cap res.rd
  ok : ∀ o ∈ res.obs, Obs.ok cap o
  waiting : res.out = .wouldBlock → evFin ks = .none ∧ Drained c cap res.rd res.s ∧
    ∀ rest t, Spec.run c cap s (rd.unread ++ evBytes ks ++ rest) t =
      prepend (deliveries res.obs) (Spec.run c cap res.s (res.rd.unread ++ rest) t)
  /-- when the event ended the stream, nothing follows it -/
  ended : res.out ≠ .wouldBlock → ∀ rest t, (evFin ks ≠ .none → rest = [] ∧ t = evFin ks) →
    Spec.run c cap s (rd.unread ++ evBytes ks ++ rest) t = (deliveries res.obs, res.out)


theorem Meets.of_ended {res : Res σ} (hi : Inv cap res.rd) (hok : ∀ o ∈ res.obs, Obs.ok cap o)
    (hne : res.out ≠ .wouldBlock)
    (h : ∀ rest t, (evFin ks ≠ .none → rest = [] ∧ t = evFin ks) →
      Spec.run c cap s (rd.unread ++ evBytes ks ++ rest) t = (deliveries res.obs, res.out)) :
    Meets c cap rd s ks res :=
  ⟨hi, hok, fun hw => absurd hw hne, fun _ => h⟩

/-- A read moves bytes from the script into the buffer, so the stream `unread ++ evBytes ks` stays the same; a
    delivery takes from its front what `Spec.next` takes. -/
theorem step_spec (hi : Inv cap rd) :
    match step c cap rd s ks with
    | .more obs rd' s' ks' =>
        Inv cap rd' ∧ (∀ o ∈ obs, Obs.ok cap o) ∧ evFin ks' = evFin ks ∧
        ∀ rest t, Spec.run c cap s (rd.unread ++ evBytes ks ++ rest) t =
          prepend (deliveries obs) (Spec.run c cap s' (rd'.unread ++ evBytes ks' ++ rest) t)
    | .done obs rd' s' out ks' => Meets c cap rd s ks ⟨obs, rd', s', out, ks'⟩ := by
  have hi1 := prep_inv (need (c.want s) rd) hi
  have hu1 := prep_unread (need (c.want s) rd) hi
  have hsmall := prep_small (cap := cap) (rd := rd) (count := need (c.want s) rd)
  fun_cases step c cap rd s ks
  case case1 hav =>  -- a request for 0 bytes is served: callback with `len = 0`
    refine .of_ended hi (ok_one trivial) nofun fun rest t _ => ?_
    rw [List.append_assoc, Spec.run_take_zero (next_of_avail hi hav _)]
    rfl
  case case2 len hav h0 b rd' res hcl =>  -- delivery, the callback closes
    have hle := avail_le hav
    refine .of_ended (advance_inv hi hle) (ok_two (deliver_ok s hi hav h0) trivial) nofun fun rest t _ => ?_
    rw [List.append_assoc, Spec.run_take (next_of_avail hi hav _) h0, (advance_take_drop hi hle _).1, if_pos hcl]
    rfl
  case case3 len hav h0 b rd' res hcl =>  -- delivery, the loop goes on
    have hle := avail_le hav
    refine ⟨advance_inv hi hle, ok_one (deliver_ok s hi hav h0), rfl, fun rest t => ?_⟩
    rw [List.append_assoc, Spec.run_take (next_of_avail hi hav _) h0, (advance_take_drop hi hle _).1, if_neg hcl,
      (advance_take_drop hi hle _).2, List.append_assoc]
    rfl
  case case4 hav count rd1 hsm =>  -- the request does not fit even after compaction
    refine .of_ended hi1 (ok_one trivial) nofun fun rest t _ => ?_
    rw [List.append_assoc, Spec.run_tooMuch (next_tooMuch hi hav (hsmall.mp hsm) _)]
    rfl
  case case5 hav count rd1 hfit asked b ks' hk =>  -- the read brought bytes `b`
    have hpos := asked_pos hav hfit
    have hks := kread_spec hpos ks
    rw [hk] at hks
    have hb := kread_data hk
    refine ⟨read_inv hi1 hb.2.1, ok_one (read_ok hi1 hpos ⟨hb.1, hb.2.1⟩), hks.2, fun rest t => ?_⟩
    rw [read_unread hi1, hu1, hks.1]
    simp [deliveries, List.append_assoc]
  case case6 hav count rd1 hfit asked ks' hk =>  -- the read would block
    have hpos := asked_pos hav hfit
    have hks := kread_spec hpos ks
    rw [hk] at hks
    refine ⟨hi1, ok_one (read_ok hi1 hpos trivial), fun _ => ⟨hks.2, ?_, fun rest t => ?_⟩, fun h => absurd rfl h⟩
    · rw [Drained, hu1]
      exact next_needMore hi hav (mt hsmall.mpr hfit)
    · rw [hks.1, hu1]
      simp [deliveries]
  case case7 hav count rd1 hfit asked ks' hk | case8 hav count rd1 hfit asked ks' hk =>  -- end of stream / read error
    have hpos := asked_pos hav hfit
    have hks := kread_spec hpos ks
    rw [hk] at hks
    refine .of_ended hi1 (ok_two (read_ok hi1 hpos trivial) trivial) nofun fun rest t ht => ?_
    obtain ⟨rfl, rfl⟩ := ht (by rw [hks.2]; nofun)
    rw [hks.1, hks.2, List.append_nil, List.append_nil, Spec.run_needMore (next_needMore hi hav (mt hsmall.mpr hfit))]
    rfl

/-! ## one `go_reading` against the specification -/

theorem goReading_spec (hi : Inv cap rd) : Meets c cap rd s ks (goReading c cap rd s ks) := by
  fun_induction goReading c cap rd s ks with
  | case1 rd s ks obs rd' s' out ks' hst =>
    have hs := step_spec (c := c) (s := s) (ks := ks) hi
    rwa [hst] at hs
  | case2 rd s ks obs rd' s' ks' hst res ih =>
    have hs := step_spec (c := c) (s := s) (ks := ks) hi
    rw [hst] at hs
    obtain ⟨h1, hok, h2, h3⟩ := hs
    have ih := ih h1
    refine ⟨ih.inv, List.forall_mem_append.mpr ⟨hok, ih.ok⟩, fun hw => ?_, fun hw rest t ht => ?_⟩
    · obtain ⟨a, g, e⟩ := ih.waiting hw
      refine ⟨h2 ▸ a, g, fun rest t => ?_⟩
      rw [h3, e, deliveries_append, prepend_append]
    · rw [h3, ih.ended hw rest t (h2 ▸ ht), deliveries_append]
      rfl

/-! ## a connection's run against the specification -/

/-- `spec` needs the first reader to have been armed: some event, or nothing deliverable in the buffer. -/
structure RunMeets (c : Client σ) (cap : Nat) (rd : Reader) (s : σ) (evs : List (List KRes)) (fin : Final σ) :
    Prop where
  inv : Inv cap fin.rd
  ok : ∀ o ∈ fin.obs, Obs.ok cap o
  spec : (evs = [] → Drained c cap rd s) →
    Spec.run c cap s (rd.unread ++ bytes evs) (terminal evs) = observable fin ∧
    (fin.out = .wouldBlock → Drained c cap fin.rd fin.s)

theorem runEvents_spec : ∀ {evs : List (List KRes)} {rd : Reader} {s : σ},
    Inv cap rd → RunMeets c cap rd s evs (runEvents c cap rd s evs)
  | [], rd, s, hi =>
    ⟨hi, nofun, fun hd => ⟨by rw [bytes, List.append_nil, Spec.run_needMore (hd rfl)]; rfl, fun _ => hd rfl⟩⟩
  | ev :: evs, rd, s, hi => by
    have m := goReading_spec (c := c) (s := s) (ks := ev) hi
    rw [runEvents]
    split
    · next hw =>
      obtain ⟨a, g, e⟩ := m.waiting hw
      have ih := runEvents_spec (evs := evs) (s := (goReading c cap rd s ev).s) m.inv
      obtain ⟨hs, hdr⟩ := ih.spec fun _ => g
      refine ⟨ih.inv, List.forall_mem_append.mpr ⟨m.ok, ih.ok⟩, fun _ => ⟨?_, hdr⟩⟩
      rw [bytes, terminal, a, if_pos rfl, if_pos rfl, ← List.append_assoc, e, hs]
      simp only [observable, prepend, deliveries_append]
    · next hnw =>
      refine ⟨m.inv, m.ok, fun _ => ⟨?_, fun ho => absurd ho hnw⟩⟩
      rw [bytes, terminal, ← List.append_assoc, m.ended (fun h => hnw h)]
      · rfl
      · intro hf
        simp [hf]

end Cjet.Bufread
