/-
  DaemonC08Password — the password fields of the credential table are read by credentials_ok
  only: every other function of the model commutes with replacing the credential table
  (`wu`), and authenticate / passwd depend on the passwords through the verdict only.
-/
import Cjet.Lemmas.DaemonC08Step
import Cjet.Lemmas.DaemonC08Groups

namespace Cjet.Daemon.C08

open Cjet Cjet.Json Cjet.Daemon

/-- the same context with another credential table -/
def wu (us : List User) (x : Ctx) : Ctx := { x with st := { x.st with users := us } }

@[simp] theorem wu_peers (us : List User) (x : Ctx) : (wu us x).st.peers = x.st.peers := rfl
@[simp] theorem wu_index (us : List User) (x : Ctx) : (wu us x).st.index = x.st.index := rfl
@[simp] theorem wu_users (us : List User) (x : Ctx) : (wu us x).st.users = us := rfl
@[simp] theorem wu_uuid (us : List User) (x : Ctx) : (wu us x).st.uuid = x.st.uuid := rfl
@[simp] theorem wu_nextTimer (us : List User) (x : Ctx) : (wu us x).st.nextTimer = x.st.nextTimer := rfl
@[simp] theorem wu_nextUid (us : List User) (x : Ctx) : (wu us x).st.nextUid = x.st.nextUid := rfl
@[simp] theorem wu_sends (us : List User) (x : Ctx) : (wu us x).sends = x.sends := rfl
@[simp] theorem wu_out (us : List User) (x : Ctx) : (wu us x).out = x.out := rfl
@[simp] theorem wu_indexFull (us : List User) (x : Ctx) : (wu us x).indexFull = x.indexFull := rfl
@[simp] theorem wu_routeFull (us : List User) (x : Ctx) : (wu us x).routeFull = x.routeFull := rfl
theorem wu_self (x : Ctx) : wu x.st.users x = x := rfl
theorem wu_wu (us us' : List User) (x : Ctx) : wu us (wu us' x) = wu us x := rfl

theorem findElement_wu (us : List User) (x : Ctx) (path : Bytes) : findElement (wu us x).st path = findElement x.st path := rfl

theorem ite_wu {α : Type} (us : List User) (c : Bool) {a b a' b' : Ctx × α} (ha : a' = (wu us a.1, a.2))
    (hb : b' = (wu us b.1, b.2)) : (if c then a' else b') = (wu us (if c then a else b).1, (if c then a else b).2) :=
  ite_eq_map (fun r => (wu us r.1, r.2)) c ha hb

/-! ## primitives -/

theorem send_wu (us : List User) (x : Ctx) (c : Nat) (j : Json) :
    send (wu us x) c j = (wu us (send x c j).1, (send x c j).2) := by
  rw [send_eq, send_eq]
  rfl

theorem send'_wu (us : List User) (x : Ctx) (c : Nat) (j : Json) : send' (wu us x) c j = wu us (send' x c j) :=
  congrArg Prod.fst (send_wu us x c j)

theorem emit_wu (us : List User) (x : Ctx) (o : Obs) : emit (wu us x) o = wu us (emit x o) := rfl

theorem sendResponse_wu (us : List User) (x : Ctx) (c : Nat) (r : Option Json) :
    sendResponse (wu us x) c r = (wu us (sendResponse x c r).1, (sendResponse x c r).2) := by
  unfold sendResponse
  cases r with
  | none => rfl
  | some j => exact send_wu ..

theorem notifyOne_wu (us : List User) (x : Ctx) (e : Element) (fk : FetchKey) (ev : String) :
    notifyOne (wu us x) e fk ev = wu us (notifyOne x e fk ev) := by
  unfold notifyOne
  simp only [wu_peers]
  cases findFetch x.st.peers fk with
  | none => rfl
  | some f => exact send'_wu ..

theorem notifyFetchers_wu (us : List User) (x : Ctx) (e : Element) (ev : String) :
    notifyFetchers (wu us x) e ev = wu us (notifyFetchers x e ev) := by
  unfold notifyFetchers
  refine foldl_comm (wu us) _ _ (fun x s _ => ?_) x
  cases s with
  | none => rfl
  | some fk => exact notifyOne_wu ..

theorem offerElement_wu (cfg : Config) (us : List User) (x : Ctx) (e : Element) (fp : Peer) (f : Fetch) :
    offerElement cfg (wu us x) e fp f = (wu us (offerElement cfg x e fp f).1, (offerElement cfg x e fp f).2) := by
  unfold offerElement
  exact ite_wu us _ rfl (ite_wu us _ (congrArg (·, _) (send'_wu ..)) rfl)

theorem findFetchersForElement_wu (cfg : Config) (us : List User) (x : Ctx) (e : Element) :
    findFetchersForElement cfg (wu us x) e =
      (wu us (findFetchersForElement cfg x e).1, (findFetchersForElement cfg x e).2) := by
  unfold findFetchersForElement
  refine foldl_comm (fun z => (wu us z.1, z.2)) _ _ (fun z fp _ => ?_) (x, e)
  exact foldl_comm (fun z => (wu us z.1, z.2)) _ _ (fun z f _ => offerElement_wu ..) z

/-! ## handlers that do not look at the credential table -/

theorem changeState_wu (us : List User) (x : Ctx) (p : Peer) (req : Json) :
    changeState (wu us x) p req = (wu us (changeState x p req).1, (changeState x p req).2) := by
  rw [changeState_eq, changeState_eq]
  cases getParamsAndPath req with
  | err r => rfl
  | ok params path =>
    dsimp only
    cases params.getItem (k "value") with
    | none => rfl
    | some v =>
      dsimp only [findElement_wu]
      cases findElement x.st path with
      | none => rfl
      | some e =>
        exact ite_wu us _ rfl (ite_wu us _ rfl
          (congrArg (·, _) (notifyFetchers_wu us { x with st := changedState x.st p.conn path e v } _ _)))

theorem removeElement_wu (us : List User) (x : Ctx) (e : Element) :
    removeElement (wu us x) e = wu us (removeElement x e) := by
  rw [removeElement_eq, removeElement_eq, notifyFetchers_wu]
  rfl

theorem removeElementReq_wu (us : List User) (x : Ctx) (p : Peer) (req : Json) :
    removeElementReq (wu us x) p req = (wu us (removeElementReq x p req).1, (removeElementReq x p req).2) := by
  unfold removeElementReq
  split
  · rfl
  · split
    · simp only [removeElement_wu]
    · rfl

theorem addCore_wu (cfg : Config) (us : List User) (x : Ctx) (p : Peer) (req : Json) (e0 : Element) :
    addCore cfg (wu us x) p req e0 = (wu us (addCore cfg x p req e0).1, (addCore cfg x p req e0).2) := by
  unfold addCore
  rw [findFetchersForElement_wu]
  refine ite_wu us _ ?_ rfl
  exact congrArg (fun y : Ctx => ({ y with indexFull := false }, _)) (notifyFetchers_wu ..)

theorem addElement_wu (cfg : Config) (us : List User) (x : Ctx) (p : Peer) (req : Json) :
    addElement cfg (wu us x) p req = (wu us (addElement cfg x p req).1, (addElement cfg x p req).2) := by
  rw [addElement_eq, addElement_eq, show addChecks cfg (wu us x).st p req = addChecks cfg x.st p req from rfl]
  cases addChecks cfg x.st p req with
  | error r => rfl
  | ok e0 => exact addCore_wu ..

open C03 in
theorem routeCore_wu (cfg : Config) (us : List User) (x : Ctx) (p : Peer) (req : Json) (isState : Bool) (params : Json)
    (path : Bytes) (e : Element) :
    routeCore cfg (wu us x) p req isState params path e =
      (wu us (routeCore cfg x p req isState params path e).1, (routeCore cfg x p req isState params path e).2) := by
  unfold routeCore
  refine ite_wu us _ rfl ?_
  cases getTimeout cfg (params.getItem (k "timeout")) e.timeoutNs with
  | err reason => rfl
  | ns tns =>
    refine ite_wu us _ rfl ?_
    dsimp only
    rw [show newRoute (wu us x) p req e = newRoute x p req e from rfl,
      show stored (wu us x) (newRoute x p req e) tns = wu us (stored x (newRoute x p req e) tns) from rfl, send_wu]
    exact ite_wu us _ rfl rfl

open C03 in
theorem setOrCall_wu (cfg : Config) (us : List User) (x : Ctx) (p : Peer) (req : Json) (isState : Bool) :
    setOrCall cfg (wu us x) p req isState =
      (wu us (setOrCall cfg x p req isState).1, (setOrCall cfg x p req isState).2) := by
  rw [setOrCall_eq, setOrCall_eq, routeChecks_congr (s' := (wu us x).st) (s := x.st) (fun _ => rfl)]
  cases routeChecks cfg x.st p req isState with
  | error r => rfl
  | ok a => exact routeCore_wu ..

theorem routingResponse_wu (us : List User) (x : Ctx) (p : Peer) (msg payload : Json) (typ : String) :
    routingResponse (wu us x) p msg payload typ =
      (wu us (routingResponse x p msg payload typ).1, (routingResponse x p msg payload typ).2) := by
  unfold routingResponse
  cases msg.getItem (k "id") with
  | none => rfl
  | some id =>
    cases id with
    | str rid =>
      dsimp only
      cases p.routes.find? (fun r => r.rid == rid) with
      | none => rfl
      | some r =>
        dsimp only
        cases r.originId with
        | none => rfl
        | some oid =>
          dsimp only
          cases resultResponse oid payload typ with
          | none => rfl
          | some resp =>
            dsimp only
            rw [← send'_wu]
            rfl
    | null | bool _ | num _ | arr _ | obj _ => rfl

theorem timeoutFired_wu (us : List User) (x : Ctx) (t : Nat) :
    timeoutFired (wu us x) t = wu us (timeoutFired x t) := by
  unfold timeoutFired
  dsimp only [wu_peers]
  cases (x.st.peers.flatMap (fun q => q.routes)).find? (fun r => r.timer == t) with
  | none => rfl
  | some r =>
    dsimp only
    cases r.originId with
    | none => rfl
    | some oid =>
      dsimp only
      cases errorResponse oid INTERNAL_ERROR "reason" (k "timeout for routed request") with
      | none => rfl
      | some resp =>
        dsimp only
        rw [← emit_wu, ← send'_wu]
        rfl

theorem getReq_wu (cfg : Config) (us : List User) (x : Ctx) (p : Peer) (req : Json) :
    getReq cfg (wu us x) p req = (wu us (getReq cfg x p req).1, (getReq cfg x p req).2) := by
  unfold getReq
  split
  · rfl
  · split <;> rfl

theorem configReq_wu (us : List User) (x : Ctx) (p : Peer) (req : Json) :
    configReq (wu us x) p req = (wu us (configReq x p req).1, (configReq x p req).2) := by
  unfold configReq
  split
  · rfl
  · split <;> rfl

theorem infoReq_wu (cfg : Config) (us : List User) (x : Ctx) (req : Json) :
    infoReq cfg (wu us x) req = (wu us (infoReq cfg x req).1, (infoReq cfg x req).2) := rfl

theorem unfetchReq_wu (us : List User) (x : Ctx) (p : Peer) (req : Json) :
    unfetchReq (wu us x) p req = (wu us (unfetchReq x p req).1, (unfetchReq x p req).2) := by
  unfold unfetchReq
  split
  · rfl
  · split <;> rfl

theorem offerStep_wu (cfg : Config) (us : List User) (fp : Peer) (f : Fetch) (oc : Nat) (x : Ctx) (e0 : Element) :
    offerStep cfg fp f oc (wu us x) e0 = wu us (offerStep cfg fp f oc x e0) := by
  rw [offerStep_eq, offerStep_eq, wu_peers, offerElement_wu]
  rfl

theorem offerAllElements_wu (cfg : Config) (us : List User) (x : Ctx) (fp : Peer) (f : Fetch) :
    offerAllElements cfg (wu us x) fp f = wu us (offerAllElements cfg x fp f) := by
  rw [offerAllElements_eq, offerAllElements_eq, wu_peers]
  refine foldl_comm (wu us) _ _ (fun x owner _ => ?_) x
  exact foldl_comm (wu us) _ _ (fun x e0 _ => offerStep_wu ..) x

theorem fetchReq_wu (cfg : Config) (us : List User) (x : Ctx) (p : Peer) (req : Json) :
    fetchReq cfg (wu us x) p req = (wu us (fetchReq cfg x p req).1, (fetchReq cfg x p req).2) := by
  rw [fetchReq_eq, fetchReq_eq]
  cases getFetchId req true with
  | err r => rfl
  | ok params fid =>
    dsimp only
    refine ite_wu us _ rfl ?_
    cases createRule cfg params with
    | err code reason => rfl
    | ok rule => exact congrArg (·, _) (offerAllElements_wu cfg us (withFetch x p.conn _) _ _)

/-! ## close -/

theorem clearRoute_wu (us : List User) (x : Ctx) (r : Route) (c : Nat) :
    clearRoute (wu us x) r c = wu us (clearRoute x r c) := by
  unfold clearRoute
  refine ite_eq_map (wu us) _ rfl ?_
  cases r.originId with
  | none => rfl
  | some oid =>
    dsimp only
    cases errorResponse oid INTERNAL_ERROR "reason" (k "peer shuts down") with
    | none => rfl
    | some resp =>
      dsimp only
      rw [← send'_wu]
      rfl

theorem clearRoutes_wu (us : List User) (x : Ctx) (l : List Route) (c : Nat) :
    clearRoutes (wu us x) l c = wu us (clearRoutes x l c) :=
  foldl_comm (wu us) _ l (fun x r _ => clearRoute_wu us x r c) x

theorem freePeerResources_wu (us : List User) (x : Ctx) (c : Nat) :
    freePeerResources (wu us x) c = wu us (freePeerResources x c) := by
  cases hp : findPeer x.st.peers c with
  | none => rw [freePeerResources_none hp, freePeerResources_none (x := wu us x) hp]
  | some p =>
    rw [freePeerResources_phases hp, freePeerResources_phases (x := wu us x) hp]
    have h1 : freeTable (wu us x) c p = wu us (freeTable x c p) := by
      unfold freeTable; rw [clearRoutes_wu]; rfl
    have h2 : ∀ y, freeRequests (wu us y) c = wu us (freeRequests y c) := fun y => by
      unfold freeRequests; rw [wu_peers, clearRoutes_wu]; rfl
    have h4 : ∀ y, removeElements (wu us y) c p.elements = wu us (removeElements y c p.elements) := fun y =>
      foldl_comm (wu us) _ _ (fun y e0 _ => by
        rw [wu_peers]
        split
        · exact removeElement_wu ..
        · rfl) y
    rw [h1, h2, show ∀ y, unsubscribe (wu us y) c = wu us (unsubscribe y c) from fun _ => rfl, h4]
    rfl

theorem closePeer_wu (us : List User) (x : Ctx) (c : Nat) : closePeer (wu us x) c = wu us (closePeer x c) := by
  unfold closePeer
  rw [freePeerResources_wu]
  rfl

/-- a function that commutes with `wu` leaves the credential table alone -/
theorem users_of_wu {α : Type} (f : Ctx → Ctx × α) (hf : ∀ us x, f (wu us x) = (wu us (f x).1, (f x).2)) (x : Ctx) :
    (f x).1.st.users = x.st.users :=
  congrArg (·.1.st.users) (hf x.st.users x)

end Cjet.Daemon.C08
