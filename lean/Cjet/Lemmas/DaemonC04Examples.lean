/-
  C04 — concrete reachable states and requests used by the non-vacuity examples of
  `Cjet.Props.C04`.  The state `exS` is evaluated once, by the kernel, into a table of Bool-valued
  views (`Json` has no decidable equality); what the examples need of it is read off the table.
-/
import Cjet.Lemmas.DaemonC04Spec

namespace Cjet.Daemon.C04

open Cjet Cjet.Json Cjet.Daemon

theorem getItem_cons_self (key : Bytes) (v : Json) (rest : List (Bytes × Json)) :
    (Json.obj ((key, v) :: rest)).getItem key = some v := by
  simp [getItem, findItem, keyEq]

theorem getItem_cons_ne {a b : Bytes} (h : keyEq a b = false) (v : Json) (rest : List (Bytes × Json)) :
    (Json.obj ((a, v) :: rest)).getItem b = (Json.obj rest).getItem b := by
  simp [getItem, findItem, h]

theorem getItem_nil (b : Bytes) : (Json.obj []).getItem b = none := rfl

theorem keyEq_path_value : keyEq (k "path") (k "value") = false := by decide +kernel
theorem keyEq_path_fetchOnly : keyEq (k "path") (k "fetchOnly") = false := by decide +kernel
theorem keyEq_value_fetchOnly : keyEq (k "value") (k "fetchOnly") = false := by decide +kernel
theorem keyEq_path_timeout : keyEq (k "path") (k "timeout") = false := by decide +kernel
theorem keyEq_value_timeout : keyEq (k "value") (k "timeout") = false := by decide +kernel
theorem keyEq_path_access : keyEq (k "path") (k "access") = false := by decide +kernel
theorem keyEq_value_access : keyEq (k "value") (k "access") = false := by decide +kernel

/-- some output is the sending of an object with an "error" member -/
def anyErrSend (l : List Obs) : Bool :=
  l.any (fun o => match o with | .send _ j _ => (j.getItem (k "error")).isSome | _ => false)

theorem exists_errSend_of_any {l : List Obs} (h : anyErrSend l = true) :
    ∃ c j b, Obs.send c j b ∈ l ∧ (j.getItem (k "error")).isSome = true := by
  simp only [anyErrSend, List.any_eq_true] at h
  obtain ⟨o, ho, h2⟩ := h
  cases o with
  | send c j b => exact ⟨c, j, b, ho, h2⟩
  | _ => cases h2

/-- `{"method": m, "params": {"path": path, "value": null}, "id": "1"}` -/
def mkReq (m : String) (path : Bytes) : Json :=
  .obj [(k "method", .str (k m)), (k "params", .obj [(k "path", .str path), (k "value", .null)]),
        (k "id", .str [0x31])]

def mkParams (path : Bytes) : Json := .obj [(k "path", .str path), (k "value", .null)]

theorem mkReq_method (m : String) (path : Bytes) : (mkReq m path).getItem (k "method") = some (.str (k m)) :=
  getItem_cons_self ..

theorem mkReq_params (m : String) (path : Bytes) : (mkReq m path).getItem (k "params") = some (mkParams path) :=
  (getItem_cons_ne keyEq_method_params _ _).trans (getItem_cons_self ..)

theorem mkParams_path (path : Bytes) : (mkParams path).getItem (k "path") = some (.str path) :=
  getItem_cons_self ..

theorem mkParams_value (path : Bytes) : (mkParams path).getItem (k "value") = some .null :=
  (getItem_cons_ne keyEq_path_value _ _).trans (getItem_cons_self ..)

theorem mkParams_fetchOnly (path : Bytes) : (mkParams path).getItem (k "fetchOnly") = none :=
  (getItem_cons_ne keyEq_path_fetchOnly _ _).trans ((getItem_cons_ne keyEq_value_fetchOnly _ _).trans rfl)

theorem mkParams_timeout (path : Bytes) : (mkParams path).getItem (k "timeout") = none :=
  (getItem_cons_ne keyEq_path_timeout _ _).trans ((getItem_cons_ne keyEq_value_timeout _ _).trans rfl)

theorem mkParams_access (path : Bytes) : (mkParams path).getItem (k "access") = none :=
  (getItem_cons_ne keyEq_path_access _ _).trans ((getItem_cons_ne keyEq_value_access _ _).trans rfl)

theorem mkReq_answerable (m : String) (path : Bytes) : answerable (mkReq m path) := by
  refine Or.inl ⟨[0x31], ?_⟩
  exact (getItem_cons_ne keyEq_method_id _ _).trans ((getItem_cons_ne keyEq_params_id _ _).trans (getItem_cons_self ..))

/-- `{"method": "add", "params": {"path": "m"}, "id": "1"}` — a method -/
def addMethodReq : Json :=
  .obj [(k "method", .str (k "add")), (k "params", .obj [(k "path", .str [0x6d])]), (k "id", .str [0x31])]

/-- A reachable state: peers 1, 2, 3; peer 1 owns the state "s" (value null) and the method "m";
    peer 2 owns the fetch-only state "f". -/
def exOps : List Op :=
  [.connect 1 false true [], .connect 2 false true [], .connect 3 false true [],
   .message 1 (some (mkReq "add" [0x73])) {},
   .message 1 (some addMethodReq) {},
   .message 2 (some (.obj [(k "method", .str (k "add")),
      (k "params", .obj [(k "path", .str [0x66]), (k "value", .null), (k "fetchOnly", .bool true)])])) {}]

def exS : State := (run {} {} exOps).1

theorem exS_wf : WF exS := by
  -- by the defining equation: left to the unifier, `exS` would be evaluated
  rw [exS]
  exact (wf_iff_wfs _).2 (wfs_run {} exOps {} (wfs_init []))

/-- owner, "is a state", fetchOnly -/
def ElemInfo.view (i : ElemInfo) : Nat × Bool × Bool := (i.owner, i.value.isSome, i.fetchOnly)

def exTable : List (Bytes × Nat × Bool × Bool) :=
  [([0x73], 1, true, false), ([0x6d], 1, false, false), ([0x66], 2, true, true)]

theorem exS_table : exS.peers.map (·.conn) = [1, 2, 3] ∧
    (absElems exS).map (fun e => (e.1, e.2.view)) = exTable := by decide +kernel

theorem exS_peer {c : Nat} (h : c ∈ [1, 2, 3]) : ∃ p, findPeer exS.peers c = some p := by
  cases hf : findPeer exS.peers c with
  | some p => exact ⟨p, rfl⟩
  | none => rw [findPeer_none_iff, exS_table.1] at hf; exact absurd h hf

theorem absGet_map_view (s : State) (q : Bytes) :
    (absGet s q).map ElemInfo.view =
      (((absElems s).map fun e => (e.1, e.2.view)).find? (·.1 == q)).map (·.2) := by
  unfold absGet
  induction absElems s with
  | nil => rfl
  | cons e l ih =>
    simp only [List.map_cons, List.find?_cons]
    cases e.1 == q
    · exact ih
    · rfl

theorem exS_get (q : Bytes) : (absGet exS q).map ElemInfo.view = (exTable.find? (·.1 == q)).map (·.2) := by
  rw [absGet_map_view, exS_table.2]

theorem exS_info {q : Bytes} {o : Nat} {b f : Bool} (h : (exTable.find? (·.1 == q)).map (·.2) = some (o, b, f)) :
    ∃ i, absGet exS q = some i ∧ i.owner = o ∧ i.value.isSome = b ∧ i.fetchOnly = f := by
  obtain ⟨i, hi, hv⟩ := Option.map_eq_some_iff.1 ((exS_get q).trans h)
  exact ⟨i, hi, congrArg (·.1) hv, congrArg (·.2.1) hv, congrArg (·.2.2) hv⟩

theorem exS_free {q : Bytes} (h : exTable.find? (·.1 == q) = none) : absGet exS q = none :=
  Option.map_eq_none_iff.1 ((exS_get q).trans (congrArg _ h))

theorem exS_s : ∃ i, absGet exS [0x73] = some i ∧ i.owner = 1 ∧ i.value.isSome = true ∧ i.fetchOnly = false :=
  exS_info rfl

theorem exS_m : ∃ i, absGet exS [0x6d] = some i ∧ i.owner = 1 ∧ i.value.isSome = false ∧ i.fetchOnly = false :=
  exS_info rfl

theorem exS_f : ∃ i, absGet exS [0x66] = some i ∧ i.owner = 2 ∧ i.value.isSome = true ∧ i.fetchOnly = true :=
  exS_info rfl

theorem exS_u : absGet exS [0x75] = none := exS_free rfl

theorem exists_of_isSome {α} {o : Option α} (h : o.isSome = true) : ∃ a, o = some a :=
  Option.isSome_iff_exists.1 h

theorem eq_none_of_isNone {α} {o : Option α} (h : o.isNone = true) : o = none := by
  cases o with
  | none => rfl
  | some _ => cases h

end Cjet.Daemon.C04
