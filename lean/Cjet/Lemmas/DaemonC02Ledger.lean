/-
  C02 helper lemmas: the invariant of reachable states (`Inv`) and the ledger.  Every response object the daemon sends is paid for
  either by an answerable request object received in the same operation or by a routing record
  that owes an answer and leaves the tables in the same operation (`Paid`).
-/
import Cjet.Lemmas.DaemonC02Step

namespace Cjet.Daemon.C02

open Cjet Cjet.Json Cjet.Daemon

/-! ## the invariant of reachable states -/

structure Inv (s : State) : Prop where
  owned : RoutesOwned s.peers
  nodup : (conns s.peers).Nodup

theorem inv_init (us : List User) : Inv { users := us } :=
  ⟨fun p hp => (by cases hp), List.nodup_nil⟩

theorem Inv.routeStep {c : Nat} {s s' : State} (h : Inv s) (hs : RouteStep c s.peers s'.peers) : Inv s' :=
  ⟨h.owned.routeStep hs, by rw [hs.conns]; exact h.nodup⟩

theorem closePeer_inv (x : Ctx) (c : Nat) (h : Inv x.st) : Inv (closePeer x c).st := by
  refine ⟨?_, ?_⟩
  · show RoutesOwned (freePeerResources x c).st.peers
    cases hp : findPeer x.st.peers c with
    | none => rw [freePeerResources_none hp]; exact h.owned
    | some p => exact (freePeerResources_teardown hp).owned h.owned
  · show ((freePeerResources x c).st.peers.map (·.conn)).Nodup
    rw [freePeerResources_conns]
    exact h.nodup.sublist List.filter_sublist

theorem step_inv (cfg : Config) (s : State) (op : Op) (h : Inv s) : Inv (step cfg s op).1 := by
  cases op with
  | connect c ws isLocal addr =>
    rw [step_connect_eq]
    split
    · exact h
    · next hnf =>
      refine ⟨fun p hp r hr => ?_, ?_⟩
      · rcases List.mem_append.1 hp with hp | hp
        · exact h.owned p hp r hr
        · obtain rfl := List.mem_singleton.1 hp; cases hr
      · show (List.map _ (_ ++ _)).Nodup
        rw [List.map_append, List.nodup_append]
        refine ⟨h.nodup, by simp, fun a ha b hb hab => hnf (findPeer_isSome_iff.2 ?_)⟩
        obtain rfl : b = c := List.mem_singleton.1 hb
        exact hab ▸ ha
  | message c msg o =>
    rw [Daemon.step_message_eq]
    split
    · exact h
    · have h1 : Inv (parseMessage cfg (mkCtx s o) c msg).1.st := h.routeStep (parseMessage_routeStep cfg (mkCtx s o) c msg)
      dsimp only
      split
      · exact h1
      · exact closePeer_inv _ _ h1
  | disconnect c o =>
    rw [step_disconnect_eq]
    split
    · exact h
    · exact closePeer_inv (mkCtx s o) c h
  | timerFire t o =>
    rw [step_timerFire_eq]
    rcases timeoutFired_spec (mkCtx s o) t with heq | ⟨_, _, r, _, _, hst, _⟩
    · rw [heq]; exact h
    · rw [hst]; exact h.routeStep (routeStep_removeRoute (c := 0) ..)

theorem run_inv (cfg : Config) (ops : List Op) (s : State) (h : Inv s) : Inv (run cfg s ops).1 :=
  Daemon.run_inv (I := fun s _ => Inv s) (H := []) cfg ops (fun s op _ => step_inv cfg s op) h

/-! ## the ledger -/

/-- decidable form of `RequestLike` -/
def requestLikeB (m : Json) : Bool := has m "method" || (!has m "result" && !has m "error")

theorem requestLikeB_iff {m : Json} : requestLikeB m = true ↔ RequestLike m := by
  unfold requestLikeB RequestLike has
  cases h1 : m.getItem (k "method") <;> cases h2 : m.getItem (k "result") <;>
    cases h3 : m.getItem (k "error") <;> simp

/-- 1 for a request-like object with a string/number id, else 0 -/
def reqN (m : Json) : Nat := if requestLikeB m then ansN m else 0

/-- `y` comes from `x` at the price of at most `n` request objects: the response objects sent since,
    plus the records that still owe an answer, are covered by the records that owed one before plus `n`. -/
def Paid (n : Nat) (x y : Ctx) : Prop :=
  ∃ new, y.out = new ++ x.out ∧ respCount new + pendingA y.st.peers ≤ pendingA x.st.peers + n

namespace Paid

theorem refl (x : Ctx) : Paid 0 x x := ⟨[], rfl, Nat.le_of_eq (by simp [respCount])⟩

theorem trans {n m : Nat} {x y z : Ctx} (h1 : Paid n x y) (h2 : Paid m y z) : Paid (n + m) x z := by
  obtain ⟨n1, e1, c1⟩ := h1
  obtain ⟨n2, e2, c2⟩ := h2
  refine ⟨n2 ++ n1, by rw [e2, e1, List.append_assoc], ?_⟩
  rw [respCount_append]
  omega

theorem mono {n m : Nat} {x y : Ctx} (h : Paid n x y) (hnm : n ≤ m) : Paid m x y :=
  let ⟨new, e, c⟩ := h
  ⟨new, e, Nat.le_trans c (Nat.add_le_add_left hnm _)⟩

/-- an operation starts with nothing sent and hands its output on oldest first -/
theorem of_mkCtx {n : Nat} {s : State} {o : Oracle} {y : Ctx} (h : Paid n (mkCtx s o) y) :
    respCount y.out.reverse + pendingA y.st.peers ≤ pendingA s.peers + n := by
  obtain ⟨new, e, c⟩ := h
  rwa [respCount_reverse, e, show (mkCtx s o).out = [] from rfl, List.append_nil]

end Paid

/-- A record leaves `o`'s table.  Nothing is owed for it any more, so one response object may have
    been sent, provided it did owe one. -/
theorem Paid.removeRoute {x y : Ctx} {new : List Obs} {o : Nat} {rid : Bytes} (hout : y.out = new ++ x.out)
    (hst : y.st.peers = Daemon.removeRoute x.st.peers o rid)
    (hnew : respCount new = 0 ∨ respCount new ≤ 1 ∧
      ∃ p ∈ x.st.peers, p.conn = o ∧ ∃ r ∈ p.routes, r.rid = rid ∧ routeAnswerable r = true) : Paid 0 x y := by
  refine ⟨new, hout, ?_⟩
  rw [hst]
  rcases hnew with h | ⟨h, p, hp, hc, r, hr, hrid, ha⟩
  · have := pendingA_removeRoute_le x.st.peers o rid
    omega
  · have := pendingA_removeRoute_lt x.st.peers o rid p r hp hc hr hrid ha
    omega

theorem Teardown.paid {c : Nat} {l : List Route} {x y : Ctx} (h : Teardown c l x y) : Paid 0 x y :=
  let ⟨⟨new, e, _, hc⟩, _⟩ := h
  ⟨new, e, hc⟩

theorem parseJsonRpc_ledger (cfg : Config) (x : Ctx) (c : Nat) (req : Json) (hn : (conns x.st.peers).Nodup) :
    Paid (reqN req) x (parseJsonRpc cfg x c req).1 := by
  cases hp : findPeer x.st.peers c with
  | none => rw [parseJsonRpc_noPeer hp]; exact ⟨[], rfl, by simp [respCount]⟩
  | some p =>
    rcases requestLike_or_response req with hreq | ⟨hm, hre⟩
    · obtain ⟨⟨pre, fin, hout, _, _, hcount⟩, _⟩ := parseJsonRpc_request cfg x c p req hp hreq
      rw [reqN, requestLikeB_iff.2 hreq, if_pos rfl]
      exact ⟨fin ++ pre, hout, hcount hn⟩
    · rcases parseJsonRpc_response cfg x c p req hp hm hre with h | ⟨r, hr, hst, hout | ⟨j, b, hrel, hout⟩⟩
      · rw [h]; exact ⟨[], rfl, by simp [respCount]⟩
      · exact (Paid.removeRoute (new := [_]) hout (congrArg State.peers hst) (.inl rfl)).mono (Nat.zero_le _)
      · obtain ⟨_, _, _, oid, _, _, ho, hok, _⟩ := hrel
        exact (Paid.removeRoute (new := [_, _]) hout (congrArg State.peers hst) (.inr ⟨respCount_send_le ..,
          p, findPeer_mem hp, findPeer_conn hp, r, hr, rfl, routeAnswerable_of ho hok⟩)).mono (Nat.zero_le _)

theorem parseJsonArray_ledger (cfg : Config) (c : Nat) (l : List Json) (x : Ctx) (hn : (conns x.st.peers).Nodup) :
    Paid (l.map reqN).sum x (parseJsonArray cfg x c l).1 := by
  induction l generalizing x with
  | nil => exact .refl x
  | cons m rest ih =>
    cases m with
    | obj lm =>
      have h1 := parseJsonRpc_ledger cfg x c (.obj lm) hn
      rw [parseJsonArray_cons_obj, List.map_cons, List.sum_cons]
      split
      · exact h1.trans (ih _ (by rw [parseJsonRpc_conns]; exact hn))
      · exact h1.mono (Nat.le_add_right ..)
    | _ => exact (Paid.refl x).mono (Nat.zero_le _)

/-- the answerable request objects a message consists of -/
def msgReqN (msg : Option Json) : Nat := ((members msg).map reqN).sum

theorem parseMessage_ledger (cfg : Config) (c : Nat) (msg : Option Json) (x : Ctx) (hn : (conns x.st.peers).Nodup) :
    Paid (msgReqN msg) x (parseMessage cfg x c msg).1 := by
  rcases msg with _ | (_ | _ | _ | _ | l | l)
  case some.arr => exact parseJsonArray_ledger cfg c l x hn
  case some.obj => simpa [msgReqN, members, parseMessage] using parseJsonRpc_ledger cfg x c (.obj l) hn
  all_goals exact .refl x

theorem closePeer_ledger (x : Ctx) (c : Nat) : Paid 0 x (closePeer x c) := by
  have h : Paid 0 x (freePeerResources x c) := by
    cases hp : findPeer x.st.peers c with
    | none => rw [freePeerResources_none hp]; exact .refl x
    | some p => exact (freePeerResources_teardown hp).paid
  exact h.trans (show Paid 0 _ (closePeer x c) from ⟨[.closed c], rfl, by simp [respCount, closePeer]⟩)

theorem timeoutFired_ledger (x : Ctx) (t : Nat) (h : RoutesOwned x.st.peers) : Paid 0 x (timeoutFired x t) := by
  rcases timeoutFired_spec x t with heq | ⟨p, hp, r, hrp, _, hst, hout | ⟨oid, b, ho, hok, hout⟩⟩
  · rw [heq]; exact .refl x
  · exact .removeRoute (new := [_]) hout (congrArg State.peers hst) (.inl rfl)
  · exact .removeRoute (new := [_, _]) hout (congrArg State.peers hst)
      (.inr ⟨respCount_send_le r.requester (timeoutAnswer oid) b [], p, hp, (h p hp r hrp).symm, r, hrp, rfl,
        routeAnswerable_of ho hok⟩)

/-! ## operations and runs -/

/-- the answerable request objects an operation delivers -/
def opReqN : Op → Nat
  | .message _ msg _ => msgReqN msg
  | _ => 0

/-- Ledger for one operation. -/
theorem step_ledger (cfg : Config) (s : State) (op : Op) (h : Inv s) :
    respCount (step cfg s op).2 + pendingA (step cfg s op).1.peers ≤ pendingA s.peers + opReqN op := by
  cases op with
  | connect c ws isLocal addr =>
    rw [step_connect_eq]
    split <;> simp [respCount, opReqN, pendingA]
  | message c msg o =>
    rw [Daemon.step_message_eq]
    have h1 := parseMessage_ledger cfg c msg (mkCtx s o) h.nodup
    split
    · simp [respCount]
    · dsimp only
      split
      · exact h1.of_mkCtx
      · exact (h1.trans (closePeer_ledger _ c)).of_mkCtx
  | disconnect c o =>
    rw [step_disconnect_eq]
    split
    · simp [respCount]
    · exact (closePeer_ledger (mkCtx s o) c).of_mkCtx
  | timerFire t o => exact (timeoutFired_ledger (mkCtx s o) t h.owned).of_mkCtx

/-- response objects sent over a whole run -/
def totalResp (os : List (List Obs)) : Nat := (os.map respCount).sum

/-- Ledger for a run. -/
theorem run_ledger (cfg : Config) (ops : List Op) (s : State) (h : Inv s) :
    totalResp (run cfg s ops).2 + pendingA (run cfg s ops).1.peers ≤ pendingA s.peers + (ops.map opReqN).sum := by
  induction ops generalizing s with
  | nil => simp [run, totalResp]
  | cons op rest ih =>
    have h1 := step_ledger cfg s op h
    have h2 := ih _ (step_inv cfg s op h)
    simp only [run, totalResp, List.map_cons, List.sum_cons] at h2 ⊢
    omega

end Cjet.Daemon.C02
