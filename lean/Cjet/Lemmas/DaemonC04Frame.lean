/-
  C04 — what leaves the element store (path index and the abstract element lists) alone.  The
  output-only helpers of the model (`send`, `emit`, the notification loops) only add to the output,
  and what the notification loops add carries no "error" member.  The handlers set/call, unfetch,
  get, config, info, authenticate, passwd, routed responses and request timeouts return the store
  they were given and the output they were given, more in front (`Frame`); so does fetch in a
  well-formed state (`FetchInv`).
-/
import Cjet.Lemmas.DaemonC04Image
import Cjet.Lemmas.DaemonC03SetCall

namespace Cjet.Daemon.C04

open Cjet Cjet.Json Cjet.Daemon

/-- a JSON value with an "error" member (what a client recognises as an error response) -/
def hasError (j : Json) : Prop := (j.getItem (k "error")).isSome = true

/-- an observation that is not the sending of an error object -/
def NoErr (o : Obs) : Prop := ∀ c j b, o = Obs.send c j b → j.getItem (k "error") = none

/-! ## the output only grows -/

@[simp] theorem emit_st (x : Ctx) (o : Obs) : (emit x o).st = x.st := rfl

def Ext (x x' : Ctx) : Prop := ∃ new, x'.out = new ++ x.out

theorem Ext.refl (x : Ctx) : Ext x x := ⟨[], rfl⟩

theorem Ext.trans {x y z : Ctx} (h1 : Ext x y) (h2 : Ext y z) : Ext x z := by
  obtain ⟨n1, e1⟩ := h1
  obtain ⟨n2, e2⟩ := h2
  exact ⟨n2 ++ n1, by rw [e2, e1, List.append_assoc]⟩

theorem Ext.of_eq {x y y' : Ctx} (h : Ext x y) (e : y'.out = y.out) : Ext x y' :=
  h.imp fun _ hn => e.trans hn

theorem Ext.cons {x y y' : Ctx} (h : Ext x y) {o : Obs} (e : y'.out = o :: y.out) : Ext x y' := by
  obtain ⟨n, hn⟩ := h
  exact ⟨o :: n, by rw [e, hn, List.cons_append]⟩

theorem Ext.emit {x y : Ctx} (h : Ext x y) (o : Obs) : Ext x (emit y o) := h.cons rfl
theorem Ext.send {x y : Ctx} (h : Ext x y) (c : Nat) (j : Json) : Ext x (send y c j).1 := h.cons (send_out_snd ..)

/-! ## notifications are no error responses -/

/-- same state, same oracle flags, output extended by non-error observations -/
structure Quiet (x x' : Ctx) : Prop where
  st : x'.st = x.st
  indexFull : x'.indexFull = x.indexFull
  routeFull : x'.routeFull = x.routeFull
  out : ∃ new, x'.out = new ++ x.out ∧ ∀ o ∈ new, NoErr o

theorem Quiet.refl (x : Ctx) : Quiet x x := ⟨rfl, rfl, rfl, [], rfl, nofun⟩

theorem Quiet.trans {x y z : Ctx} (h1 : Quiet x y) (h2 : Quiet y z) : Quiet x z := by
  obtain ⟨n1, e1, p1⟩ := h1.out
  obtain ⟨n2, e2, p2⟩ := h2.out
  refine ⟨h2.st.trans h1.st, h2.indexFull.trans h1.indexFull, h2.routeFull.trans h1.routeFull,
    n2 ++ n1, by rw [e2, e1, List.append_assoc], fun o ho => ?_⟩
  exact (List.mem_append.1 ho).elim (p2 o) (p1 o)

theorem Quiet.ext {x y : Ctx} (h : Quiet x y) : Ext x y := h.out.imp fun _ hn => hn.1

theorem quiet_send' (x : Ctx) (c : Nat) (j : Json) (hj : j.getItem (k "error") = none) :
    Quiet x (send' x c j) := by
  refine ⟨send'_st x c j, send'_indexFull x c j, send'_routeFull x c j, [_], send_out_snd x c j, ?_⟩
  rintro o ho c' j' b' rfl
  cases List.mem_singleton.1 ho
  exact hj

theorem quiet_notifyFetchers (x : Ctx) (e : Element) (ev : String) : Quiet x (notifyFetchers x e ev) :=
  notifyFetchers_induct (P := Quiet x) e ev (Quiet.refl x)
    fun y _ _ _ _ _ hy => hy.trans (quiet_send' y _ _ (getItem_error_notification ..))

theorem offerElement_spec (cfg : Config) (x : Ctx) (e : Element) (fp : Peer) (f : Fetch) :
    Quiet x (offerElement cfg x e fp f).1 ∧ entry (offerElement cfg x e fp f).2 = entry e := by
  refine ⟨?_, by rw [offerElement_snd]; rfl⟩
  rcases offerElement_cases cfg x e fp f with h | ⟨_, h⟩ <;> rw [h]
  · exact Quiet.refl x
  · exact quiet_send' _ _ _ (getItem_error_notification ..)

theorem offerElement_path (cfg : Config) (x : Ctx) (e : Element) (fp : Peer) (f : Fetch) :
    (offerElement cfg x e fp f).2.path = e.path :=
  congrArg Prod.fst (offerElement_spec cfg x e fp f).2

theorem findFetchersForElement_spec (cfg : Config) (x : Ctx) (e : Element) :
    Quiet x (findFetchersForElement cfg x e).1 ∧ entry (findFetchersForElement cfg x e).2 = entry e :=
  findFetchersForElement_induct (Q := fun acc => Quiet x acc.1 ∧ entry acc.2 = entry e) cfg x e
    ⟨Quiet.refl x, rfl⟩ fun _ _ _ _ _ h =>
      ⟨h.1.trans (offerElement_spec ..).1, (offerElement_spec ..).2.trans h.2⟩

/-! ## handlers that never touch the store -/

/-- an update of one peer that touches neither its connection nor its elements -/
theorem image_updatePeer_frame (ps : List Peer) (c : Nat) (f : Peer → Peer)
    (h : ∀ p, (f p).conn = p.conn ∧ (f p).elements = p.elements) : image (updatePeer ps c f) = image ps :=
  image_updatePeer_same (fun p _ _ => ⟨(h p).1, by simp only [peerAbs, (h p).2]⟩)

structure Frame (x x' : Ctx) : Prop where
  store : store x'.st = store x.st
  ext : Ext x x'

theorem Frame.refl (x : Ctx) : Frame x x := ⟨rfl, Ext.refl x⟩

theorem Frame.of_eq {x y y' : Ctx} (h : Frame x y) (hst : C04.store y'.st = C04.store y.st) (hout : y'.out = y.out) :
    Frame x y' := ⟨hst.trans h.store, h.ext.of_eq hout⟩

theorem Frame.emit {x y : Ctx} (h : Frame x y) (o : Obs) : Frame x (emit y o) := ⟨h.store, h.ext.emit o⟩

theorem Frame.send {x y : Ctx} (h : Frame x y) (c : Nat) (j : Json) : Frame x (send y c j).1 :=
  ⟨(congrArg C04.store (send_st y c j)).trans h.store, h.ext.send c j⟩

theorem Frame.send' {x y : Ctx} (h : Frame x y) (c : Nat) (j : Json) : Frame x (send' y c j) := h.send c j

theorem Frame.peers {x y y' : Ctx} (h : Frame x y) {c : Nat} {f : Peer → Peer}
    (hp : y'.st.peers = updatePeer y.st.peers c f) (hi : y'.st.index = y.st.index) (ho : y'.out = y.out)
    (hf : ∀ p, (f p).conn = p.conn ∧ (f p).elements = p.elements) : Frame x y' :=
  h.of_eq (by rw [store_def, store_def, hp, hi, image_updatePeer_frame _ _ _ hf]) ho

theorem routeCore_frame (cfg : Config) (x : Ctx) (p : Peer) (req : Json) (b : Bool) (params : Json)
    (path : Bytes) (e : Element) : Frame x (C03.routeCore cfg x p req b params path e).1 := by
  have hstored : ∀ r tns, Frame x (C03.stored x r tns) := by
    intro r tns
    apply Frame.emit
    exact (Frame.refl x).peers rfl rfl rfl fun _ => ⟨rfl, rfl⟩
  rcases C03.routeCore_cases cfg x p req b params path e with
    ⟨_, _, h⟩ | ⟨_, _, h⟩ | ⟨tns, _, ⟨_, h⟩ | ⟨_, ⟨_, h⟩ | ⟨_, h⟩⟩⟩ <;> rw [h]
  · exact (Frame.refl x).of_eq rfl rfl
  · exact (Frame.refl x).of_eq rfl rfl
  · exact ((Frame.refl x).emit _).of_eq rfl rfl
  · exact (hstored ..).send ..
  · apply Frame.emit
    exact ((hstored ..).send ..).peers rfl rfl rfl fun _ => ⟨rfl, rfl⟩

theorem setOrCall_frame (cfg : Config) (x : Ctx) (p : Peer) (req : Json) (b : Bool) :
    Frame x (setOrCall cfg x p req b).1 := by
  rcases C03.setOrCall_cases cfg x p req b with h | ⟨params, path, e, hc⟩
  · rw [h]; exact Frame.refl x
  · rw [C03.setOrCall_of_checks hc]; exact routeCore_frame ..

theorem configReq_frame (x : Ctx) (p : Peer) (req : Json) : Frame x (configReq x p req).1 := by
  rcases configReq_cases x p req with ⟨_, h⟩ | h | ⟨n, h⟩ <;> rw [h]
  · exact Frame.refl x
  · exact Frame.refl x
  · exact (Frame.refl x).peers rfl rfl rfl fun _ => ⟨rfl, rfl⟩

theorem getReq_frame (cfg : Config) (x : Ctx) (p : Peer) (req : Json) : Frame x (getReq cfg x p req).1 := by
  rw [getReq_fst]; exact Frame.refl x

theorem authenticateReq_frame (cfg : Config) (x : Ctx) (p : Peer) (req : Json) :
    Frame x (authenticateReq cfg x p req).1 := by
  rcases authenticateReq_cases cfg x p req with ⟨_, _, h⟩ | ⟨_, _, _, _, _, _, _, _, _, h⟩ <;> rw [h]
  · exact Frame.refl x
  · exact (Frame.refl x).peers rfl rfl rfl fun _ => ⟨rfl, rfl⟩

theorem passwdReq_frame (x : Ctx) (p : Peer) (req : Json) : Frame x (passwdReq x p req).1 := by
  rcases passwdReq_cases x p req with ⟨_, h⟩ | ⟨_, _, _, _, _, _, _, _, _, h⟩ <;> rw [h]
  · exact Frame.refl x
  · exact (Frame.refl x).of_eq rfl rfl

theorem image_dropFetch (ps : List Peer) (fk : FetchKey) : image (dropFetch ps fk) = image ps :=
  (image_updatePeer_frame _ fk.peer (fun q => { q with fetches := q.fetches.filter (·.uid != fk.uid) })
    fun _ => ⟨rfl, rfl⟩).trans (image_mapElements fun _ => rfl)

theorem unfetchReq_frame (x : Ctx) (p : Peer) (req : Json) : Frame x (unfetchReq x p req).1 := by
  rcases unfetchReq_cases x p req with ⟨_, h⟩ | ⟨_, _, f, _, _, h⟩ <;> rw [h]
  · exact Frame.refl x
  · exact (Frame.refl x).of_eq (by rw [store_def, store_def, image_dropFetch]) rfl

theorem routingResponse_frame (x : Ctx) (p : Peer) (msg payload : Json) (typ : String) :
    Frame x (routingResponse x p msg payload typ).1 := by
  have hy : ∀ rid o, Frame x (emit { x with st := { x.st with peers := removeRoute x.st.peers p.conn rid } } o) :=
    by
    intro rid o
    apply Frame.emit
    exact (Frame.refl x).peers rfl rfl rfl fun _ => ⟨rfl, rfl⟩
  rcases routingResponse_cases x p msg payload typ with h | h | ⟨rid, r, _, _, h | ⟨_, _, _, _, h⟩⟩ <;> rw [h]
  · exact Frame.refl x
  · exact Frame.refl x
  · exact hy ..
  · exact (hy ..).send' ..

theorem timeoutFired_frame (x : Ctx) (t : Nat) : Frame x (timeoutFired x t) := by
  have hy : ∀ r : Route, Frame x { x with st := { x.st with peers := removeRoute x.st.peers r.owner r.rid } } :=
    fun _ => (Frame.refl x).peers rfl rfl rfl fun _ => ⟨rfl, rfl⟩
  rcases timeoutFired_cases x t with h | ⟨r, _, h | ⟨_, _, _, _, h⟩⟩ <;> rw [h]
  · exact Frame.refl x
  · exact (hy r).emit _
  · exact ((hy r).send' ..).emit _

/-! ## fetch

`fetch` only fills subscriber tables; that it leaves the store alone needs the well-formedness of the
state, because the model writes the offered element back by path.  That its output only grows needs
nothing; the two are one invariant of its loops (`FetchInv`). -/

/-- writing back, by path, an element that has the abstraction of the one stored under that path -/
theorem image_writeBack {s : State} (c : Nat) (e' : Element)
    (hw : ∀ q ∈ s.peers, q.conn = c → ∀ el ∈ q.elements, el.path = e'.path → entry e' = entry el) :
    image (updatePeer s.peers c (fun q =>
      { q with elements := q.elements.map (fun el => if el.path == e'.path then e' else el) })) = image s.peers := by
  apply image_updatePeer_same
  intro q hq hc
  refine ⟨rfl, ?_⟩
  simp only [peerAbs, List.map_map]
  apply List.map_congr_left
  intro el hel
  simp only [Function.comp]
  split
  · next hp => exact hw q hq hc el hel (beq_iff_eq.1 hp)
  · rfl

theorem offerStep_store (cfg : Config) (fp : Peer) (f : Fetch) (oc : Nat) (x : Ctx) (e0 : Element)
    (h : WFS x.st) : store (offerStep cfg fp f oc x e0).st = store x.st := by
  unfold offerStep
  simp only [store_def, offerElement_st, Prod.mk.injEq, and_true]
  apply image_writeBack
  intro q hq hc el hel hp
  rw [offerElement_path] at hp
  rw [(offerElement_spec ..).2]
  have hfq : findPeer x.st.peers oc = some q := by rw [← hc]; exact h.findPeer hq
  simp only [hfq, Option.bind_some] at hp ⊢
  cases hf : q.elements.find? (·.path == e0.path) with
  | some e =>
    rw [hf] at hp
    exact h.entry_unique hq (List.mem_of_find?_eq_some hf) hel hp.symm
  | none =>
    rw [hf] at hp
    exact absurd (beq_iff_eq.2 hp) (List.find?_eq_none.1 hf el hel)

def FetchInv (x y : Ctx) : Prop := Ext x y ∧ (WFS x.st → store y.st = store x.st)

theorem offerStep_inv (cfg : Config) (fp : Peer) (f : Fetch) (oc : Nat) {x y : Ctx} (h : FetchInv x y)
    (e0 : Element) : FetchInv x (offerStep cfg fp f oc y e0) :=
  ⟨(h.1.trans (offerElement_spec ..).1.ext).of_eq rfl,
    fun hwf => (offerStep_store cfg fp f oc y e0 (wfs_of_store_eq (h.2 hwf) hwf)).trans (h.2 hwf)⟩

theorem fetchReq_inv (cfg : Config) (x : Ctx) (p : Peer) (req : Json) : FetchInv x (fetchReq cfg x p req).1 := by
  rcases fetchReq_cases cfg x p req with ⟨_, _, _, h⟩ | ⟨_, _, _, _, _, _, h⟩ <;> rw [h]
  · exact ⟨Ext.refl x, fun _ => rfl⟩
  · rw [offerAllElements_eq]
    refine foldl_inv (FetchInv x) _ _ _ ⟨Ext.refl x, fun _ => ?_⟩ fun y owner _ hy =>
      foldl_inv (FetchInv x) _ _ _ hy fun y e0 _ hy => offerStep_inv cfg _ _ owner.conn hy e0
    rw [store_def, store_def]
    exact congrArg (·, _) (image_updatePeer_frame _ _ _ fun _ => ⟨rfl, rfl⟩)

end Cjet.Daemon.C04
