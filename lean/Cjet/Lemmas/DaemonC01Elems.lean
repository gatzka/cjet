/-
  C01 — the element-side primitives (remove, add, refused add, change) as transitions:
  invariant, replica step, origin of the notifications.
-/
import Cjet.Lemmas.DaemonC01Inv

namespace Cjet.Daemon.C01

open Cjet Cjet.Json Cjet.Daemon

variable {cfg : Config}

theorem hasFid_of_origin {s : State} (inv : Inv cfg s) {cn : Nat × Notif}
    (h : ∃ p ∈ s.peers, p.conn = cn.1 ∧ ∃ g ∈ p.fetches, g.fid = cn.2.fid) : HasFid s cn.1 cn.2.fid := by
  obtain ⟨p, hp, hc, g, hg, hfid⟩ := h
  exact ⟨p, hp, hc, g, hg, hfid ▸ inv.fetches.fidOk p hp g hg⟩

theorem evNotif_updatePeer_elems (ps : List Peer) (c : Nat) (F : Peer → List Element) (e : Element) (ev : Event) :
    evNotif e ev (updatePeer ps c (fun q => { q with elements := F q })) = evNotif e ev ps := by
  funext fk
  simp only [evNotif, findFetch_updatePeer (f := fun q => { q with elements := F q }) (fun _ => rfl) (fun _ => rfl)]

/-- the table built by `find_fetchers_for_element` is right -/
theorem tblOK_new {s : State} (inv : Inv cfg s) {e : Element}
    (hk : (keys e.fetchers).Perm (newKeys cfg s.peers e)) : TblOK cfg s.peers e := by
  refine ⟨hk.nodup_iff.2 (newKeys_nodup inv.fetches e), fun fk hfk => ?_, fun p hp f hf => ?_⟩
  · obtain ⟨p, hp, f, hf, _, rfl⟩ := mem_newKeys.1 (hk.mem_iff.1 hfk)
    exact ⟨p, hp, rfl, f, hf, rfl⟩
  · rw [hk.mem_iff]
    exact mem_newKeys_alive inv.fetches ⟨p, hp, rfl, rfl, hf⟩ e

theorem pick_tbl {s : State} (inv : Inv cfg s) {e : Element} (ok : TblOK cfg s.peers e)
    {c pg : Nat} {f : Fetch} (ha : Alive s c pg f) (e' : Element) (ev : Event) :
    pick c f.fid ((keys e.fetchers).filterMap (evNotif e' ev s.peers)) =
      if visible cfg pg f.rule e then [{ fid := f.fid, path := e'.path, event := ev, value := e'.value }]
      else [] := by
  rw [pick_evNotifs inv.fetches ha e' ev ok.nodup]
  obtain ⟨p, hp, rfl, rfl, hf⟩ := ha
  simp only [ok.char p hp f hf]

theorem path_mem_imageOf {s : State} (inv : Inv cfg s) {e : Element} (he : e ∈ allElems s)
    (pg : Nat) (rule : Rule) :
    e.path ∈ (imageOf cfg s pg rule).map (·.1) ↔ visible cfg pg rule e = true := by
  simp only [List.mem_map, mem_imageOf]
  constructor
  · rintro ⟨_, ⟨e', he', hv, rfl⟩, hp⟩
    cases allElems_path_unique inv he' he hp
    exact hv
  · exact fun hv => ⟨_, ⟨e, he, hv, rfl⟩, rfl⟩

/-! ## remove -/

def rmState (s : State) (e : Element) : State :=
  { s with
    index := removeIndex s.index e.path,
    peers := updatePeer s.peers e.owner (fun q => { q with elements := q.elements.filter (·.path != e.path) }) }

theorem removeElement_spec (x : Ctx) (e : Element) :
    (removeElement x e).st = rmState x.st e ∧
    Emits x (removeElement x e) ((keys e.fetchers).filterMap (evNotif e .remove x.st.peers)) :=
  ⟨by rw [removeElement_eq]; rfl, (notifyFetchers_emits x e .remove).congr rfl rfl⟩

theorem mem_allElems_rmState {s : State} (inv : Inv cfg s) {q : Peer} (hq : q ∈ s.peers)
    {e : Element} (he : e ∈ q.elements) {e' : Element} :
    e' ∈ allElems (rmState s e) ↔ e' ∈ allElems s ∧ e'.path ≠ e.path := by
  have ho : e.owner = q.conn := inv.elems.owner q hq e he
  rw [allElems, rmState, mem_allElems_updatePeer, mem_allElems]
  constructor
  · rintro ⟨q', hq', h⟩
    split at h
    · obtain ⟨h1, h2⟩ := List.mem_filter.1 h
      exact ⟨⟨q', hq', h1⟩, bne_iff_ne.1 h2⟩
    · next hc =>
      refine ⟨⟨q', hq', h⟩, fun hp => hc ?_⟩
      rw [ho, (path_unique inv.elems inv.fetches hq' h hq he hp).1, beq_self_eq_true]
  · rintro ⟨⟨q', hq', h⟩, hne⟩
    refine ⟨q', hq', ?_⟩
    split
    · exact List.mem_filter.2 ⟨h, bne_iff_ne.2 hne⟩
    · exact h

theorem trans_remove {s : State} (inv : Inv cfg s) {q : Peer} (hq : q ∈ s.peers)
    {e : Element} (he : e ∈ q.elements) :
    TransN cfg s (rmState s e) ((keys e.fetchers).filterMap (evNotif e .remove s.peers)) := by
  have heall : e ∈ allElems s := mem_allElems.2 ⟨q, hq, he⟩
  have hmem := @mem_allElems_rmState cfg s inv q hq e he
  refine TransN.of_fcore inv (fcore_updatePeer_elems ..) rfl ?_
    (fun e' he' => inv.tbl e' (hmem.1 he').1) (fun c pg f ha r hr => ?_)
    (fun cn hcn => hasFid_of_origin inv (evNotifs_origin e .remove _ cn hcn))
  · refine inv.elems.sub List.filter_sublist (fun p' hp' => ?_) (fun p' hp' e' he' => ?_)
    · obtain ⟨p, hp, hc, hel⟩ := mem_updatePeer_elems hp'
      refine Or.inr ⟨p, hp, hc.symm, List.Sublist.map _ ?_⟩
      rw [hel]
      split
      · exact List.filter_sublist
      · exact List.Sublist.refl _
    · obtain ⟨h1, hne⟩ := hmem.1 (mem_allElems.2 ⟨p', hp', he'⟩)
      obtain ⟨p1, hp1, he1⟩ := mem_allElems.1 h1
      obtain ⟨p, hp, hc, hel⟩ := mem_updatePeer_elems hp'
      have he'' : e' ∈ p.elements := by
        rw [hel] at he'
        split at he'
        · exact (List.mem_filter.1 he').1
        · exact he'
      rw [hc]
      exact List.mem_filter.2 ⟨inv.elems.indexed p hp e' he'', bne_iff_ne.2 hne⟩
  · have hI : ∀ a, a ∈ imageOf cfg (rmState s e) pg f.rule ↔ a ∈ imageOf cfg s pg f.rule ∧ a.1 ≠ e.path := by
      intro a
      rw [mem_imageOf, mem_imageOf]
      constructor
      · rintro ⟨e', he', hv', rfl⟩
        exact ⟨⟨e', (hmem.1 he').1, hv', rfl⟩, (hmem.1 he').2⟩
      · rintro ⟨⟨e', he', hv', rfl⟩, hne⟩
        exact ⟨e', hmem.2 ⟨he', hne⟩, hv', rfl⟩
    rw [pick_tbl inv (inv.tbl e heall) ha e .remove]
    split <;> try rw [replayFrom_single]
    · next hv => exact sameMap_remove hr ((path_mem_imageOf inv heall pg f.rule).2 hv) hI
    · next hv => exact ⟨r, rfl, hr.absent (mt (path_mem_imageOf inv heall pg f.rule).1 hv) hI⟩

/-! ## add -/

def addState (s : State) (c : Nat) (e : Element) : State :=
  { s with
    index := s.index ++ [(e.path, c)],
    peers := updatePeer s.peers c (fun q => { q with elements := q.elements ++ [e] }) }

theorem no_elem_of_fresh {s : State} (inv : Inv cfg s) {path : Bytes}
    (h : lookupIndex s.index path = none) : ∀ e' ∈ allElems s, e'.path ≠ path := by
  intro e' he' hp
  obtain ⟨q, hq, hqe⟩ := mem_allElems.1 he'
  exact lookupIndex_eq_none.1 h (List.mem_map.2 ⟨_, inv.elems.indexed q hq e' hqe, hp⟩)

theorem fresh_not_mem_imageOf {s : State} {path : Bytes} (h : ∀ e' ∈ allElems s, e'.path ≠ path)
    (pg : Nat) (rule : Rule) : path ∉ (imageOf cfg s pg rule).map (·.1) := by
  intro hm
  obtain ⟨a, ha, hap⟩ := List.mem_map.1 hm
  obtain ⟨e0, he0, _, rfl⟩ := mem_imageOf.1 ha
  exact h e0 he0 hap

theorem mem_allElems_addState {s : State} {p : Peer} (hp : p ∈ s.peers) {e e' : Element} :
    e' ∈ allElems (addState s p.conn e) ↔ e' ∈ allElems s ∨ e' = e := by
  rw [allElems, addState, mem_allElems_updatePeer, mem_allElems]
  constructor
  · rintro ⟨q, hq, h⟩
    split at h
    · exact (List.mem_append.1 h).imp (fun h => ⟨q, hq, h⟩) List.mem_singleton.1
    · exact Or.inl ⟨q, hq, h⟩
  · rintro (⟨q, hq, h⟩ | rfl)
    · exact ⟨q, hq, by split; exact List.mem_append_left _ h; exact h⟩
    · exact ⟨p, hp, by rw [if_pos (beq_self_eq_true _)]; exact List.mem_append_right _ List.mem_cons_self⟩

theorem trans_add {s : State} (inv : Inv cfg s) {p : Peer} (hp : p ∈ s.peers) {e : Element}
    (hfresh : lookupIndex s.index e.path = none) (howner : e.owner = p.conn)
    (hk : (keys e.fetchers).Perm (newKeys cfg s.peers e)) :
    TransN cfg s (addState s p.conn e) (addNotifs cfg s.peers e) := by
  have hno := no_elem_of_fresh inv hfresh
  have hmem := @mem_allElems_addState s p hp e
  have key : ∀ p' ∈ (addState s p.conn e).peers, ∃ q ∈ s.peers, p'.conn = q.conn ∧
      (p'.elements = q.elements ∨ (q.conn = p.conn ∧ p'.elements = q.elements ++ [e])) := by
    intro p' hp'
    obtain ⟨q, hq, hc, hel⟩ := mem_updatePeer_elems hp'
    refine ⟨q, hq, hc, ?_⟩
    split at hel
    · next h => exact Or.inr ⟨beq_iff_eq.1 h, hel⟩
    · exact Or.inl hel
  refine TransN.of_fcore inv (fcore_updatePeer_elems ..) rfl ⟨?_, ?_, ?_, ?_⟩
    (fun e' he' => (hmem.1 he').elim (inv.tbl e') fun h => h ▸ tblOK_new inv hk) (fun c pg f ha r hr => ?_)
    (fun cn hcn => hasFid_of_origin inv (addNotifs_origin e cn hcn))
  · intro p' hp' e' he'
    obtain ⟨q, hq, hc, hel | ⟨hqp, hel⟩⟩ := key p' hp' <;> rw [hel] at he' <;> rw [hc]
    · exact inv.elems.owner q hq e' he'
    · rcases List.mem_append.1 he' with h | h
      · exact inv.elems.owner q hq e' h
      · rw [List.mem_singleton.1 h, howner, hqp]
  · intro p' hp'
    obtain ⟨q, hq, _, hel | ⟨_, hel⟩⟩ := key p' hp' <;> rw [hel]
    · exact inv.elems.pathNodup q hq
    · rw [List.map_append, List.nodup_append]
      refine ⟨inv.elems.pathNodup q hq, List.pairwise_singleton _ _, fun a ha b hb hab => ?_⟩
      obtain ⟨e0, he0, rfl⟩ := List.mem_map.1 ha
      exact hno e0 (mem_allElems.2 ⟨q, hq, he0⟩) (hab.trans (List.mem_singleton.1 hb))
  · show ((s.index ++ [(e.path, p.conn)]).map (·.1)).Nodup
    rw [List.map_append, List.nodup_append]
    exact ⟨inv.elems.idxNodup, List.pairwise_singleton _ _, fun a ha b hb hab =>
      lookupIndex_eq_none.1 hfresh ((hab.trans (List.mem_singleton.1 hb) : a = e.path) ▸ ha)⟩
  · intro p' hp' e' he'
    show (e'.path, p'.conn) ∈ s.index ++ [(e.path, p.conn)]
    obtain ⟨q, hq, hc, hel | ⟨hqp, hel⟩⟩ := key p' hp' <;> rw [hel] at he' <;> rw [hc]
    · exact List.mem_append_left _ (inv.elems.indexed q hq e' he')
    · rcases List.mem_append.1 he' with h | h
      · exact List.mem_append_left _ (inv.elems.indexed q hq e' h)
      · rw [List.mem_singleton.1 h, hqp]
        exact List.mem_append_right _ List.mem_cons_self
  · have hI : ∀ a, a ∈ imageOf cfg (addState s p.conn e) pg f.rule ↔
        a ∈ imageOf cfg s pg f.rule ∨ (visible cfg pg f.rule e = true ∧ a = (e.path, e.value)) := by
      intro a
      rw [mem_imageOf, mem_imageOf]
      constructor
      · rintro ⟨e', he', hv', rfl⟩
        rcases hmem.1 he' with h | rfl
        · exact Or.inl ⟨e', h, hv', rfl⟩
        · exact Or.inr ⟨hv', rfl⟩
      · rintro (⟨e', he', hv', rfl⟩ | ⟨hv, rfl⟩)
        · exact ⟨e', hmem.2 (Or.inl he'), hv', rfl⟩
        · exact ⟨e, hmem.2 (Or.inr rfl), hv, rfl⟩
    rw [pick_addNotifs inv.fetches ha e]
    split <;> try rw [replayFrom_single]
    · next hv => exact sameMap_add hr (fresh_not_mem_imageOf hno pg f.rule) fun a =>
        (hI a).trans (or_congr_right (and_iff_right hv))
    · next hv => exact ⟨r, rfl, hr.congr fun a => (hI a).trans (or_iff_left fun h => hv h.1)⟩

/-! ## refused add: "add" then "remove" to the same subscribers, state unchanged -/

theorem pick_addFail {s : State} (inv : Inv cfg s) {e : Element}
    (hk : (keys e.fetchers).Perm (newKeys cfg s.peers e)) {c pg : Nat} {f : Fetch} (ha : Alive s c pg f) :
    pick c f.fid (addNotifs cfg s.peers e ++ (keys e.fetchers).filterMap (evNotif e .remove s.peers)) =
      if visible cfg pg f.rule e then
        [{ fid := f.fid, path := e.path, event := .add, value := e.value },
         { fid := f.fid, path := e.path, event := .remove, value := e.value }] else [] := by
  rw [pick_append, pick_addNotifs inv.fetches ha e, pick_tbl inv (tblOK_new inv hk) ha e .remove]
  split <;> rfl

theorem trans_addFail {s : State} (inv : Inv cfg s) {e : Element}
    (hfresh : lookupIndex s.index e.path = none) (hk : (keys e.fetchers).Perm (newKeys cfg s.peers e)) :
    TransN cfg s s (addNotifs cfg s.peers e ++ (keys e.fetchers).filterMap (evNotif e .remove s.peers)) := by
  refine ⟨inv, rfl, fun _ _ h => h, fun _ _ _ h _ => h, fun c pg f ha _ r hr => ?_, fun cn hcn => ?_⟩
  · rw [pick_addFail inv hk ha]
    split
    · exact sameMap_add_remove hr (fresh_not_mem_imageOf (no_elem_of_fresh inv hfresh) pg f.rule)
    · exact ⟨r, rfl, hr⟩
  · rcases List.mem_append.1 hcn with h | h
    · exact hasFid_of_origin inv (addNotifs_origin e cn h)
    · exact hasFid_of_origin inv (evNotifs_origin e .remove _ cn h)

/-! ## change -/

def chState (s : State) (c : Nat) (path : Bytes) (e' : Element) : State :=
  { s with peers := updatePeer s.peers c (fun q =>
      { q with elements := q.elements.map (fun el => if el.path == path then e' else el) }) }

theorem mem_allElems_chState {s : State} (inv : Inv cfg s) {p : Peer} (hp : p ∈ s.peers)
    {e : Element} (he : e ∈ p.elements) {e' e'' : Element} :
    e'' ∈ allElems (chState s p.conn e.path e') ↔ e'' = e' ∨ (e'' ∈ allElems s ∧ e''.path ≠ e.path) := by
  rw [allElems, chState, mem_allElems_updatePeer, mem_allElems]
  constructor
  · rintro ⟨q, hq, h⟩
    split at h
    · obtain ⟨el, hel, rfl⟩ := List.mem_map.1 h
      by_cases hpe : el.path = e.path
      · rw [if_pos (beq_iff_eq.2 hpe)]
        exact Or.inl rfl
      · rw [if_neg (mt beq_iff_eq.1 hpe)]
        exact Or.inr ⟨⟨q, hq, hel⟩, hpe⟩
    · next hc =>
      refine Or.inr ⟨⟨q, hq, h⟩, fun hpe => hc ?_⟩
      rw [(path_unique inv.elems inv.fetches hq h hp he hpe).1, beq_self_eq_true]
  · rintro (rfl | ⟨⟨q, hq, h⟩, hne⟩)
    · exact ⟨p, hp, by rw [if_pos (beq_self_eq_true _)]; exact List.mem_map.2 ⟨e, he, if_pos (beq_self_eq_true _)⟩⟩
    · refine ⟨q, hq, ?_⟩
      split
      · exact List.mem_map.2 ⟨e'', h, if_neg (mt beq_iff_eq.1 hne)⟩
      · exact h

theorem trans_change {s : State} (inv : Inv cfg s) {p : Peer} (hp : p ∈ s.peers)
    {e : Element} (he : e ∈ p.elements) (v : Json) :
    TransN cfg s (chState s p.conn e.path { e with value := some v })
      ((keys e.fetchers).filterMap (evNotif { e with value := some v } .change s.peers)) := by
  have heall : e ∈ allElems s := mem_allElems.2 ⟨p, hp, he⟩
  have hmem := @mem_allElems_chState cfg s inv p hp e he { e with value := some v }
  refine TransN.of_fcore inv (fcore_updatePeer_elems ..) rfl ?_ (fun e'' he'' => ?_)
    (fun c pg f ha r hr => ?_) (fun cn hcn => hasFid_of_origin inv (evNotifs_origin _ .change _ cn hcn))
  · -- the replaced element keeps path and owner
    refine inv.elems.mono rfl fun p' hp' => ?_
    obtain ⟨q, hq, hc, hel⟩ := mem_updatePeer_elems hp'
    refine Or.inr ⟨q, hq, hc.symm, ?_⟩
    rw [hel]
    split
    · next hqc =>
      rw [List.map_map]
      refine List.map_congr_left fun el hel => ?_
      show (fun e => (e.path, e.owner)) (if el.path == e.path then _ else el) = _
      split
      · next hpe =>
        exact Prod.ext (beq_iff_eq.1 hpe).symm (((inv.elems.owner p hp e he).trans (beq_iff_eq.1 hqc).symm).trans
          (inv.elems.owner q hq el hel).symm)
      · rfl
    · rfl
  · rcases hmem.1 he'' with rfl | ⟨h, _⟩
    · exact TblOK.congr_vis (e := e) (List.Perm.refl _) (fun _ _ => rfl) (inv.tbl e heall)
    · exact inv.tbl e'' h
  · have hI : ∀ a, a ∈ imageOf cfg (chState s p.conn e.path { e with value := some v }) pg f.rule ↔
        (a ∈ imageOf cfg s pg f.rule ∧ a.1 ≠ e.path) ∨ (visible cfg pg f.rule e = true ∧ a = (e.path, some v)) := by
      intro a
      rw [mem_imageOf, mem_imageOf]
      constructor
      · rintro ⟨e'', he'', hv', rfl⟩
        rcases hmem.1 he'' with rfl | ⟨h, hne⟩
        · exact Or.inr ⟨hv', rfl⟩
        · exact Or.inl ⟨⟨e'', h, hv', rfl⟩, hne⟩
      · rintro (⟨⟨e'', h, hv', rfl⟩, hne⟩ | ⟨hv, rfl⟩)
        · exact ⟨e'', hmem.2 (Or.inr ⟨h, hne⟩), hv', rfl⟩
        · exact ⟨{ e with value := some v }, hmem.2 (Or.inl rfl), hv, rfl⟩
    rw [pick_tbl inv (inv.tbl e heall) ha { e with value := some v } .change]
    split <;> try rw [replayFrom_single]
    · next hv =>
      exact sameMap_change hr ((path_mem_imageOf inv heall pg f.rule).2 hv) fun a =>
        (hI a).trans (or_congr_right (and_iff_right hv))
    · next hv =>
      exact ⟨r, rfl, hr.absent (mt (path_mem_imageOf inv heall pg f.rule).1 hv) fun a =>
        (hI a).trans (or_iff_left fun h => hv h.1)⟩

end Cjet.Daemon.C01
