/-
  Cjet.Lemmas.DaemonC05Run — the invariant over `step` / `run`, the shape of a closing step,
  and reachability.
-/
import Cjet.Lemmas.DaemonC05Close

namespace Cjet.Daemon.C05

open Cjet Cjet.Json Cjet.Daemon

/-! ## the state after a teardown satisfies the invariant again -/

theorem mem_afterClose_peers {s : State} {c : Nat} {q' : Peer} (h : q' ∈ (afterClose s c).peers) :
    ∃ q ∈ s.peers, q.conn ≠ c ∧ q' = scrub c q := by
  unfold afterClose at h
  obtain ⟨q, hq, rfl⟩ := List.mem_map.1 h
  obtain ⟨hq1, hq2⟩ := List.mem_filter.1 hq
  exact ⟨q, hq1, by simpa using hq2, rfl⟩

theorem mem_afterClose_of {s : State} {c : Nat} {q : Peer} (hq : q ∈ s.peers) (hne : q.conn ≠ c) :
    scrub c q ∈ (afterClose s c).peers := by
  unfold afterClose
  exact List.mem_map.2 ⟨q, List.mem_filter.2 ⟨hq, by simpa using hne⟩, rfl⟩

theorem conns_afterClose (s : State) (c : Nat) : conns (afterClose s c).peers = (conns s.peers).filter (· != c) := by
  unfold afterClose conns
  simp only [List.map_map, List.filter_map]
  rfl

theorem mem_conns_afterClose {s : State} {c d : Nat} : d ∈ conns (afterClose s c).peers ↔ d ∈ conns s.peers ∧ d ≠ c := by
  rw [conns_afterClose, List.mem_filter]
  simp

theorem inv_afterClose {s : State} (hI : Inv s) (c : Nat) : Inv (afterClose s c) := by
  constructor
  · rw [conns_afterClose]
    exact hI.nodup.sublist List.filter_sublist
  · intro q' hq' e' he'
    obtain ⟨q, hq, _, rfl⟩ := mem_afterClose_peers hq'
    obtain ⟨e, he, rfl⟩ := List.mem_map.1 he'
    exact hI.owner q hq e he
  · intro q' hq' e' he'
    obtain ⟨q, hq, hne, rfl⟩ := mem_afterClose_peers hq'
    obtain ⟨e, he, rfl⟩ := List.mem_map.1 he'
    unfold afterClose
    exact List.mem_filter.2 ⟨hI.inIdx q hq e he, by simpa [scrub] using hne⟩
  · intro q' hq'
    obtain ⟨q, hq, _, rfl⟩ := mem_afterClose_peers hq'
    have : (scrub c q).elements.map (·.path) = q.elements.map (·.path) := by
      simp [scrub, List.map_map, Function.comp_def]
    rw [this]; exact hI.paths q hq
  · unfold afterClose
    exact hI.idxNodup.sublist (List.Sublist.map _ List.filter_sublist)
  · intro pa o hm
    unfold afterClose at hm
    obtain ⟨hm1, hm2⟩ := List.mem_filter.1 hm
    have hoc : o ≠ c := by simpa using hm2
    obtain ⟨q, hq, hqc, e, he, hpa⟩ := hI.idxElem pa o hm1
    exact ⟨scrub c q, mem_afterClose_of hq (by rw [hqc]; exact hoc), hqc, unsub c e,
      List.mem_map.2 ⟨e, he, rfl⟩, hpa⟩
  · intro q' hq' e' he' fk hfk
    obtain ⟨q, hq, _, rfl⟩ := mem_afterClose_peers hq'
    obtain ⟨e, he, rfl⟩ := List.mem_map.1 he'
    obtain ⟨h1, h2⟩ := mem_unsub_fetchers hfk
    have := hI.fetchers q hq e he fk h1
    rw [mem_fetchKeys] at this ⊢
    obtain ⟨q2, hq2, hq2c, f, hf, hu⟩ := this
    exact ⟨scrub c q2, mem_afterClose_of hq2 (by rw [hq2c]; exact h2), hq2c, f, hf, hu⟩
  · intro q' hq' r hr
    obtain ⟨q, hq, _, rfl⟩ := mem_afterClose_peers hq'
    obtain ⟨hr1, hr2⟩ := List.mem_filter.1 (show r ∈ q.routes.filter (·.requester != c) from hr)
    obtain ⟨h1, h2, h3⟩ := hI.routes q hq r hr1
    exact ⟨h1, mem_conns_afterClose.2 ⟨h2, by simpa using hr2⟩, h3⟩

/-! ## what a teardown emits -/

theorem mem_closeTrace {s : State} (hI : Inv s) {c : Nat} {o : Obs} (h : o ∈ closeTrace s c) :
    (∃ t, o = .timerDestroy t) ∨ ∃ d j, o = .send d j true ∧ d ∈ conns s.peers ∧ d ≠ c := by
  unfold closeTrace at h
  split at h
  · cases h
  · next p hp =>
    simp only [List.mem_append, List.mem_flatMap, List.mem_map] at h
    rcases h with (⟨r, hr, ho⟩ | ⟨r, _, rfl⟩) | ⟨e, _, ho⟩
    · unfold routeActs at ho
      rcases List.mem_cons.1 ho with rfl | ho
      · exact .inl ⟨_, rfl⟩
      · split at ho
        · cases ho
        · next hne =>
          split at ho
          · cases ho
          · split at ho
            · rw [List.mem_singleton.1 ho]
              exact .inr ⟨_, _, rfl, (hI.routes p (findPeer_mem hp) r hr).2.1, by simpa using hne⟩
            · cases ho
    · exact .inl ⟨_, rfl⟩
    · unfold notifyActs at ho
      obtain ⟨sl, hsl, ho⟩ := List.mem_filterMap.1 ho
      split at ho
      · obtain ⟨f, hf, rfl⟩ := Option.map_eq_some_iff.1 ho
        exact .inr ⟨_, _, rfl, findFetch_peer_mem hf, (mem_unsub_fetchers hsl).2⟩
      · cases ho

theorem closeTrace_strip {s : State} (hI : Inv s) (c : Nat) : (closeTrace s c).map strip = closeTrace s c := by
  refine (List.map_congr_left fun o ho => ?_).trans (List.map_id _)
  rcases mem_closeTrace hI ho with ⟨_, rfl⟩ | ⟨_, _, rfl, _⟩ <;> rfl

/-! ## closePeer -/

theorem closePeer_eq {x : Ctx} (h : Inv x.st) {c : Nat} {p : Peer} (hp : findPeer x.st.peers c = some p) :
    closePeer x c = emit { play x (closeTrace x.st c) with st := afterClose x.st c } (.closed c) := by
  unfold closePeer
  rw [freePeerResources_eq h hp]

theorem closePeer_out {x : Ctx} (h : Inv x.st) {c : Nat} {p : Peer} (hp : findPeer x.st.peers c = some p) :
    ∃ D, (closePeer x c).out.reverse = x.out.reverse ++ D ++ [Obs.closed c] ∧ D.map strip = closeTrace x.st c := by
  obtain ⟨D, hD, hDs⟩ := play_out_raw x (closeTrace x.st c)
  refine ⟨D.reverse, ?_, ?_⟩
  · rw [closePeer_eq h hp]
    simp only [emit_out, List.reverse_cons, hD, List.reverse_append]
  · rw [List.map_reverse, hDs, List.reverse_reverse, closeTrace_strip h]

/-! ## the step that tears a connection down -/

/-- The operation `op` applied in `s` tears down connection `c`; `x` is the working context at the
    moment the teardown begins: the pre-state itself for a `disconnect`, the state and outputs
    reached by the accepted part of the message for a message the daemon rejects. -/
def Closes (cfg : Config) (s : State) (op : Op) (c : Nat) (x : Ctx) : Prop :=
  c ∈ conns s.peers ∧
  ((∃ o, op = .disconnect c o ∧ x = mkCtx s o) ∨
   (∃ msg o, op = .message c msg o ∧ parseMessage cfg (mkCtx s o) c msg = (x, false)))

theorem Closes.ok {cfg : Config} {s : State} {op : Op} {c : Nat} {x : Ctx} (hI : Inv s)
    (h : Closes cfg s op c x) : ∃ o, Ok (mkCtx s o) x := by
  obtain ⟨_, ⟨o, _, rfl⟩ | ⟨msg, o, _, hpm⟩⟩ := h
  · exact ⟨o, Ok.refl hI⟩
  · have := parseMessage_ok cfg (x := mkCtx s o) hI c msg
    rw [hpm] at this
    exact ⟨o, this⟩

theorem Closes.inv {cfg : Config} {s : State} {op : Op} {c : Nat} {x : Ctx} (hI : Inv s)
    (h : Closes cfg s op c x) : Inv x.st :=
  (h.ok hI).elim fun _ ho => ho.inv

theorem Closes.conns {cfg : Config} {s : State} {op : Op} {c : Nat} {x : Ctx} (hI : Inv s)
    (h : Closes cfg s op c x) : conns x.st.peers = conns s.peers :=
  (h.ok hI).elim fun _ ho => ho.2.1

theorem Closes.findPeer {cfg : Config} {s : State} {op : Op} {c : Nat} {x : Ctx} (hI : Inv s)
    (h : Closes cfg s op c x) : ∃ p, findPeer x.st.peers c = some p :=
  have hc : c ∈ C05.conns x.st.peers := h.conns hI ▸ h.1
  findPeer_of_conns hc

theorem Closes.step_eq {cfg : Config} {s : State} {op : Op} {c : Nat} {x : Ctx}
    (h : Closes cfg s op c x) : step cfg s op = ((closePeer x c).st, (closePeer x c).out.reverse) := by
  have hn : ¬ (Daemon.findPeer s.peers c).isNone = true := fun hn => findPeer_isNone.1 hn h.1
  obtain ⟨_, ⟨o, rfl, rfl⟩ | ⟨msg, o, rfl, hpm⟩⟩ := h
  · rw [step_disconnect_eq, if_neg hn]
  · rw [step_message_eq, if_neg hn, hpm]
    rfl

theorem Closes.step {cfg : Config} {s : State} {op : Op} {c : Nat} {x : Ctx} (hI : Inv s)
    (hx : Closes cfg s op c x) :
    ∃ D, Daemon.step cfg s op = (afterClose x.st c, x.out.reverse ++ D ++ [Obs.closed c]) ∧
      D.map strip = closeTrace x.st c := by
  obtain ⟨p, hp⟩ := hx.findPeer hI
  obtain ⟨D, hD, hDs⟩ := closePeer_out (hx.inv hI) hp
  exact ⟨D, by rw [hx.step_eq, hD, closePeer_eq (hx.inv hI) hp]; rfl, hDs⟩

theorem Closes.st_eq {cfg : Config} {s : State} {op : Op} {c : Nat} {x : Ctx} (hI : Inv s)
    (hx : Closes cfg s op c x) : (Daemon.step cfg s op).1 = afterClose x.st c :=
  (hx.step hI).elim fun _ h => congrArg Prod.fst h.1

theorem Closes.out_eq {cfg : Config} {s : State} {op : Op} {c : Nat} {x : Ctx} (hI : Inv s)
    (hx : Closes cfg s op c x) {p : Peer} (hp : Daemon.findPeer x.st.peers c = some p) :
    (Daemon.step cfg s op).2.map strip =
      x.out.reverse.map strip ++
      (p.routes.flatMap (routeActs c) ++
       ((x.st.peers.filter (·.conn != c)).flatMap (fun q => q.routes.filter (·.requester == c))).map
         (fun r => Obs.timerDestroy r.timer) ++
       p.elements.flatMap (fun e => notifyActs x.st.peers (unsub c e) "remove")) ++
      [Obs.closed c] := by
  obtain ⟨D, hD, hDs⟩ := hx.step hI
  rw [hD, List.map_append, List.map_append, hDs]
  unfold closeTrace; rw [hp]; rfl

/-- the outputs of a closing step: the accepted part of the message, then a tail that never
    addresses the leaving peer -/
theorem Closes.tail {cfg : Config} {s : State} {op : Op} {c : Nat} {x : Ctx} (hI : Inv s)
    (hx : Closes cfg s op c x) :
    ∃ tail, (Daemon.step cfg s op).2 = x.out.reverse ++ tail ∧
      ∀ d j ok, Obs.send d j ok ∈ tail → d ∈ C05.conns s.peers ∧ d ≠ c := by
  obtain ⟨D, hD, hDs⟩ := hx.step hI
  refine ⟨D ++ [Obs.closed c], by rw [hD, List.append_assoc], fun d j ok hm => ?_⟩
  rcases List.mem_append.1 hm with hm | hm
  · have h1 : Obs.send d j true ∈ D.map strip := List.mem_map.2 ⟨_, hm, rfl⟩
    rw [hDs] at h1
    rcases mem_closeTrace (hx.inv hI) h1 with ⟨_, h⟩ | ⟨_, _, h, hl⟩
    · cases h
    · cases h
      exact hx.conns hI ▸ hl
  · cases List.mem_singleton.1 hm

/-- The first case includes the step that does nothing (unknown connection, `connect` of a live one). -/
theorem step_cases (cfg : Config) {s : State} (hI : Inv s) (op : Op) :
    (∃ o x, Ok (mkCtx s o) x ∧ step cfg s op = (x.st, x.out.reverse)) ∨
    (∃ c ws l a, op = .connect c ws l a ∧ c ∉ conns s.peers ∧
      step cfg s op = ({ s with peers := s.peers ++ [{ conn := c, ws := ws, isLocal := l, addrTok := a }] }, [])) ∨
    (∃ c x, Closes cfg s op c x) := by
  have dead : ∀ (c : Nat) (o : Oracle), (findPeer s.peers c).isNone = true → step cfg s op = (s, []) →
      ∃ o x, Ok (mkCtx s o) x ∧ step cfg s op = (x.st, x.out.reverse) :=
    fun _ o _ hs => ⟨o, mkCtx s o, Ok.refl hI, hs⟩
  cases op with
  | connect c ws l a =>
    by_cases hf : (findPeer s.peers c).isSome = true
    · exact .inl ⟨{}, mkCtx s {}, Ok.refl hI, by rw [step_connect_eq, if_pos hf]; rfl⟩
    · exact .inr (.inl ⟨c, ws, l, a, rfl, fun hc => hf (findPeer_isSome.2 hc), by rw [step_connect_eq, if_neg hf]⟩)
  | timerFire t o => exact .inl ⟨o, _, timeoutFired_ok (x := mkCtx s o) hI t, rfl⟩
  | disconnect c o =>
    by_cases hf : (findPeer s.peers c).isNone = true
    · exact .inl (dead c o hf (by rw [step_disconnect_eq, if_pos hf]))
    · exact .inr (.inr ⟨c, _, Classical.not_not.1 (mt findPeer_isNone.2 hf), .inl ⟨o, rfl, rfl⟩⟩)
  | message c msg o =>
    by_cases hf : (findPeer s.peers c).isNone = true
    · exact .inl (dead c o hf (by rw [step_message_eq, if_pos hf]))
    · have hok := parseMessage_ok cfg (x := mkCtx s o) hI c msg
      cases hpm : parseMessage cfg (mkCtx s o) c msg with
      | mk x ok =>
        rw [hpm] at hok
        cases ok with
        | true => exact .inl ⟨o, x, hok, by rw [step_message_eq, if_neg hf, hpm]; rfl⟩
        | false =>
          exact .inr (.inr ⟨c, x, Classical.not_not.1 (mt findPeer_isNone.2 hf), .inr ⟨msg, o, rfl, hpm⟩⟩)

theorem Ok.live {s : State} {o : Oracle} {x : Ctx} (h : Ok (mkCtx s o) x) : Live (conns s.peers) x.out := by
  obtain ⟨_, _, d, hd, hl⟩ := h
  rw [hd]
  show Live (conns s.peers) (d ++ [])
  rw [List.append_nil]
  exact hl

theorem closed_iff_closes {cfg : Config} {s : State} (hI : Inv s) (op : Op) (c : Nat) :
    Obs.closed c ∈ (step cfg s op).2 ↔ ∃ x, Closes cfg s op c x := by
  constructor
  · intro hm
    rcases step_cases cfg hI op with ⟨o, x, hok, hs⟩ | ⟨_, _, _, _, _, _, hs⟩ | ⟨c', x, hx⟩
    · rw [hs] at hm
      exact absurd (List.mem_reverse.1 hm) (hok.live.2 c)
    · rw [hs] at hm; cases hm
    · obtain ⟨D, hD, hDs⟩ := hx.step hI
      obtain ⟨o, hok⟩ := hx.ok hI
      rw [hD] at hm
      rcases List.mem_append.1 hm with hm | hm
      · rcases List.mem_append.1 hm with hm | hm
        · exact absurd (List.mem_reverse.1 hm) (hok.live.2 c)
        · have h1 : Obs.closed c ∈ D.map strip := List.mem_map.2 ⟨_, hm, rfl⟩
          rw [hDs] at h1
          rcases mem_closeTrace (hx.inv hI) h1 with ⟨_, h⟩ | ⟨_, _, h, _⟩ <;> cases h
      · cases List.mem_singleton.1 hm
        exact ⟨x, hx⟩
  · rintro ⟨x, hx⟩
    obtain ⟨D, hD, _⟩ := hx.step hI
    rw [hD]
    exact List.mem_append_right _ (List.mem_singleton_self _)

/-! ## one step -/

theorem step_inv {cfg : Config} {s : State} (hI : Inv s) (op : Op) : Inv (step cfg s op).1 := by
  rcases step_cases cfg hI op with ⟨_, x, hok, hs⟩ | ⟨c, ws, l, a, _, hc, hs⟩ | ⟨c, x, hx⟩
  · rw [hs]; exact hok.inv
  · rw [hs]; exact hI.connect hc ws l a
  · rw [hx.st_eq hI]; exact inv_afterClose (hx.inv hI) c

/-- every send of a step addresses a connection that exists in the state the step starts from -/
theorem step_live {cfg : Config} {s : State} (hI : Inv s) (op : Op) {d : Nat} {j : Json} {b : Bool}
    (hm : Obs.send d j b ∈ (step cfg s op).2) : d ∈ conns s.peers := by
  rcases step_cases cfg hI op with ⟨_, x, hok, hs⟩ | ⟨_, _, _, _, _, _, hs⟩ | ⟨c, x, hx⟩
  · rw [hs] at hm
    exact hok.live.1 d j b (List.mem_reverse.1 hm)
  · rw [hs] at hm; cases hm
  · obtain ⟨tail, ht, hl⟩ := hx.tail hI
    obtain ⟨_, hok⟩ := hx.ok hI
    rw [ht] at hm
    rcases List.mem_append.1 hm with hm | hm
    · exact hok.live.1 d j b (List.mem_reverse.1 hm)
    · exact (hl d j b hm).1

/-- the connections after a step: those before, minus a closed one, plus a newly connected one -/
theorem step_conns {cfg : Config} {s : State} (hI : Inv s) (op : Op) {d : Nat}
    (hd : d ∈ conns (step cfg s op).1.peers) :
    d ∈ conns s.peers ∨ ∃ ws l a, op = .connect d ws l a := by
  rcases step_cases cfg hI op with ⟨_, x, hok, hs⟩ | ⟨c, ws, l, a, rfl, _, hs⟩ | ⟨c, x, hx⟩
  · rw [hs] at hd
    exact .inl (hok.2.1 ▸ hd)
  · rw [hs, conns_append] at hd
    rcases List.mem_append.1 hd with hd | hd
    · exact .inl hd
    · cases List.mem_singleton.1 hd
      exact .inr ⟨ws, l, a, rfl⟩
  · rw [hx.st_eq hI] at hd
    exact .inl (hx.conns hI ▸ (mem_conns_afterClose.1 hd).1)

/-! ## runs and reachability -/

theorem run_inv {cfg : Config} {s : State} (hI : Inv s) (ops : List Op) : Inv (run cfg s ops).1 :=
  Daemon.run_inv (I := fun s _ => Inv s) (H := []) cfg ops (fun _ op _ h => step_inv h op) hI

/-- `s` is reached from an initial state (any user table) by some list of operations -/
def Reachable (cfg : Config) (s : State) : Prop :=
  ∃ (us : List User) (ops : List Op), s = (run cfg { users := us } ops).1

theorem Reachable.inv {cfg : Config} {s : State} (h : Reachable cfg s) : Inv s := by
  obtain ⟨us, ops, rfl⟩ := h
  exact run_inv (inv_init us) ops

theorem Reachable.init (cfg : Config) (us : List User) : Reachable cfg { users := us } := ⟨us, [], rfl⟩

theorem Reachable.step {cfg : Config} {s : State} (h : Reachable cfg s) (op : Op) :
    Reachable cfg (step cfg s op).1 := by
  obtain ⟨us, ops, rfl⟩ := h
  refine ⟨us, ops ++ [op], ?_⟩
  rw [run_append, run_cons, run_nil]

theorem Reachable.run {cfg : Config} {s : State} (h : Reachable cfg s) (ops : List Op) :
    Reachable cfg (run cfg s ops).1 :=
  Daemon.run_inv (I := fun s _ => Reachable cfg s) (H := []) cfg ops (fun _ op _ h => h.step op) h

end Cjet.Daemon.C05

namespace Cjet.Props.C05

open Cjet Cjet.Json Cjet.Daemon Cjet.Daemon.C05

/-! ## concrete history used by the non-vacuity examples of `Cjet.Props.C05`
  peer 1 owns state "a" and method "m"; peer 2 fetches everything, has a `set` in flight to peer 1
  and owns state "b", to which peer 1 has a `set` in flight; peer 3 fetches everything. -/

def exNum (i : Int) : Json := .num ⟨0, i⟩
def exReq (method : String) (id : Int) (params : List (Bytes × Json)) : Json :=
  .obj [(k "method", mkStr method), (k "id", exNum id), (k "params", .obj params)]
def exOps : List Op :=
  [.connect 1 false true [49], .connect 2 false true [50], .connect 3 true false [51],
   .message 1 (some (exReq "add" 1 [(k "path", mkStr "a"), (k "value", exNum 1)])) {},
   .message 1 (some (exReq "add" 2 [(k "path", mkStr "m")])) {},
   .message 2 (some (exReq "add" 3 [(k "path", mkStr "b"), (k "value", exNum 1)])) {},
   .message 2 (some (exReq "fetch" 4 [(k "id", mkStr "f2")])) {},
   .message 3 (some (exReq "fetch" 5 [(k "id", exNum 7)])) {},
   .message 1 (some (exReq "fetch" 6 [(k "id", mkStr "f1")])) {},
   .message 2 (some (exReq "set" 7 [(k "path", mkStr "a"), (k "value", exNum 2)])) {},
   .message 1 (some (exReq "set" 8 [(k "path", mkStr "b"), (k "value", exNum 3)])) {}]
def exS : State := (run {} {} exOps).1

/-- the example state, evaluated once: (conn, #elements, #fetches, #routes) of each peer -/
theorem exS_peers : exS.peers.map (fun p => (p.conn, p.elements.length, p.fetches.length, p.routes.length)) =
    [(1, 2, 1, 1), (2, 1, 1, 1), (3, 0, 1, 0)] := by decide +kernel

theorem exS_conns : conns exS.peers = [1, 2, 3] := by
  simpa [conns, List.map_map, Function.comp_def] using congrArg (List.map (·.1)) exS_peers

end Cjet.Props.C05
