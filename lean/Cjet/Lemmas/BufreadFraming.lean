import Cjet.Lemmas.Bufread
/-!
The two concrete framings against their direct statements: `Spec.run (rawPeer ok)` is `Raw.frames`,
`Spec.run (lineClient d ok)` is `Lines.split`; `be32`/`be` round trip; whole frames in front of a stream.
-/
namespace Cjet.Bufread

/-! ## raw framing -/

theorem raw_run_len {ok : Bytes → Bool} {cap : Nat} (hcap : 4 ≤ cap) (str : Bytes) (t : Terminal) :
    Spec.run (rawPeer ok) cap .len str t =
      if str.length < 4 then ([], .ofTerminal t)
      else prepend [(.len, str.take 4)]
        (Spec.run (rawPeer ok) cap (if be (str.take 4) = 0 then .len else .msg (be (str.take 4))) (str.drop 4) t) := by
  have hn : Spec.next cap ((rawPeer ok).want .len) str = if 4 ≤ str.length then .take 4 else .needMore :=
    if_neg (Nat.not_lt.mpr hcap)
  by_cases h4 : str.length < 4
  · rw [if_pos h4, Spec.run_needMore (hn.trans (if_neg (Nat.not_le.mpr h4)))]
  · rw [if_neg h4, Spec.run_take (hn.trans (if_pos (Nat.not_lt.mp h4))) (by decide)]
    by_cases hz : be (str.take 4) = 0 <;> simp [rawPeer, hz]

theorem raw_run_msg {ok : Bytes → Bool} {cap n : Nat} (h0 : n ≠ 0) (body : Bytes) (t : Terminal) :
    Spec.run (rawPeer ok) cap (.msg n) body t =
      if cap < n then ([], .tooMuch)
      else if body.length < n then ([], .ofTerminal t)
      else if ok (body.take n) then prepend [(.msg n, body.take n)] (Spec.run (rawPeer ok) cap .len (body.drop n) t)
      else ([(.msg n, body.take n)], .clientClosed) := by
  have hn : Spec.next cap ((rawPeer ok).want (.msg n)) body =
      if cap < n then .tooMuch else if n ≤ body.length then .take n else .needMore := rfl
  by_cases hbig : cap < n
  · rw [if_pos hbig, Spec.run_tooMuch (hn.trans (if_pos hbig))]
  · rw [if_neg hbig] at hn ⊢
    by_cases hs : body.length < n
    · rw [if_pos hs, Spec.run_needMore (hn.trans (if_neg (Nat.not_le.mpr hs)))]
    · rw [if_neg hs, Spec.run_take (hn.trans (if_pos (Nat.not_lt.mp hs))) h0]
      by_cases hok : ok (body.take n) = true <;> simp [rawPeer, hok]

theorem raw_spec_frames {ok : Bytes → Bool} {cap : Nat} (hcap : 4 ≤ cap) (str : Bytes) (t : Terminal) :
    (rawMessages (Spec.run (rawPeer ok) cap .len str t).1, (Spec.run (rawPeer ok) cap .len str t).2) =
      Raw.frames cap ok str t := by
  fun_induction Raw.frames cap ok str t with
  | case1 str h4 =>
    rw [raw_run_len hcap, if_pos h4]; rfl
  | case2 str h4 n body hz ih =>
    rw [raw_run_len hcap, if_neg h4, if_pos hz]
    exact ih
  | case3 str h4 n hz hbig =>
    rw [raw_run_len hcap, if_neg h4, if_neg hz, raw_run_msg hz, if_pos hbig]
    rfl
  | case4 str h4 n body hz hbig hshort =>
    rw [raw_run_len hcap, if_neg h4, if_neg hz, raw_run_msg hz, if_neg hbig, if_pos hshort]
    rfl
  | case5 str h4 n body hz hbig hshort hok r ih =>
    rw [raw_run_len hcap, if_neg h4, if_neg hz, raw_run_msg hz, if_neg hbig, if_neg hshort, if_pos hok]
    exact congrArg (fun x => (body.take n :: x.1, x.2)) ih
  | case6 str h4 n body hz hbig hshort hok =>
    rw [raw_run_len hcap, if_neg h4, if_neg hz, raw_run_msg hz, if_neg hbig, if_neg hshort, if_neg hok]
    rfl

/-! ## be32 / be -/

theorem be_be32 {n : Nat} (h : n < 4294967296) : be (be32 n) = n := by
  -- `be32 n` lists the digits of `n` in base 256; the leading one needs no `% 256`
  have hq : n / 256 / 256 / 256 < 256 := by
    rw [Nat.div_div_eq_div_mul, Nat.div_div_eq_div_mul]
    exact Nat.div_lt_of_lt_mul h
  simp only [be, be32, List.foldl_cons, List.foldl_nil, UInt8.toNat_ofNat', Nat.mod_mod, Nat.zero_mul, Nat.zero_add]
  rw [show n / 16777216 = n / 256 / 256 / 256 by rw [Nat.div_div_eq_div_mul, Nat.div_div_eq_div_mul],
    show n / 65536 = n / 256 / 256 by rw [Nat.div_div_eq_div_mul],
    Nat.mod_eq_of_lt hq, Nat.div_add_mod', Nat.div_add_mod', Nat.div_add_mod']

theorem be32_length (n : Nat) : (be32 n).length = 4 := rfl

theorem Raw.frames_be32 {ok : Bytes → Bool} {cap n : Nat} (h32 : n < 4294967296) (post : Bytes) (t : Terminal) :
    Raw.frames cap ok (be32 n ++ post) t =
      if n = 0 then Raw.frames cap ok post t
      else if cap < n then ([], .tooMuch)
      else if post.length < n then ([], .ofTerminal t)
      else if ok (post.take n) then
        (post.take n :: (Raw.frames cap ok (post.drop n) t).1, (Raw.frames cap ok (post.drop n) t).2)
      else ([post.take n], .clientClosed) := by
  have h4 : ¬ (be32 n ++ post).length < 4 := by simp [be32_length]
  rw [Raw.frames, dif_neg h4]
  simp only [List.take_left' (be32_length n), List.drop_left' (be32_length n), be_be32 h32]

theorem Raw.frames_zero {ok : Bytes → Bool} {cap : Nat} (post : Bytes) (t : Terminal) :
    Raw.frames cap ok (be32 0 ++ post) t = Raw.frames cap ok post t := by
  rw [Raw.frames_be32 (by decide), if_pos rfl]

theorem Raw.frames_tooLong {ok : Bytes → Bool} {cap n : Nat} (hn : cap < n) (h32 : n < 4294967296)
    (post : Bytes) (t : Terminal) : Raw.frames cap ok (be32 n ++ post) t = ([], .tooMuch) := by
  rw [Raw.frames_be32 h32, if_neg (Nat.ne_of_gt (Nat.zero_lt_of_lt hn)), if_pos hn]

theorem Raw.frames_frame {ok : Bytes → Bool} {cap : Nat} {m : Bytes} (hm : m ≠ []) (hc : m.length ≤ cap)
    (h32 : m.length < 4294967296) (post : Bytes) (t : Terminal) :
    Raw.frames cap ok (be32 m.length ++ m ++ post) t =
      if ok m then (m :: (Raw.frames cap ok post t).1, (Raw.frames cap ok post t).2)
      else ([m], .clientClosed) := by
  rw [List.append_assoc, Raw.frames_be32 h32, if_neg (mt List.eq_nil_of_length_eq_zero hm), if_neg (Nat.not_lt.mpr hc),
    if_neg (by simp), List.take_left' rfl, List.drop_left' rfl]

theorem Raw.frames_whole {ok : Bytes → Bool} {cap : Nat} {pre : Bytes} {ms : List Bytes}
    (hw : Raw.Whole cap ok pre ms) (x : Bytes) (t : Terminal) :
    Raw.frames cap ok (pre ++ x) t = (ms ++ (Raw.frames cap ok x t).1, (Raw.frames cap ok x t).2) := by
  induction hw with
  | nil => rfl
  | zero _ ih => rw [List.append_assoc, Raw.frames_zero, ih]
  | frame m hm hc h32 hok _ ih =>
    rw [List.append_assoc, Raw.frames_frame hm hc h32, hok, if_pos rfl, ih]
    rfl

/-! ## lines -/

theorem line_spec_split {d : Bytes} {ok : Bytes → Bool} {cap : Nat} (str : Bytes) (t : Terminal) :
    ((Spec.run (lineClient d ok) cap () str t).1.map (·.2), (Spec.run (lineClient d ok) cap () str t).2) =
      Lines.split cap d ok str t := by
  have hn : ∀ str, Spec.next cap ((lineClient d ok).want ()) str =
      match findSub d (str.take cap) with
      | some i => .take (i + d.length)
      | none => if cap ≤ str.length then .tooMuch else .needMore := fun _ => rfl
  fun_induction Lines.split cap d ok str t with
  | case1 str i hf h0 =>
    rw [Spec.run_take_zero ((hn str).trans (by rw [hf, ← h0]))]; rfl
  | case2 str i hf h0 hok r ih =>
    rw [Spec.run_take ((hn str).trans (by rw [hf])) h0]
    simp only [lineClient, hok, Bool.not_true, Bool.false_eq_true, if_false, prepend, List.cons_append, List.nil_append,
      List.map_cons]
    exact congrArg (fun x => (str.take (i + d.length) :: x.1, x.2)) ih
  | case3 str i hf h0 hok =>
    rw [Spec.run_take ((hn str).trans (by rw [hf])) h0]
    simp [lineClient, hok]
  | case4 str hf hfull =>
    rw [Spec.run_tooMuch ((hn str).trans (by rw [hf, if_pos hfull]))]; rfl
  | case5 str hf hfull =>
    rw [Spec.run_needMore ((hn str).trans (by rw [hf, if_neg hfull]))]; rfl

end Cjet.Bufread
