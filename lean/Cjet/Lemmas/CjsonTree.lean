/-
  Helper lemmas for Cjet.Props.CjsonTree: the allocation ledger of cJSON_Duplicate.
-/
import Cjet.Cjson.TreeOps

namespace Cjet.Cjson.TreeOps

variable {s : Nat → Bool}

/-- the `n` allocation calls from number `lo` on all succeed -/
def AllOk (s : Nat → Bool) (lo n : Nat) : Prop := ∀ j, j < n → s (lo + j) = false

/-- among the `n` calls from `lo` on one fails, the first such is the last call made (`nx` = calls so far) -/
def FirstFail (s : Nat → Bool) (lo n nx : Nat) : Prop :=
  ∃ j, j < n ∧ s (lo + j) = true ∧ nx = lo + j + 1 ∧ AllOk s lo j

theorem AllOk.zero (s : Nat → Bool) (lo : Nat) : AllOk s lo 0 := fun _ h => absurd h (Nat.not_lt_zero _)

theorem AllOk.append {lo n m : Nat} (h1 : AllOk s lo n) (h2 : AllOk s (lo + n) m) :
    AllOk s lo (n + m) := by
  intro j hj
  by_cases h : j < n
  · exact h1 j h
  · have := h2 (j - n) (by omega)
    rwa [show lo + n + (j - n) = lo + j by omega] at this

theorem FirstFail.within {lo n m t nx : Nat} (h1 : AllOk s lo n) (h2 : FirstFail s (lo + n) m nx)
    (ht : n + m ≤ t) : FirstFail s lo t nx := by
  obtain ⟨j, hj, hs, hn, ha⟩ := h2
  refine ⟨n + j, by omega, ?_, by omega, AllOk.append h1 ha⟩
  rwa [← Nat.add_assoc]

def Held (s : Nat → Bool) (a : A) (n : Nat) (a' : A) : Prop :=
  AllOk s a.next n ∧ a'.next = a.next + n ∧ a'.live = a.live + n

theorem Held.refl (s : Nat → Bool) (a : A) : Held s a 0 a := ⟨AllOk.zero _ _, rfl, rfl⟩

theorem Held.trans {a a1 a2 : A} {n m : Nat} (h1 : Held s a n a1) (h2 : Held s a1 m a2) :
    Held s a (n + m) a2 :=
  ⟨AllOk.append h1.1 (h1.2.1 ▸ h2.1), by rw [h2.2.1, h1.2.1, Nat.add_assoc], by rw [h2.2.2, h1.2.2, Nat.add_assoc]⟩

@[simp] theorem b2n_true : b2n true = 1 := rfl

theorem b2n_le (b : Bool) : b2n b ≤ 1 := by cases b <;> simp [b2n]

theorem optAlloc_true {need : Bool} {a a' : A} (h : optAlloc s need a = (true, a')) : Held s a (b2n need) a' := by
  unfold optAlloc at h
  cases need with
  | false => cases h; exact Held.refl s a
  | true =>
    rw [if_pos rfl] at h
    split at h
    · cases h
    · rename_i hs
      cases h
      exact ⟨fun j hj => by cases Nat.lt_one_iff.mp hj; simpa using hs, rfl, rfl⟩

theorem optAlloc_false {need : Bool} {a a' : A} (h : optAlloc s need a = (false, a')) :
    a'.live = a.live ∧ FirstFail s a.next (b2n need) a'.next := by
  unfold optAlloc at h
  cases need with
  | false => cases h
  | true =>
    rw [if_pos rfl] at h
    split at h
    · rename_i hs
      cases h
      exact ⟨rfl, 0, Nat.one_pos, hs, rfl, AllOk.zero _ _⟩
    · cases h

theorem Held.alloc {a a1 a2 : A} {n : Nat} {need : Bool} (h : Held s a n a1)
    (h2 : optAlloc s need a1 = (true, a2)) : Held s a (n + b2n need) a2 :=
  h.trans (optAlloc_true h2)

mutual
theorem delFrees_norm : ∀ i : Item, delFrees (norm i) = allocs i
  | .mk k r c vi vd vs nm kids => by
    simp only [norm, delFrees, allocs, Bool.false_eq_true, if_false, delFreesL_norm kids]
    cases c <;> cases nm <;> simp [b2n] <;> omega
theorem delFreesL_norm : ∀ l : List Item, delFreesL (normL l) = allocsL l
  | [] => rfl
  | k :: ks => by simp only [normL, delFreesL, allocsL, delFrees_norm k, delFreesL_norm ks]
end

/-- what `dup`/`dupL` promise, for a request that makes `n` allocation calls when nothing fails -/
def Spec {α : Type} (s : Nat → Bool) (n : Nat) (expect : α) (a : A) : Option α × A → Prop
  | (some c, a') => c = expect ∧ a'.next = a.next + n ∧ a'.live = a.live + n ∧ AllOk s a.next n
  | (none, a') => a'.live = a.live ∧ FirstFail s a.next n a'.next

/-- `a2.live - n`: the `n` held blocks are given back -/
theorem Held.giveBack {α : Type} {a a1 a2 : A} {n m t : Nat} {x : α} (h : Held s a n a1)
    (hf : a2.live = a1.live ∧ FirstFail s a1.next m a2.next) (ht : n + m ≤ t) :
    Spec s t x a (none, ⟨a2.next, a2.live - n⟩) :=
  ⟨by show a2.live - n = a.live; rw [hf.1, h.2.2]; omega, FirstFail.within h.1 (h.2.1 ▸ hf.2) ht⟩

theorem Held.spec {α : Type} {a a' : A} {n : Nat} {x : α} (h : Held s a n a') :
    Spec s n x a (some x, a') := ⟨rfl, h.2.1, h.2.2, h.1⟩

theorem Held.of_spec {α : Type} {a a' : A} {n : Nat} {x c : α} (h : Spec s n x a (some c, a')) :
    c = x ∧ Held s a n a' := ⟨h.1, h.2.2.2, h.2.1, h.2.2.1⟩

mutual
theorem dup_spec (s : Nat → Bool) : ∀ (i : Item) (a : A), Spec s (allocs i) (norm i) a (dup s i a)
  | .mk k r c vi vd vs nm kids, a => by
    have ht : allocs (.mk k r c vi vd vs nm kids) = 0 + b2n true + b2n vs.isSome + b2n (nm.isSome && !c) + allocsL kids := by
      simp only [allocs, b2n_true, Nat.zero_add]
    rw [ht]
    unfold dup
    -- each stage: the call fails first among all and what is held is given back, or one more block is held
    cases h1 : optAlloc s true a with
    | mk b1 a1 =>
    cases b1 with
    | false =>
      exact (Held.refl s a).giveBack (optAlloc_false h1) (by omega)
    | true =>
      have H1 := (Held.refl s a).alloc h1
      dsimp only
      cases h2 : optAlloc s vs.isSome a1 with
      | mk b2 a2 =>
      cases b2 with
      | false =>
        exact H1.giveBack (optAlloc_false h2) (by omega)
      | true =>
        have H2 := H1.alloc h2
        dsimp only
        cases h3 : optAlloc s (nm.isSome && !c) a2 with
        | mk b3 a3 =>
        cases b3 with
        | false =>
          exact H2.giveBack (optAlloc_false h3) (by omega)
        | true =>
          have H3 := H2.alloc h3
          dsimp only
          have ih := dupL_spec s kids a3
          cases h4 : dupL s kids a3 with
          | mk r4 a4 =>
          rw [h4] at ih
          cases r4 with
          | none =>
            exact H3.giveBack ih (Nat.le_refl _)
          | some cs =>
            obtain ⟨rfl, H4⟩ := Held.of_spec ih
            exact (H3.trans H4).spec
theorem dupL_spec (s : Nat → Bool) : ∀ (l : List Item) (a : A), Spec s (allocsL l) (normL l) a (dupL s l a)
  | [], a => (Held.refl s a).spec
  | k :: ks, a => by
    unfold dupL
    have ih1 := dup_spec s k a
    cases h1 : dup s k a with
    | mk r1 a1 =>
    rw [h1] at ih1
    cases r1 with
    | none => exact (Held.refl s a).giveBack ih1 (by simp only [allocsL]; omega)
    | some c =>
      obtain ⟨rfl, H1⟩ := Held.of_spec ih1
      dsimp only
      have ih2 := dupL_spec s ks a1
      cases h2 : dupL s ks a1 with
      | mk r2 a2 =>
      rw [h2] at ih2
      cases r2 with
      | none => rw [delFrees_norm]; exact H1.giveBack ih2 (Nat.le_refl _)
      | some cs =>
        obtain ⟨rfl, H2⟩ := Held.of_spec ih2
        exact (H1.trans H2).spec
end

mutual
/-- a tree without reference items is its own normal form -/
def noRef : Item → Bool
  | .mk _ r _ _ _ _ _ kids => !r && noRefL kids
def noRefL : List Item → Bool
  | [] => true
  | k :: ks => noRef k && noRefL ks
end

mutual
theorem norm_of_noRef : ∀ i : Item, noRef i = true → norm i = i
  | .mk k r c vi vd vs nm kids, h => by
    simp only [noRef, Bool.and_eq_true, Bool.not_eq_true'] at h
    simp only [norm, normL_of_noRef kids h.2, h.1]
theorem normL_of_noRef : ∀ l : List Item, noRefL l = true → normL l = l
  | [], _ => rfl
  | k :: ks, h => by
    simp only [noRefL, Bool.and_eq_true] at h
    simp only [normL, norm_of_noRef k h.1, normL_of_noRef ks h.2]
end

mutual
theorem norm_idem : ∀ i : Item, norm (norm i) = norm i
  | .mk k r c vi vd vs nm kids => by simp only [norm, normL_idem kids]
theorem normL_idem : ∀ l : List Item, normL (normL l) = normL l
  | [] => rfl
  | k :: ks => by simp only [normL, norm_idem k, normL_idem ks]
end

/-! ### member lookup -/

theorem getItem_some_lt {cs : Bool} {key : Bytes} : ∀ {l : List Item} {j : Nat}, getItem cs key l = some j → j < l.length
  | [], _, h => by simp [getItem] at h
  | k :: ks, j, h => by
    unfold getItem at h
    split at h
    · simp at h; subst h; simp
    · split at h
      · simp at h
      · simp only [Option.map_eq_some_iff] at h
        obtain ⟨j', hj', rfl⟩ := h
        have := getItem_some_lt hj'
        simp; omega

end Cjet.Cjson.TreeOps
