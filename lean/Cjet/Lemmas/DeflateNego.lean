import Cjet.Deflate
/-! Helper lemmas for C19, part C: the offer parser and the response buffer. -/
namespace Cjet.Deflate
open Cjet.Generated.Deflate

/-! ### sizes -/

def PName.cost : PName → Nat
  | .cmw => 27
  | .smw => 27
  | .cnc => 28
  | .snc => 28

def Flags.get (fl : Flags) : PName → Bool
  | .cmw => fl.cmw
  | .smw => fl.smw
  | .cnc => fl.cnc
  | .snc => fl.snc

def Flags.set (fl : Flags) : PName → Flags
  | .cmw => { fl with cmw := true }
  | .smw => { fl with smw := true }
  | .cnc => { fl with cnc := true }
  | .snc => { fl with snc := true }

/-- a bound for the response once the parameters flagged in `fl` are written -/
def budget (fl : Flags) : Nat :=
  extName.length + 27 * fl.cmw.toNat + 27 * fl.smw.toNat + 28 * fl.cnc.toNat + 28 * fl.snc.toNat

/-- all four parameters and the NUL fit into the response buffer -/
theorem budget_le (fl : Flags) : budget fl + 1 ≤ responseMax := by
  have := fl.cmw.toNat_le
  have := fl.smw.toNat_le
  have := fl.cnc.toNat_le
  have := fl.snc.toNat_le
  show 18 + _ + _ + _ + _ + 1 ≤ 129
  omega

theorem budget_set (fl : Flags) (n : PName) (h : fl.get n = false) :
    budget (fl.set n) = budget fl + n.cost := by
  obtain ⟨a, b, c, d⟩ := fl
  cases n
  all_goals
    cases h
    simp +arith only [budget, Flags.set, PName.cost, Bool.toNat_true, Bool.toNat_false]

theorem renderValue_length (v : Nat) : (renderValue v).length ≤ 3 := by
  unfold renderValue
  split
  · simp
  · split <;> simp

/-- a window parameter with any value, a takeover parameter without value: at most `cost` bytes -/
theorem renderItem_length (n : PName) (v : Nat) (h : n = .cmw ∨ n = .smw ∨ v = 0) :
    (renderItem n v).length ≤ n.cost := by
  have hv := renderValue_length v
  cases n
  · show (renderValue v).length + 24 ≤ 27; omega
  · show (renderValue v).length + 24 ≤ 27; omega
  all_goals
    obtain rfl : v = 0 := h.elim nofun (·.elim nofun id)
    decide

/-! ### what `classify` tells -/

variable {buf : Bytes} {e : Ext} {fl : Flags} {p l : Nat}

theorem eq_of_not_bne {α : Type} [BEq α] [LawfulBEq α] {a b : α} (h : ¬(a != b) = true) : a = b := by simpa using h

/-- what the two value parsers (`cmwValue`, `smwValue`) have in common behind a name of `n` bytes; `w` wraps the result -/
def windowValue {α : Type} (w : Nat → α) (bad : Nat → Bool) (hi : Nat) (buf : Bytes) (p n l : Nat) : Option α :=
  if rd buf (p + n) != chEq then none
  else if l == n + 2 then
    if bad (tmpOf (rd buf (p + n + 1))) then none else some (w (tmpOf (rd buf (p + n + 1))))
  else if l == n + 3 then
    if rd buf (p + n + 1) != chOne then none
    else if tmpOf (rd buf (p + n + 2)) > hi then none
    else some (w (10 + tmpOf (rd buf (p + n + 2))))
  else none

theorem cmwValue_eq : cmwValue buf p l =
    if l > nameCmw.length then
      windowValue some (fun t => decide (t < cmwDigitLo) || decide (t > cmwDigitHi)) cmwSecondHi buf p nameCmw.length l
    else some none := rfl

theorem smwValue_eq : smwValue buf p l =
    if l ≤ nameSmw.length then none else windowValue id (· != smwDigit) smwSecondHi buf p nameSmw.length l := rfl

theorem windowValue_some {α : Type} {w : Nat → α} {bad : Nat → Bool} {hi lo n : Nat} {a : α}
    (hbad : ∀ t, ¬bad t = true → lo ≤ t ∧ t < 10) (hlo : lo ≤ 10)
    (h : windowValue w bad hi buf p n l = some a) :
    ∃ t, a = w t ∧ lo ≤ t ∧ t ≤ 10 + hi ∧ spelled buf (p + n) t := by
  unfold windowValue at h
  obtain ⟨he, h⟩ := Option.ite_none_left_eq_some.1 h
  by_cases h2 : (l == n + 2) = true
  · rw [if_pos h2] at h
    obtain ⟨hb, h⟩ := Option.ite_none_left_eq_some.1 h
    obtain ⟨h8, h10⟩ := hbad _ hb
    exact ⟨_, (Option.some.inj h).symm, h8, by omega, eq_of_not_bne he, .inl ⟨h10, rfl⟩⟩
  · rw [if_neg h2] at h
    by_cases h3 : (l == n + 3) = true
    · rw [if_pos h3] at h
      obtain ⟨h1, h⟩ := Option.ite_none_left_eq_some.1 h
      obtain ⟨hr, h⟩ := Option.ite_none_left_eq_some.1 h
      exact ⟨_, (Option.some.inj h).symm, by omega, by omega, eq_of_not_bne he, .inr ⟨by omega, eq_of_not_bne h1, rfl⟩⟩
    · rw [if_neg h3] at h; cases h

theorem cmwValue_some {t : Nat} (h : cmwValue buf p l = some (some t)) :
    8 ≤ t ∧ t ≤ 15 ∧ spelled buf (p + nameCmw.length) t := by
  rw [cmwValue_eq] at h
  split at h
  · have hbad (d : Nat) (hd : ¬(decide (d < cmwDigitLo) || decide (d > cmwDigitHi)) = true) : 8 ≤ d ∧ d < 10 := by
      simp only [Bool.or_eq_true, decide_eq_true_iff] at hd
      unfold cmwDigitLo cmwDigitHi at hd
      omega
    obtain ⟨_, ht, hr⟩ := windowValue_some hbad (by decide) h
    cases ht
    exact hr
  · cases h

theorem smwValue_some {t : Nat} (h : smwValue buf p l = some t) :
    8 ≤ t ∧ t ≤ 15 ∧ spelled buf (p + nameSmw.length) t := by
  rw [smwValue_eq] at h
  obtain ⟨-, h⟩ := Option.ite_none_left_eq_some.1 h
  obtain ⟨_, ht, hr⟩ := windowValue_some (lo := 8)
    (fun t hb => by rw [eq_of_not_bne hb]; decide) (by decide) h
  cases ht
  exact hr

/-- the parameter kind an action belongs to -/
def Action.pname : Action → PName
  | .cmw _ => .cmw
  | .smw _ => .smw
  | .cnc => .cnc
  | .snc => .snc

theorem classify_some {a : Action} (h : classify buf fl p l = some a) :
    fl.get a.pname = false ∧ memEq buf p a.pname.bytes = true ∧
      match a with
      | .cmw ov => cmwValue buf p l = some ov
      | .smw t => smwValue buf p l = some t
      | _ => True := by
  unfold classify at h
  obtain ⟨-, h⟩ := Option.ite_none_left_eq_some.1 h
  by_cases hc : memEq buf p nameCmw = true
  · rw [if_pos hc] at h
    obtain ⟨hf, h⟩ := Option.ite_none_left_eq_some.1 h
    obtain ⟨-, h⟩ := Option.ite_none_left_eq_some.1 h
    obtain ⟨ov, hv, rfl⟩ := Option.map_eq_some_iff.1 h
    exact ⟨Bool.eq_false_iff.2 hf, hc, hv⟩
  rw [if_neg hc] at h
  by_cases hs : memEq buf p nameSmw = true
  · rw [if_pos hs] at h
    obtain ⟨hf, h⟩ := Option.ite_none_left_eq_some.1 h
    obtain ⟨-, h⟩ := Option.ite_none_left_eq_some.1 h
    obtain ⟨t, hv, rfl⟩ := Option.map_eq_some_iff.1 h
    exact ⟨Bool.eq_false_iff.2 hf, hs, hv⟩
  rw [if_neg hs] at h
  obtain ⟨-, h⟩ := Option.ite_none_left_eq_some.1 h
  by_cases hn : memEq buf p nameCnc = true
  · rw [if_pos hn] at h
    obtain ⟨hf, h⟩ := Option.ite_none_left_eq_some.1 h
    cases h
    exact ⟨Bool.eq_false_iff.2 hf, hn, trivial⟩
  rw [if_neg hn] at h
  by_cases hn' : memEq buf p nameSnc = true
  · rw [if_pos hn'] at h
    obtain ⟨hf, h⟩ := Option.ite_none_left_eq_some.1 h
    cases h
    exact ⟨Bool.eq_false_iff.2 hf, hn', trivial⟩
  rw [if_neg hn'] at h
  cases h

/-! ### the invariant of the parameter loop -/

def names (l : List Item) : List PName := l.map (·.name)

structure PInv (buf : Bytes) (e : Ext) (fl : Flags) : Prop where
  acc : e.accepted = false
  lenB : e.resp.length ≤ budget fl
  hw : e.hiWater ≤ responseMax
  rng : 8 ≤ e.cmw ∧ e.cmw ≤ 15 ∧ 8 ≤ e.smw ∧ e.smw ≤ 15
  resp : e.resp = extName ++ renderItems e.items
  legal : ∀ it ∈ e.items, Legal buf e.offers it
  /-- each name at most once, and only names whose flag is set -/
  cnt : ∀ n, (names e.items).count n ≤ (fl.get n).toNat
  nosmw : fl.get .smw = false → ∀ p N, Offer.smw p N ∉ e.offers

theorem legal_offers_append {offers os : List Offer} {it : Item} (h : Legal buf offers it) (hs : it.name = .smw → ∀ p N, Offer.smw p N ∉ os) :
    Legal buf (offers ++ os) it := by
  unfold Legal at h ⊢
  cases hn : it.name <;> simp only [hn] at h ⊢
  · obtain ⟨h1, h2, p, ov, hm, hr⟩ := h
    exact ⟨h1, h2, p, ov, List.mem_append_left _ hm, hr⟩
  · exact ⟨h.1, h.2.1, fun p N hm => (List.mem_append.1 hm).elim (h.2.2 p N) fun hm => absurd hm (hs hn p N)⟩
  · exact h
  · exact h

theorem renderItems_append (l : List Item) (it : Item) :
    renderItems (l ++ [it]) = renderItems l ++ renderItem it.name it.value := by
  simp [renderItems]

theorem count_names_append (l : List Item) (n : PName) (v : Nat) (m : PName) :
    (names (l ++ [⟨n, v⟩])).count m = (names l).count m + (if n = m then 1 else 0) := by
  simp [names, List.count_singleton]

theorem flags_get_set (fl : Flags) (n m : PName) : (fl.set n).get m = (if n = m then true else fl.get m) := by
  cases n <;> cases m <;> rfl

theorem count_zero_not_mem (l : List Item) (n : PName) (h : (names l).count n = 0) :
    ∀ it ∈ l, it.name ≠ n :=
  fun _ hit hn => List.count_eq_zero.1 h (hn ▸ List.mem_map_of_mem hit)

/-- One more parameter `n` (value `v`) in the response, answering the offers `os`, while the flag of `n` was still
    clear.  `e'` is any state with the fields `writeToResponse` produces, so that this fits every arm of `applyAction`
    (which also sets the window or the takeover flag) and the parameters the server adds by itself (`os = []`). -/
theorem PInv.step {e' : Ext} (hP : PInv buf e fl) (n : PName) {v : Nat} (os : List Offer)
    (hf : fl.get n = false) (hacc : e'.accepted = false)
    (hresp : e'.resp = e.resp ++ renderItem n v)
    (hhw : e'.hiWater = max e.hiWater (e.resp.length + (renderItem n v).length))
    (hitems : e'.items = e.items ++ [⟨n, v⟩]) (hoff : e'.offers = e.offers ++ os)
    (hrng : 8 ≤ e'.cmw ∧ e'.cmw ≤ 15 ∧ 8 ≤ e'.smw ∧ e'.smw ≤ 15)
    (hv : n = .cmw ∨ n = .smw ∨ v = 0) (hos : n ≠ .smw → ∀ q N, Offer.smw q N ∉ os)
    (hl : Legal buf e'.offers ⟨n, v⟩) : PInv buf e' (fl.set n) := by
  have hlen := renderItem_length n v hv
  have hb := budget_set fl n hf
  have hB := budget_le (fl.set n)
  have hlB := hP.lenB
  have h0 : (names e.items).count n = 0 := by have := hP.cnt n; rw [hf] at this; exact Nat.le_zero.1 this
  refine ⟨hacc, ?_, ?_, hrng, ?_, ?_, ?_, ?_⟩
  · rw [hresp, List.length_append]; omega
  · have := hP.hw
    rw [hhw]; omega
  · rw [hresp, hitems, renderItems_append, hP.resp, List.append_assoc]
  · intro it hit
    rw [hitems] at hit
    rcases List.mem_append.1 hit with h | h
    · -- an older parameter: it is not `n`, whose flag was clear
      rw [hoff]
      refine legal_offers_append (hP.legal it h) fun hn => hos fun hns => ?_
      exact count_zero_not_mem _ n h0 it h (hn.trans hns.symm)
    · rw [List.mem_singleton.1 h]; exact hl
  · intro m
    have := hP.cnt m
    rw [hitems, count_names_append, flags_get_set]
    split
    · next h => subst h; exact Nat.le_of_eq (congrArg (· + 1) h0)
    · exact this
  · intro hs q N hm
    rw [flags_get_set] at hs
    split at hs
    · cases hs
    · next hns => rw [hoff] at hm; exact (List.mem_append.1 hm).elim (hP.nosmw hs q N) (hos hns q N)

theorem clamp_spec {w t : Nat} (hw : 8 ≤ w ∧ w ≤ 15) (ht : 8 ≤ t ∧ t ≤ 15) :
    8 ≤ (if w > t then t else w) ∧ (if w > t then t else w) ≤ 15 ∧ (if w > t then t else w) ≤ t := by
  split <;> omega

/-- one turn of the parameter loop keeps the invariant -/
theorem pinv_apply {a : Action} (hP : PInv buf e fl) (hc : classify buf fl p l = some a) :
    PInv buf (applyAction e fl p a).1 (applyAction e fl p a).2 := by
  obtain ⟨hflag, hm, hv⟩ := classify_some hc
  have hr := hP.rng
  cases a with
  | cmw ov =>
    -- the window becomes the smaller of the server's and the offered one, if one was offered
    have hc : 8 ≤ (applyAction e fl p (.cmw ov)).1.cmw ∧ (applyAction e fl p (.cmw ov)).1.cmw ≤ 15 ∧
        ∀ N, ov = some N → (applyAction e fl p (.cmw ov)).1.cmw ≤ N ∧ spelled buf (p + nameCmw.length) N := by
      cases ov with
      | none => exact ⟨hr.1, hr.2.1, nofun⟩
      | some t =>
        obtain ⟨t8, t15, tsp⟩ := cmwValue_some hv
        obtain ⟨c8, c15, ct⟩ := clamp_spec ⟨hr.1, hr.2.1⟩ ⟨t8, t15⟩
        exact ⟨c8, c15, fun N h => by cases h; exact ⟨ct, tsp⟩⟩
    exact hP.step .cmw [.cmw p ov] hflag hP.acc rfl rfl rfl rfl ⟨hc.1, hc.2.1, hr.2.2⟩ (.inl rfl) (by simp)
      ⟨hc.1, hc.2.1, p, ov, List.mem_append_right _ (.head _), hm, hc.2.2⟩
  | smw t =>
    obtain ⟨t8, t15, tsp⟩ := smwValue_some hv
    obtain ⟨c8, c15, ct⟩ := clamp_spec hr.2.2 ⟨t8, t15⟩
    refine hP.step .smw [.smw p t] hflag hP.acc rfl rfl rfl rfl ⟨hr.1, hr.2.1, c8, c15⟩ (.inr (.inl rfl))
      (fun h => absurd rfl h) ⟨c8, c15, fun q N hmem => ?_⟩
    -- the only offer of the server window so far is this one
    rcases List.mem_append.1 hmem with h | h
    · exact absurd h (hP.nosmw hflag q N)
    · cases List.mem_singleton.1 h
      exact ⟨ct, hm, tsp⟩
  | cnc =>
    exact hP.step .cnc [.cnc p] hflag hP.acc rfl rfl rfl rfl hr (.inr (.inr rfl)) (by simp) rfl
  | snc =>
    exact hP.step .snc [.snc p] hflag hP.acc rfl rfl rfl rfl hr (.inr (.inr rfl)) (by simp) rfl

/-- what holds of a state the parameter loop left by `return` (or that was never touched): the response
    buffer was never overrun and the window sizes are in range -/
structure Loose (e : Ext) : Prop where
  hw : e.hiWater ≤ responseMax
  rng : 8 ≤ e.cmw ∧ e.cmw ≤ 15 ∧ 8 ≤ e.smw ∧ e.smw ≤ 15

theorem PInv.loose (h : PInv buf e fl) : Loose e := ⟨h.hw, h.rng⟩

theorem PInv.once (h : PInv buf e fl) (n : PName) : (names e.items).count n ≤ 1 :=
  Nat.le_trans (h.cnt n) (Bool.toNat_le _)

theorem paramLoop_inv (ps : List (Nat × Nat)) (hP : PInv buf e fl) :
    match paramLoop buf e fl ps with
    | (e', none) => Loose e' ∧ e'.accepted = false
    | (e', some fl') => PInv buf e' fl' := by
  induction ps generalizing e fl with
  | nil => exact hP
  | cons q rest ih =>
    rw [paramLoop]
    cases hc : classify buf fl q.1 q.2 with
    | none => exact ⟨hP.loose, hP.acc⟩
    | some a => exact ih (pinv_apply hP hc)

theorem paramLoop_elemStart {ps : List (Nat × Nat)} :
    (paramLoop buf e fl ps).1.elemStart = e.elemStart := by
  induction ps generalizing e fl with
  | nil => rfl
  | cons q rest ih =>
    obtain ⟨p, l⟩ := q
    simp only [paramLoop]
    cases hc : classify buf fl p l with
    | none => rfl
    | some a =>
      rw [ih]
      cases a <;> rfl

/-- an accepted state: everything the property says about the response -/
structure Accepted (buf : Bytes) (e : Ext) : Prop where
  hw : e.hiWater ≤ responseMax
  len : e.resp.length + 1 ≤ responseMax
  rng : 8 ≤ e.cmw ∧ e.cmw ≤ 15 ∧ 8 ≤ e.smw ∧ e.smw ≤ 15
  resp : e.resp = extName ++ renderItems e.items
  legal : ∀ it ∈ e.items, Legal buf e.offers it
  once : ∀ n, (names e.items).count n ≤ 1
  smwOk : e.smw ≠ smwUnsupported

theorem finCmw_inv (hP : PInv buf e fl) : PInv buf (finCmw e fl) fl := by
  unfold finCmw
  split
  · exact { hP with rng := ⟨(by decide : 8 ≤ cmwDefault), (by decide : cmwDefault ≤ 15), hP.rng.2.2⟩ }
  · exact hP

/-- A parameter the server adds by itself when the client did not offer it (`fl0` = the flags behind the loop,
    which agree with the flags of the invariant on the names not yet dealt with). -/
theorem PInv.addIf (hP : PInv buf e fl) (fl0 : Flags) (n : PName) (v : Nat)
    (c : Bool) (hs : fl.get n = fl0.get n) (hv : n = .cmw ∨ n = .smw ∨ v = 0)
    (hl : fl.get n = false → Legal buf e.offers ⟨n, v⟩) :
    ∃ fl', PInv buf (if (!fl0.get n && c) = true then writeToResponse e n v else e) fl' ∧
      ∀ m, m ≠ n → fl'.get m = fl.get m := by
  by_cases hc : (!fl0.get n && c) = true
  · have hf : fl.get n = false := by
      rw [hs]; revert hc; cases fl0.get n <;> simp
    rw [if_pos hc]
    exact ⟨fl.set n, hP.step n [] hf hP.acc rfl rfl rfl (List.append_nil _).symm hP.rng hv
      (fun _ _ _ h => nomatch h) (hl hf), fun m hm => by rw [flags_get_set, if_neg (Ne.symm hm)]⟩
  · rw [if_neg hc]
    exact ⟨fl, hP, fun _ _ => rfl⟩

theorem finAccept_accepted (hP : PInv buf e fl) :
    Accepted buf (finAccept e) := by
  have hB := budget_le fl
  have hl := hP.lenB
  have hw := hP.hw
  have hmax : max e.hiWater (e.resp.length + 1) ≤ responseMax := by omega
  have hlen : e.resp.length + 1 ≤ responseMax := by omega
  unfold finAccept
  split
  · exact ⟨hmax, hlen, ⟨hP.rng.1, hP.rng.2.1, (by decide : 8 ≤ smwReplacement), (by decide : smwReplacement ≤ 15)⟩,
      hP.resp, hP.legal, hP.once, (by decide : smwReplacement ≠ smwUnsupported)⟩
  · next hne => exact ⟨hmax, hlen, hP.rng, hP.resp, hP.legal, hP.once, fun h => hne (by rw [h]; rfl)⟩

theorem finalize_elemStart (e : Ext) (fl : Flags) : (finalize e fl).elemStart = e.elemStart := by
  simp only [finalize, finAccept, finSnc, finCnc, finSmw, finCmw, writeToResponse, apply_ite Ext.elemStart, ite_self]

theorem finalize_accepted (hP : PInv buf e fl) :
    Accepted buf (finalize e fl) := by
  have h1 := finCmw_inv hP
  -- the server window: no offer of it was seen, so any value in range is legal
  obtain ⟨fl2, h2, g2⟩ := h1.addIf fl .smw (finCmw e fl).smw (decide ((finCmw e fl).smw < smwAnnounceBelow)) rfl
    (.inr (.inl rfl)) fun hf => ⟨h1.rng.2.2.1, h1.rng.2.2.2, fun p N hm => absurd hm (h1.nosmw hf p N)⟩
  obtain ⟨fl3, h3, g3⟩ := h2.addIf fl .cnc 0 (finSmw (finCmw e fl) fl).cnc (g2 .cnc (by decide))
    (.inr (.inr rfl)) fun _ => rfl
  obtain ⟨fl4, h4, -⟩ := h3.addIf fl .snc 0 (finCnc (finSmw (finCmw e fl) fl) fl).snc
    ((g3 .snc (by decide)).trans (g2 .snc (by decide))) (.inr (.inr rfl)) fun _ => rfl
  exact finAccept_accepted h4

/-! ### one element, the whole header value -/

/-- what holds of the negotiation state between elements -/
def Between (mem : Bytes) (e : Ext) : Prop :=
  Loose e ∧ (e.accepted = true → Accepted (mem.drop e.elemStart) e)

theorem pinv_restart (buf : Bytes) (at_ : Nat) (hacc : e.accepted = false) (h : Loose e) :
    PInv buf { e with resp := extName, items := [], offers := [], elemStart := at_,
                      hiWater := max e.hiWater extName.length } ⟨false, false, false, false⟩ where
  acc := hacc
  lenB := Nat.le_refl _
  hw := by
    have := h.hw
    have : extName.length ≤ responseMax := by decide
    show max e.hiWater extName.length ≤ responseMax
    omega
  rng := h.rng
  resp := (List.append_nil _).symm
  legal := nofun
  cnt := fun _ => Nat.zero_le _
  nosmw := fun _ _ _ => nofun

theorem fill_between (mem : Bytes) (e : Ext) (start n : Nat) (h : Between mem e) :
    Between mem (fill e (mem.drop start) n start) := by
  unfold fill
  split
  · exact h
  · next hna =>
    have hacc : e.accepted = false := by
      cases hh : e.accepted <;> simp [hh] at hna ⊢
    split
    · exact h
    · next sp _ =>
      split
      · -- the element names the extension: the response is restarted
        have hl := paramLoop_inv sp.params (pinv_restart (mem.drop start) start hacc h.1)
        split
        · next e' heq =>
          rw [heq] at hl
          exact ⟨hl.1, fun ha => by rw [hl.2] at ha; cases ha⟩
        · next e' fl' heq =>
          rw [heq] at hl
          have hes : e'.elemStart = start :=
            (congrArg (·.1.elemStart) heq).symm.trans paramLoop_elemStart
          have ha := finalize_accepted hl
          refine ⟨⟨ha.hw, ha.rng⟩, fun _ => ?_⟩
          rw [finalize_elemStart, hes]
          exact ha
      · exact h

/-- `scanComma` stays inside the element -/
theorem scanComma_le (mem : Bytes) (start n : Nat) : scanComma mem start n ≤ n := by
  induction n generalizing start with
  | zero => simp [scanComma]
  | succ k ih =>
    simp only [scanComma]
    split
    · omega
    · have := ih (start + 1); omega

theorem extLoop_between (mem : Bytes) (fuel start length : Nat) (e : Ext) (h : Between mem e) :
    Between mem (extLoop mem fuel start length e) := by
  induction fuel generalizing start length e with
  | zero => exact h
  | succ k ih =>
    simp only [extLoop]
    split
    · exact h
    · split
      · split
        · exact ih _ _ _ (fill_between mem e start _ h)
        · exact fill_between mem e start _ h
      · exact ih _ _ _ h

theorem init_loose (level : Nat) (hl : level < 4) : Loose (Ext.init level) := by
  have : level = 0 ∨ level = 1 ∨ level = 2 ∨ level = 3 := by omega
  rcases this with h | h | h | h <;> subst h <;> exact ⟨by decide, by decide⟩

theorem negotiate_between (level : Nat) (hl : level < 4) (mem : Bytes) (length : Nat) :
    Between mem (negotiate level mem length) := by
  unfold negotiate checkExtensions
  exact extLoop_between mem _ _ _ _ ⟨init_loose level hl, fun h => by simp [Ext.init] at h⟩

end Cjet.Deflate
