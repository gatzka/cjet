/-
  DaemonC03SetCall — `set_or_call` split into its checks and its routing core.

  `routeChecks` runs the tests that precede `alloc_routing_request` on the state alone and yields
  the refusal or what passed (`Checks` says the same as a proposition); `routeCore` is the rest of
  the function (id generation, value/args, timeout, table insertion, timer, send).
  `setOrCall_eq` is the only place where `setOrCall` is unfolded.
-/
import Cjet.Lemmas.DaemonC03Basic

namespace Cjet.Daemon.C03

open Cjet Cjet.Json Cjet.Daemon

/-- the id of a request that can be routed: a string, a number, or none at all -/
def idOk : Option Json → Bool
  | some (.str _) => true
  | some (.num _) => true
  | none => true
  | _ => false

/-- the tests of `set_or_call` in front of `alloc_routing_request` -/
structure Checks (cfg : Config) (s : State) (p : Peer) (req : Json) (isState : Bool)
    (params : Json) (path : Bytes) (e : Element) : Prop where
  pp : getParamsAndPath req = .ok params path
  el : findElement s path = some e
  nfo : e.fetchOnly = false
  kind : isState = e.value.isSome
  acc : (if isState then hasAccess cfg e.setGroups p.setGroups else hasAccess cfg e.callGroups p.callGroups) = true
  id : idOk (req.getItem (k "id")) = true

def routeChecks (cfg : Config) (s : State) (p : Peer) (req : Json) (isState : Bool) :
    Except (Option Json) (Json × Bytes × Element) :=
  match getParamsAndPath req with
  | .err r => .error r
  | .ok params path =>
    match findElement s path with
    | none => .error (errorFromRequest req INVALID_PARAMS "not exists" path)
    | some e =>
      if e.fetchOnly then .error (errorFromRequest req INVALID_PARAMS "fetchOnly" path)
      else if isState != e.value.isSome then
        .error (errorFromRequest req INVALID_PARAMS "set/call on element not possible" path)
      else if !(if isState then hasAccess cfg e.setGroups p.setGroups else hasAccess cfg e.callGroups p.callGroups) then
        .error (errorFromRequest req INVALID_PARAMS "request not authorized" path)
      else if idOk (req.getItem (k "id")) then .ok (params, path, e)
      else .error (errorFromRequest req INVALID_PARAMS "request id is neither string nor number" path)

/-- the value of a set / the arguments of a call -/
def reqValue (isState : Bool) (params : Json) : Option Json :=
  if isState then params.getItem (k "value") else params.getItem (k "args")

/-- the routing entry `alloc_routing_request` + `setup_routing_information` build -/
def newRoute (x : Ctx) (p : Peer) (req : Json) (e : Element) : Route :=
  { rid := routedId (req.getItem (k "id")) x.st.uuid p.addrTok, requester := p.conn, owner := e.owner,
    originId := req.getItem (k "id"), timer := x.st.nextTimer }

/-- the context after the id was generated -/
def ticked (x : Ctx) : Ctx := { x with st := { x.st with uuid := (x.st.uuid + 1) % 4294967296 } }

/-- the context after the timer was created -/
def timed (x : Ctx) : Ctx :=
  { x with st := { x.st with uuid := (x.st.uuid + 1) % 4294967296, nextTimer := x.st.nextTimer + 1 } }

/-- entry stored, timer armed -/
def stored (x : Ctx) (r : Route) (tns : Nat) : Ctx :=
  emit { x with st := { x.st with
      uuid := (x.st.uuid + 1) % 4294967296, nextTimer := x.st.nextTimer + 1,
      peers := updatePeer x.st.peers r.owner (fun q => { q with routes := q.routes ++ [r] }) } }
    (.timerArm r.timer tns)

/-- `set_or_call` from `alloc_routing_request` on -/
def routeCore (cfg : Config) (x : Ctx) (p : Peer) (req : Json) (isState : Bool)
    (params : Json) (path : Bytes) (e : Element) : Ctx × Option Json :=
  let value := reqValue isState params
  if isState && value.isNone then
    (ticked x, errorFromRequest req INVALID_PARAMS "reason" (k "no value found"))
  else
    match getTimeout cfg (params.getItem (k "timeout")) e.timeoutNs with
    | .err reason => (ticked x, errorFromRequest req INVALID_PARAMS "reason" (k reason))
    | .ns tns =>
      if x.routeFull then
        ({ emit (timed x) (.timerDestroy x.st.nextTimer) with routeFull := false },
         errorFromRequest req INTERNAL_ERROR "reason" (k "routing table full"))
      else
        let r := newRoute x p req e
        let y := send (stored x r tns) e.owner (routedMessage r.rid path isState value)
        if y.2 then (y.1, none)
        else
          (emit { y.1 with st := { y.1.st with peers := removeRoute y.1.st.peers e.owner r.rid } }
              (.timerDestroy x.st.nextTimer),
           errorFromRequest req INTERNAL_ERROR "reason" (k "could not send routing information"))

/-- proved check by check, so that no step sees more than one decision -/
theorem setOrCall_eq (cfg : Config) (x : Ctx) (p : Peer) (req : Json) (isState : Bool) :
    setOrCall cfg x p req isState =
      match routeChecks cfg x.st p req isState with
      | .error r => (x, r)
      | .ok (params, path, e) => routeCore cfg x p req isState params path e := by
  unfold setOrCall routeChecks
  cases getParamsAndPath req with
  | err r => rfl
  | ok params path =>
    dsimp only
    cases findElement x.st path with
    | none => rfl
    | some e =>
      dsimp only
      cases e.fetchOnly with
      | true => rfl
      | false =>
        cases (isState != e.value.isSome) with
        | true => rfl
        | false =>
          cases (if isState then hasAccess cfg e.setGroups p.setGroups
              else hasAccess cfg e.callGroups p.callGroups) with
          | false => rfl
          | true =>
            simp only [Bool.false_eq_true, ↓reduceIte, Bool.not_true]
            unfold routeCore reqValue newRoute stored ticked timed
            cases req.getItem (k "id") with
            | none => rfl
            | some j => cases j <;> rfl

theorem routeChecks_ok_iff {cfg : Config} {s : State} {p : Peer} {req : Json} {isState : Bool}
    {params : Json} {path : Bytes} {e : Element} :
    routeChecks cfg s p req isState = .ok (params, path, e) ↔ Checks cfg s p req isState params path e := by
  constructor
  · intro h
    unfold routeChecks at h
    cases hpp : getParamsAndPath req with
    | err r => rw [hpp] at h; cases h
    | ok params' path' =>
      rw [hpp] at h
      dsimp only at h
      cases hel : findElement s path' with
      | none => rw [hel] at h; cases h
      | some e' =>
        rw [hel] at h
        dsimp only at h
        generalize hacc : (if isState then hasAccess cfg e'.setGroups p.setGroups
          else hasAccess cfg e'.callGroups p.callGroups) = acc at h
        cases hfo : e'.fetchOnly with
        | true => simp only [hfo, ↓reduceIte] at h; cases h
        | false =>
          cases hk : (isState != e'.value.isSome) with
          | true => simp only [hfo, hk, Bool.false_eq_true, ↓reduceIte] at h; cases h
          | false =>
            cases acc with
            | false => simp only [hfo, hk, Bool.false_eq_true, ↓reduceIte, Bool.not_false] at h; cases h
            | true =>
              cases hid : idOk (req.getItem (k "id")) with
              | false => simp only [hfo, hk, hid, Bool.false_eq_true, ↓reduceIte, Bool.not_true] at h; cases h
              | true =>
                simp only [hfo, hk, hid, Bool.false_eq_true, ↓reduceIte, Bool.not_true] at h
                cases h
                exact ⟨hpp, hel, hfo, by simpa using hk, hacc, hid⟩
  · intro h
    have hk : (isState != e.value.isSome) = false := by rw [← h.kind]; simp
    simp only [routeChecks, h.pp, h.el, h.nfo, hk, h.acc, h.id, Bool.false_eq_true, ↓reduceIte, Bool.not_true]

theorem routeChecks_error {cfg : Config} {s : State} {p : Peer} {req : Json} {isState : Bool} {r : Option Json}
    (h : routeChecks cfg s p req isState = .error r) :
    ∃ tag reason, r = errorFromRequest req INVALID_PARAMS tag reason := by
  revert h
  unfold routeChecks
  cases hpp : getParamsAndPath req with
  | err r' =>
    intro h
    cases h
    exact (getParamsAndPath_err hpp).elim fun reason hr => ⟨_, reason, hr⟩
  | ok params path =>
    dsimp only
    cases findElement s path with
    | none => intro h; cases h; exact ⟨_, _, rfl⟩
    | some e =>
      dsimp only
      cases e.fetchOnly with
      | true => intro h; cases h; exact ⟨_, _, rfl⟩
      | false =>
        cases (isState != e.value.isSome) with
        | true => intro h; cases h; exact ⟨_, _, rfl⟩
        | false =>
          cases (if isState then hasAccess cfg e.setGroups p.setGroups
              else hasAccess cfg e.callGroups p.callGroups) with
          | false => intro h; cases h; exact ⟨_, _, rfl⟩
          | true =>
            cases idOk (req.getItem (k "id")) with
            | true => intro h; cases h
            | false => intro h; cases h; exact ⟨_, _, rfl⟩

theorem routeChecks_congr {s s' : State} (h : ∀ path, findElement s' path = findElement s path) (cfg : Config)
    (p : Peer) (req : Json) (isState : Bool) : routeChecks cfg s' p req isState = routeChecks cfg s p req isState := by
  unfold routeChecks
  simp only [h]

theorem setOrCall_of_checks {cfg : Config} {x : Ctx} {p : Peer} {req : Json} {isState : Bool}
    {params : Json} {path : Bytes} {e : Element} (h : Checks cfg x.st p req isState params path e) :
    setOrCall cfg x p req isState = routeCore cfg x p req isState params path e := by
  rw [setOrCall_eq, routeChecks_ok_iff.2 h]

theorem setOrCall_refused_or_checks (cfg : Config) (s : State) (p : Peer) (req : Json) (isState : Bool) :
    (∃ tag reason, ∀ x : Ctx, x.st = s →
      setOrCall cfg x p req isState = (x, errorFromRequest req INVALID_PARAMS tag reason)) ∨
    ∃ params path e, Checks cfg s p req isState params path e := by
  cases h : routeChecks cfg s p req isState with
  | error r =>
    obtain ⟨tag, reason, rfl⟩ := routeChecks_error h
    exact Or.inl ⟨tag, reason, fun x hx => by rw [setOrCall_eq, hx, h]⟩
  | ok a => exact Or.inr ⟨a.1, a.2.1, a.2.2, routeChecks_ok_iff.1 h⟩

/-- `set_or_call` either refuses before it generates an id — the context is returned as it was —
    or passes its checks and continues as `routeCore`. -/
theorem setOrCall_cases (cfg : Config) (x : Ctx) (p : Peer) (req : Json) (isState : Bool) :
    (setOrCall cfg x p req isState).1 = x ∨
    ∃ params path e, Checks cfg x.st p req isState params path e :=
  (setOrCall_refused_or_checks cfg x.st p req isState).imp
    (fun ⟨_, _, h⟩ => by rw [h x rfl]) id

theorem routeCore_send {cfg : Config} {x : Ctx} {p : Peer} {req : Json} {isState : Bool} {params : Json}
    {path : Bytes} {e : Element} {tns : Nat} (hv : (isState && (reqValue isState params).isNone) = false)
    (ht : getTimeout cfg (params.getItem (k "timeout")) e.timeoutNs = .ns tns) (hrf : x.routeFull = false) :
    routeCore cfg x p req isState params path e =
      let r := newRoute x p req e
      let y := send (stored x r tns) e.owner (routedMessage r.rid path isState (reqValue isState params))
      if y.2 then (y.1, none)
      else
        (emit { y.1 with st := { y.1.st with peers := removeRoute y.1.st.peers e.owner r.rid } }
            (.timerDestroy x.st.nextTimer),
         errorFromRequest req INTERNAL_ERROR "reason" (k "could not send routing information")) := by
  unfold routeCore
  simp only [hv, ht, hrf, Bool.false_eq_true, ↓reduceIte]

theorem routeCore_cases (cfg : Config) (x : Ctx) (p : Peer) (req : Json) (isState : Bool) (params : Json)
    (path : Bytes) (e : Element) :
    (isState = true ∧ params.getItem (k "value") = none ∧ routeCore cfg x p req isState params path e =
        (ticked x, errorFromRequest req INVALID_PARAMS "reason" (k "no value found"))) ∨
    (∃ reason, getTimeout cfg (params.getItem (k "timeout")) e.timeoutNs = .err reason ∧
      routeCore cfg x p req isState params path e =
        (ticked x, errorFromRequest req INVALID_PARAMS "reason" (k reason))) ∨
    ∃ tns, getTimeout cfg (params.getItem (k "timeout")) e.timeoutNs = .ns tns ∧
      ((x.routeFull = true ∧ routeCore cfg x p req isState params path e =
          ({ emit (timed x) (.timerDestroy x.st.nextTimer) with routeFull := false },
           errorFromRequest req INTERNAL_ERROR "reason" (k "routing table full"))) ∨
       (x.routeFull = false ∧
        let y := (send (stored x (newRoute x p req e) tns) e.owner
          (routedMessage (newRoute x p req e).rid path isState (reqValue isState params))).1
        ((nextSend x = true ∧ routeCore cfg x p req isState params path e = (y, none)) ∨
         (nextSend x = false ∧ routeCore cfg x p req isState params path e =
            (emit { y with st := { y.st with peers := removeRoute y.st.peers e.owner (newRoute x p req e).rid } }
               (.timerDestroy x.st.nextTimer),
             errorFromRequest req INTERNAL_ERROR "reason" (k "could not send routing information")))))) := by
  unfold routeCore
  dsimp only
  cases hv : (isState && (reqValue isState params).isNone) with
  | true =>
    rw [Bool.and_eq_true] at hv
    refine Or.inl ⟨hv.1, ?_, rfl⟩
    simpa [reqValue, hv.1] using hv.2
  | false =>
    refine Or.inr ?_
    simp only [Bool.false_eq_true, ↓reduceIte]
    cases getTimeout cfg (params.getItem (k "timeout")) e.timeoutNs with
    | err reason => exact Or.inl ⟨reason, rfl, rfl⟩
    | ns tns =>
      refine Or.inr ⟨tns, rfl, ?_⟩
      cases x.routeFull with
      | true => exact Or.inl ⟨rfl, rfl⟩
      | false =>
        refine Or.inr ⟨rfl, ?_⟩
        simp only [Bool.false_eq_true, ↓reduceIte]
        rw [send_snd_eq, show (stored x (newRoute x p req e) tns).sends.headD true = nextSend x from rfl]
        cases nextSend x with
        | true => exact Or.inl ⟨rfl, rfl⟩
        | false => exact Or.inr ⟨rfl, rfl⟩

end Cjet.Daemon.C03
