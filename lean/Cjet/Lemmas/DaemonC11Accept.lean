/-
  Cjet.Lemmas.DaemonC11Accept — a small model of `accept_common` (src/linux/linux_io.c): the
  listening socket is readable, the daemon calls accept(2) in a loop.

  Input: the results of the successive accept calls (a descriptor, or an errno).  The list is the
  kernel's answers as far as they matter: when it is exhausted the next call finds nothing pending
  (EAGAIN).  Output: what the read handler returns to the event loop (continue / abort) and the
  descriptors handed to the peer function, in order.
-/

namespace Cjet.Daemon.C11.Accept

/-- errno values of accept(2); `other` stands for any value the switch does not name -/
inductive Errno
  | EAGAIN | EBADF | EINVAL | ENOTSOCK | EOPNOTSUPP | EFAULT | ECONNABORTED | EINTR
  | EMFILE | ENFILE | ENOBUFS | ENOMEM | EPROTO | EPERM | other (n : Nat)
  deriving DecidableEq, Repr

inductive Res
  | fd (n : Nat)
  | err (e : Errno)
  deriving DecidableEq, Repr

inductive LoopRet
  | continueLoop
  | abortLoop
  deriving DecidableEq, Repr

/-- `case EBADF: case EINVAL: case ENOTSOCK: case EOPNOTSUPP: case EFAULT:` — the listening
    socket itself is unusable -/
def unusable : Errno → Bool
  | .EBADF | .EINVAL | .ENOTSOCK | .EOPNOTSUPP | .EFAULT => true
  | _ => false

/-- `case ECONNABORTED: case EINTR:` — a single connection attempt failed -/
def retry : Errno → Bool
  | .ECONNABORTED | .EINTR => true
  | _ => false

/-- the repaired accept_common -/
def acceptCommon : List Res → LoopRet × List Nat
  | [] => (.continueLoop, [])
  | .fd n :: rest => ((acceptCommon rest).1, n :: (acceptCommon rest).2)
  | .err e :: rest =>
    if unusable e then (.abortLoop, [])
    else if retry e then acceptCommon rest
    else (.continueLoop, [])

/-- accept_common before the repair: every errno but EAGAIN/EWOULDBLOCK ended the event loop -/
def acceptOriginal : List Res → LoopRet × List Nat
  | [] => (.continueLoop, [])
  | .fd n :: rest => ((acceptOriginal rest).1, n :: (acceptOriginal rest).2)
  | .err e :: _ => if e = .EAGAIN then (.continueLoop, []) else (.abortLoop, [])

/-- the results consumed by the loop: everything up to and including the first errno that is
    not in the retry class -/
def consumed : List Res → List Res
  | [] => []
  | .fd n :: rest => .fd n :: consumed rest
  | .err e :: rest => if retry e then .err e :: consumed rest else [.err e]

/-- the descriptors among some results -/
def fdsOf : List Res → List Nat
  | [] => []
  | .fd n :: rest => n :: fdsOf rest
  | .err _ :: rest => fdsOf rest

theorem consumed_fd (n : Nat) (rest : List Res) : consumed (.fd n :: rest) = .fd n :: consumed rest := rfl
theorem consumed_err (e : Errno) (rest : List Res) :
    consumed (.err e :: rest) = if retry e then .err e :: consumed rest else [.err e] := rfl
theorem acceptCommon_fd (n : Nat) (rest : List Res) :
    acceptCommon (.fd n :: rest) = ((acceptCommon rest).1, n :: (acceptCommon rest).2) := rfl
theorem acceptCommon_err (e : Errno) (rest : List Res) :
    acceptCommon (.err e :: rest) =
      if unusable e then (.abortLoop, []) else if retry e then acceptCommon rest else (.continueLoop, []) := rfl

theorem retry_of_unusable {e : Errno} (h : unusable e = true) : retry e = false := by
  cases e <;> first | rfl | cases h

theorem accept_fds (rs : List Res) : (acceptCommon rs).2 = fdsOf (consumed rs) := by
  induction rs with
  | nil => rfl
  | cons r rest ih =>
    cases r with
    | fd n => rw [acceptCommon_fd, consumed_fd, fdsOf, ih]
    | err e =>
      rw [acceptCommon_err, consumed_err]
      cases hu : unusable e with
      | true => rw [retry_of_unusable hu]; rfl
      | false =>
        cases hr : retry e with
        | true => exact ih
        | false => rfl

theorem accept_abort_iff (rs : List Res) :
    (acceptCommon rs).1 = .abortLoop ↔ ∃ e, (consumed rs).getLast? = some (.err e) ∧ unusable e = true := by
  -- a result in front of a loop that goes on changes neither the verdict nor the last result consumed
  have step : ∀ (r : Res) (rest : List Res), (∀ e, r = .err e → unusable e = false) →
      ((acceptCommon rest).1 = .abortLoop ↔ ∃ e, (consumed rest).getLast? = some (.err e) ∧ unusable e = true) →
      ((acceptCommon rest).1 = .abortLoop ↔
        ∃ e, (r :: consumed rest).getLast? = some (.err e) ∧ unusable e = true) := by
    intro r rest hr ih
    rw [List.getLast?_cons, ih]
    cases (consumed rest).getLast? with
    | some b => exact Iff.rfl
    | none =>
      refine ⟨fun ⟨_, h, _⟩ => (nomatch h), fun ⟨e, h, hu⟩ => ?_⟩
      rw [hr e (Option.some.inj h)] at hu
      cases hu
  induction rs with
  | nil => exact ⟨fun h => (nomatch h), fun ⟨_, h, _⟩ => nomatch h⟩
  | cons r rest ih =>
    cases r with
    | fd n => exact step _ rest (fun _ h => nomatch h) ih
    | err e =>
      rw [acceptCommon_err, consumed_err]
      cases hu : unusable e with
      | true =>
        rw [retry_of_unusable hu]
        exact ⟨fun _ => ⟨e, rfl, hu⟩, fun _ => rfl⟩
      | false =>
        cases hr : retry e with
        | true => exact step _ rest (fun _ h => Res.err.inj h ▸ hu) ih
        | false =>
          refine ⟨fun h => (nomatch h), fun ⟨e', h, hu'⟩ => ?_⟩
          rw [← Res.err.inj (Option.some.inj h), hu] at hu'
          cases hu'

/-- a retry-class errno never ends the loop: the rest of the results is processed as if it had
    not been there -/
theorem accept_skips_retry (pre rest : List Res) (e : Errno) (hpre : ∀ r ∈ pre, ∃ n, r = .fd n)
    (hr : retry e = true) :
    acceptCommon (pre ++ .err e :: rest) = acceptCommon (pre ++ rest) := by
  induction pre with
  | nil =>
    have hu : unusable e = false := by
      cases h : unusable e with
      | false => rfl
      | true => rw [retry_of_unusable h] at hr; cases hr
    rw [List.nil_append, acceptCommon_err, hu, hr]
    rfl
  | cons r pre ih =>
    obtain ⟨n, rfl⟩ := hpre r List.mem_cons_self
    rw [List.cons_append, List.cons_append, acceptCommon_fd, acceptCommon_fd,
      ih fun r hr' => hpre r (List.mem_cons_of_mem _ hr')]

end Cjet.Daemon.C11.Accept
