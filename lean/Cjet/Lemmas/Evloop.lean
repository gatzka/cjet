import Cjet.Evloop
/-!
Helper lemmas for `Cjet.Props.Evloop` (the epoll dispatcher).
-/
namespace Cjet.Evloop

/-! ### trace readers over `++` -/

theorem callsOf_append (a b : List TEv) : callsOf (a ++ b) = callsOf a ++ callsOf b := by
  induction a with
  | nil => rfl
  | cons e t ih => cases e <;> simp [callsOf, ih]

theorem removedIn_append (a b : List TEv) : removedIn (a ++ b) = removedIn a ++ removedIn b := by
  induction a with
  | nil => rfl
  | cons e t ih => cases e <;> simp [removedIn, ih]

theorem retsOf_append (a b : List TEv) : retsOf (a ++ b) = retsOf a ++ retsOf b := by
  induction a with
  | nil => rfl
  | cons e t ih => cases e <;> simp [retsOf, ih]

theorem mem_removedIn {x : Nat} {t : List TEv} : x ∈ removedIn t ↔ TEv.removed x ∈ t := by
  induction t with
  | nil => simp [removedIn]
  | cons e t ih => cases e <;> simp [removedIn, ih]

theorem mem_callsOf {x : Nat} {f : Fn} {t : List TEv} : (x, f) ∈ callsOf t ↔ TEv.call x f ∈ t := by
  induction t with
  | nil => simp [callsOf]
  | cons e t ih => cases e <;> simp [callsOf, ih]

theorem mem_retsOf {r : Ret} {t : List TEv} : r ∈ retsOf t ↔ TEv.ret r ∈ t := by
  induction t with
  | nil => simp [retsOf]
  | cons e t ih => cases e <;> simp [retsOf, ih]

theorem statusAfter_append (x : Nat) (s : Status) (a b : List TEv) :
    statusAfter x s (a ++ b) = statusAfter x (statusAfter x s a) b :=
  List.foldl_append

@[simp] theorem statusAfter_nil (x : Nat) (s : Status) : statusAfter x s [] = s := rfl

@[simp] theorem statusAfter_cons (x : Nat) (s : Status) (e : TEv) (t : List TEv) :
    statusAfter x s (e :: t) = statusAfter x (stepStatus x s e) t := rfl

theorem monX_append (x : Nat) (s : Status) (a b : List TEv) :
    monX x s (a ++ b) ↔ monX x s a ∧ monX x (statusAfter x s a) b := by
  induction a generalizing s with
  | nil => simp [monX]
  | cons e t ih => simp [monX, ih, and_assoc]

theorem monX_of_no_call {x : Nat} {t : List TEv} (h : ∀ f, TEv.call x f ∉ t) (s : Status) : monX x s t := by
  induction t generalizing s with
  | nil => trivial
  | cons e t ih =>
    exact ⟨fun f hf => absurd (hf ▸ List.mem_cons_self) (h f), ih (fun f hm => h f (List.mem_cons_of_mem _ hm)) _⟩

/-- Events that are neither calls nor status changes. -/
def Quiet : TEv → Prop
  | .call _ _ => False
  | .removed _ => False
  | .added _ _ => False
  | .harvest _ => False
  | _ => True

theorem stepStatus_quiet {x : Nat} {s : Status} {e : TEv} (h : Quiet e) : stepStatus x s e = s := by
  cases e <;> simp_all [Quiet, stepStatus]

/-! ### the actions of a callback -/

/-- An action trace holds only `removed`, `added`, `stop`. -/
def ActEv : TEv → Prop
  | .removed _ => True
  | .added _ _ => True
  | .stop => True
  | _ => False

theorem runActs_actEv (P : Params) (acts : List Act) (L : Loop) :
    ∀ e ∈ (runActs P acts L).2, ActEv e := by
  induction acts generalizing L with
  | nil => simp [runActs]
  | cons a as ih =>
    cases a <;> simp only [runActs, List.mem_cons, forall_eq_or_imp] <;>
      exact ⟨trivial, ih _⟩

theorem callsOf_of_actEv {t : List TEv} (h : ∀ e ∈ t, ActEv e) : callsOf t = [] :=
  List.eq_nil_iff_forall_not_mem.2 fun _ hm => h _ (mem_callsOf.1 hm)

theorem retsOf_of_actEv {t : List TEv} (h : ∀ e ∈ t, ActEv e) : retsOf t = [] :=
  List.eq_nil_iff_forall_not_mem.2 fun _ hm => h _ (mem_retsOf.1 hm)

/-! ### closed form of what callbacks do to the harvested array and to `current_ev` -/

/-- An array entry after the ids `rs` have been removed. -/
def nullBy (nulling : Bool) (rs : List Nat) (e : Entry) : Entry :=
  match e.ev with
  | some x => if nulling && rs.contains x then ⟨none, e.mask⟩ else e
  | none => e

/-- `current_ev` after the ids `rs` have been removed. -/
def curBy (rs : List Nat) (c : Option Nat) : Option Nat := c.filter fun x => !rs.contains x

theorem nullBy_nil (b : Bool) (e : Entry) : nullBy b [] e = e := by
  unfold nullBy; cases h : e.ev <;> simp

theorem nullBy_false (rs : List Nat) (e : Entry) : nullBy false rs e = e := by
  unfold nullBy; cases h : e.ev <;> simp

theorem map_nullBy_nil (b : Bool) (es : List Entry) : es.map (nullBy b []) = es := by
  simp [funext (nullBy_nil b)]

theorem curBy_nil (c : Option Nat) : curBy [] c = c := by
  cases c <;> simp [curBy]

theorem nullBy_mask (b : Bool) (rs : List Nat) (e : Entry) : (nullBy b rs e).mask = e.mask := by
  unfold nullBy; split
  · split <;> rfl
  · rfl

theorem nullBy_ev_some {b : Bool} {rs : List Nat} {e : Entry} {x : Nat} :
    (nullBy b rs e).ev = some x ↔ e.ev = some x ∧ ¬ (b = true ∧ x ∈ rs) := by
  obtain ⟨_ | y, m⟩ := e
  · simp [nullBy]
  · simp only [nullBy, Bool.and_eq_true, List.contains_eq_mem, decide_eq_true_eq]
    split
    · rename_i h
      exact ⟨nofun, fun ⟨e, hn⟩ => absurd (Option.some.inj e ▸ h) hn⟩
    · rename_i h
      exact ⟨fun e => ⟨e, Option.some.inj e ▸ h⟩, And.left⟩

theorem curBy_eq_some {rs : List Nat} {c : Option Nat} {x : Nat} : curBy rs c = some x ↔ c = some x ∧ x ∉ rs := by
  simp [curBy]

theorem nullBy_nullBy (b : Bool) (r1 r2 : List Nat) (e : Entry) :
    nullBy b r2 (nullBy b r1 e) = nullBy b (r1 ++ r2) e := by
  obtain ⟨ev, m⟩ := e
  cases ev with
  | none => simp [nullBy]
  | some x =>
    cases b
    · simp [nullBy]
    · by_cases h1 : x ∈ r1
      · simp [nullBy, h1]
      · by_cases h2 : x ∈ r2 <;> simp [nullBy, h1, h2]

theorem map_nullBy_nullBy (b : Bool) (r1 r2 : List Nat) (es : List Entry) :
    (es.map (nullBy b r1)).map (nullBy b r2) = es.map (nullBy b (r1 ++ r2)) := by
  rw [List.map_map]; exact List.map_congr_left fun e _ => nullBy_nullBy b r1 r2 e

theorem curBy_curBy (r1 r2 : List Nat) (c : Option Nat) : curBy r2 (curBy r1 c) = curBy (r1 ++ r2) c := by
  simp [curBy, Option.filter_filter]

theorem nullify_eq (x : Nat) (es : List Entry) : nullify x es = es.map (nullBy true [x]) := by
  unfold nullify
  apply List.map_congr_left
  intro e _
  obtain ⟨ev, m⟩ := e
  cases ev with
  | none => simp [nullBy]
  | some y => by_cases h : y = x <;> simp [nullBy, h]

theorem removeEv_todo (P : Params) (x : Nat) (L : Loop) :
    (removeEv P x L).todo = L.todo.map (nullBy P.nulling [x]) := by
  unfold removeEv
  cases h : P.nulling
  · simp [funext (nullBy_false [x])]
  · simp [nullify_eq]

theorem removeEv_current (P : Params) (x : Nat) (L : Loop) :
    (removeEv P x L).current = curBy [x] L.current := by
  unfold removeEv
  cases hc : L.current with
  | none => simp [curBy]
  | some y => by_cases h : y = x <;> simp [curBy, Option.filter, h]

theorem addEv_todo (x : Nat) (ok : Bool) (L : Loop) : (addEv x ok L).1.todo = L.todo := by
  unfold addEv; split <;> rfl

theorem addEv_current (x : Nat) (ok : Bool) (L : Loop) : (addEv x ok L).1.current = L.current := by
  unfold addEv; split <;> rfl

theorem runActs_todo (P : Params) (acts : List Act) (L : Loop) :
    (runActs P acts L).1.todo = L.todo.map (nullBy P.nulling (removedIn (runActs P acts L).2)) := by
  induction acts generalizing L with
  | nil => simp [runActs, removedIn, map_nullBy_nil]
  | cons a as ih =>
    cases a <;> simp only [runActs, removedIn] <;> rw [ih]
    · rw [removeEv_todo, map_nullBy_nullBy]; rfl
    · rw [addEv_todo]

theorem runActs_current (P : Params) (acts : List Act) (L : Loop) :
    (runActs P acts L).1.current = curBy (removedIn (runActs P acts L).2) L.current := by
  induction acts generalizing L with
  | nil => simp [runActs, removedIn, curBy_nil]
  | cons a as ih =>
    cases a <;> simp only [runActs, removedIn] <;> rw [ih]
    · rw [removeEv_current, curBy_curBy]; rfl
    · rw [addEv_current]

/-! ### `callback` -/

theorem callback_trace (P : Params) (x : Nat) (f : Fn) (L : Loop) (sc : List Answer) :
    (callback P x f L sc).trace =
      .call x f :: ((runActs P (nextAnswer sc).1.acts L).2 ++
        [.snap (callback P x f L sc).loop, .ret (callback P x f L sc).ret]) := rfl

theorem callback_calls (P : Params) (x : Nat) (f : Fn) (L : Loop) (sc : List Answer) :
    callsOf (callback P x f L sc).trace = [(x, f)] := by
  rw [callback_trace]
  simp [callsOf, callsOf_append, callsOf_of_actEv (runActs_actEv P _ L)]

theorem callback_rets (P : Params) (x : Nat) (f : Fn) (L : Loop) (sc : List Answer) :
    retsOf (callback P x f L sc).trace = [(callback P x f L sc).ret] := by
  rw [callback_trace]
  simp [retsOf, retsOf_append, retsOf_of_actEv (runActs_actEv P _ L)]

theorem callback_removedIn (P : Params) (x : Nat) (f : Fn) (L : Loop) (sc : List Answer) :
    removedIn (callback P x f L sc).trace = removedIn (runActs P (nextAnswer sc).1.acts L).2 := by
  rw [callback_trace]
  simp [removedIn, removedIn_append]

theorem callback_current (P : Params) (x : Nat) (f : Fn) (L : Loop) (sc : List Answer) :
    (callback P x f L sc).loop.current = curBy (removedIn (callback P x f L sc).trace) L.current := by
  rw [callback_removedIn]
  exact runActs_current P _ L

/-! ### what every piece of an array entry's turn guarantees -/

/-- A trace either holds no abort, or ends with the one abort it holds. -/
def AbortShape (t : List TEv) (aborted : Bool) : Prop :=
  (aborted = false → Ret.abort ∉ retsOf t) ∧
  (aborted = true → ∃ pre, t = pre ++ [.ret .abort] ∧ Ret.abort ∉ retsOf pre)

theorem abortShape_nil : AbortShape [] false := ⟨fun _ => by simp [retsOf], fun h => by cases h⟩

theorem abortShape_append {t1 t2 : List TEv} {b : Bool} (h1 : Ret.abort ∉ retsOf t1) (h2 : AbortShape t2 b) :
    AbortShape (t1 ++ t2) b := by
  constructor
  · intro hb; rw [retsOf_append]; simp [h1, h2.1 hb]
  · intro hb
    obtain ⟨pre, hp, hn⟩ := h2.2 hb
    exact ⟨t1 ++ pre, by rw [hp]; simp, by rw [retsOf_append]; simp [h1, hn]⟩

/-- What a callback, the write part and a whole array entry each guarantee, in a form that composes (`Piece.append`);
    `todo` is the part of the array still to visit. -/
structure Piece (P : Params) (todo : List Entry) (t : List TEv) (L' : Loop) (ab : Bool) : Prop where
  todo : L'.todo = todo.map (nullBy P.nulling (removedIn t))
  noHarvest : ∀ b, TEv.harvest b ∉ t
  abort : AbortShape t ab

theorem Piece.nil (P : Params) (L : Loop) : Piece P L.todo [] L false :=
  ⟨(map_nullBy_nil ..).symm, fun _ => List.not_mem_nil, abortShape_nil⟩

theorem Piece.append {P : Params} {todo : List Entry} {t1 t2 : List TEv} {L1 L2 : Loop} {ab : Bool}
    (h1 : Piece P todo t1 L1 false) (h2 : Piece P L1.todo t2 L2 ab) : Piece P todo (t1 ++ t2) L2 ab where
  todo := by rw [h2.todo, h1.todo, map_nullBy_nullBy, removedIn_append]
  noHarvest b hm := (List.mem_append.1 hm).elim (h1.noHarvest b) (h2.noHarvest b)
  abort := abortShape_append (h1.abort.1 rfl) h2.abort

theorem callback_piece (P : Params) (x : Nat) (f : Fn) (L : Loop) (sc : List Answer) :
    Piece P L.todo (callback P x f L sc).trace (callback P x f L sc).loop ((callback P x f L sc).ret == .abort) where
  todo := by rw [callback_removedIn]; exact runActs_todo P _ L
  noHarvest b hm := by
    rw [callback_trace] at hm
    simp only [List.mem_cons, List.mem_append, reduceCtorEq, false_or, or_false, List.not_mem_nil] at hm
    exact runActs_actEv P _ L _ hm
  abort := by
    have hpre : retsOf (TEv.call x f :: ((runActs P (nextAnswer sc).1.acts L).2 ++
        [.snap (callback P x f L sc).loop])) = [] := by
      simp [retsOf, retsOf_append, retsOf_of_actEv (runActs_actEv P _ L)]
    constructor
    · intro hb; rw [callback_rets, List.mem_singleton]; exact fun h => by simp [← h] at hb
    · intro hb
      refine ⟨_, ?_, by rw [hpre]; simp⟩
      rw [callback_trace, ← (beq_iff_eq.1 hb)]; simp

theorem writePart_piece (P : Params) (x : Nat) (m : Mask) (L : Loop) (sc : List Answer) :
    Piece P L.todo (writePart P x m L sc).seg (writePart P x m L sc).loop (writePart P x m L sc).abort := by
  unfold writePart
  split
  · split
    · exact callback_piece P x .write L sc
    · exact Piece.nil P L
  · exact Piece.nil P L

theorem entry_piece (P : Params) (e : Entry) (L : Loop) (sc : List Answer) :
    Piece P L.todo (entry P e L sc).seg (entry P e L sc).loop (entry P e L sc).abort := by
  unfold entry
  split
  · exact Piece.nil P L
  · rename_i x _
    dsimp only
    split
    · exact callback_piece P x .error { L with current := some x } sc
    · split
      · have hc := callback_piece P x .read { L with current := some x } sc
        split <;> rename_i hret <;> rw [hret] at hc
        · exact hc
        · exact hc
        · exact hc.append (writePart_piece ..)
      · exact writePart_piece P x e.mask { L with current := some x } sc

theorem entry_none (P : Params) (e : Entry) (L : Loop) (sc : List Answer) (h : e.ev = none) :
    entry P e L sc = ⟨L, sc, [], false⟩ := by
  unfold entry; simp [h]

/-! ### what one array entry calls -/

theorem writePart_calls (P : Params) (x : Nat) (m : Mask) (L : Loop) (sc : List Answer) :
    callsOf (writePart P x m L sc).seg =
      if L.current.isSome && (isOut m && P.hasWrite x) then [(x, .write)] else [] := by
  unfold writePart
  by_cases h1 : L.current.isSome = true
  · by_cases h2 : (isOut m && P.hasWrite x) = true
    · simp only [h1, h2, if_true, Bool.and_self]; exact callback_calls P x .write L sc
    · simp [h1, h2, callsOf]
  · simp [h1, callsOf]

theorem writePart_rets (P : Params) (x : Nat) (m : Mask) (L : Loop) (sc : List Answer) :
    (retsOf (writePart P x m L sc).seg = [] ∧ (writePart P x m L sc).abort = false) ∨
    (∃ r, retsOf (writePart P x m L sc).seg = [r] ∧ (writePart P x m L sc).abort = (r == .abort)) := by
  unfold writePart
  split
  · split
    · exact Or.inr ⟨_, callback_rets P x .write L sc, rfl⟩
    · exact Or.inl ⟨rfl, rfl⟩
  · exact Or.inl ⟨rfl, rfl⟩

/-- The calls of one array entry: what the mask prescribes, cut short after the read function when
    that one did not return "continue" or removed the `io_event` itself. -/
theorem entry_calls (P : Params) (e : Entry) (L : Loop) (sc : List Answer) (x : Nat) (h : e.ev = some x) :
    callsOf (entry P e L sc).seg = prescribed P x e.mask ∨
    (isErr e.mask = false ∧ (isIn e.mask && P.hasRead x) = true ∧ callsOf (entry P e L sc).seg = [(x, .read)] ∧
      ((∃ r ∈ retsOf (entry P e L sc).seg, r ≠ .cont) ∨ x ∈ removedIn (entry P e L sc).seg)) := by
  unfold entry prescribed
  simp only [h]
  cases he : isErr e.mask with
  | true => simp only [if_true]; left; exact callback_calls P x .error _ sc
  | false =>
    simp only [Bool.false_eq_true, if_false]
    cases hr : (isIn e.mask && P.hasRead x) with
    | true =>
      simp only [if_true]
      generalize hc : callback P x Fn.read { L with current := some x } sc = c
      have hcalls : callsOf c.trace = [(x, .read)] := by rw [← hc]; exact callback_calls ..
      have hrets : retsOf c.trace = [c.ret] := by rw [← hc]; exact callback_rets ..
      have hcur : c.loop.current = curBy (removedIn c.trace) (some x) := by rw [← hc]; exact callback_current ..
      cases hret : c.ret with
      | abort => exact .inr ⟨trivial, trivial, hcalls, .inl ⟨.abort, by simp [hrets, hret], by simp⟩⟩
      | removed => exact .inr ⟨trivial, trivial, hcalls, .inl ⟨.removed, by simp [hrets, hret], by simp⟩⟩
      | cont =>
        dsimp only
        rw [callsOf_append, hcalls, writePart_calls, removedIn_append, hcur]
        by_cases hx : x ∈ removedIn c.trace
        · exact .inr ⟨trivial, trivial, by simp [curBy, hx], .inr (by simp [hx])⟩
        · left; simp [curBy, hx]
    | false =>
      simp only [Bool.false_eq_true, if_false]
      left
      rw [writePart_calls]
      simp

theorem prescribed_sublist (P : Params) (x : Nat) (m : Mask) :
    (prescribed P x m).Sublist [(x, .error), (x, .read), (x, .write)] := by
  unfold prescribed
  cases isErr m <;> cases (isIn m && P.hasRead x) <;> cases (isOut m && P.hasWrite x) <;> simp

/-- Whatever the callbacks do, one array entry calls functions of its `io_event` only, each at most
    once, and in the order error, read, write. -/
theorem entry_calls_sublist (P : Params) (e : Entry) (L : Loop) (sc : List Answer) (x : Nat) (h : e.ev = some x) :
    (callsOf (entry P e L sc).seg).Sublist [(x, .error), (x, .read), (x, .write)] := by
  rcases entry_calls P e L sc x h with h1 | ⟨_, _, h1, _⟩
  · rw [h1]; exact prescribed_sublist P x e.mask
  · rw [h1]; simp

theorem entry_calls_sublist' (P : Params) (e : Entry) (L : Loop) (sc : List Answer) :
    ∃ x, (callsOf (entry P e L sc).seg).Sublist [(x, .error), (x, .read), (x, .write)] := by
  cases h : e.ev with
  | none => exact ⟨0, by rw [entry_none _ _ _ _ h]; exact List.nil_sublist _⟩
  | some x => exact ⟨x, entry_calls_sublist P e L sc x h⟩

theorem fst_of_sublist {x : Nat} {l : List (Nat × Fn)} (h : l.Sublist [(x, .error), (x, .read), (x, .write)]) :
    ∀ c ∈ l, c.1 = x := fun c hc => by
  have := h.subset hc
  simp only [List.mem_cons, List.not_mem_nil, or_false] at this
  rcases this with rfl | rfl | rfl <;> rfl

/-! ### the status invariant: a removed `io_event` is out of reach of the dispatcher -/

/-- `x` is neither in the part of the array still to visit nor `current_ev`. -/
def Safe (x : Nat) (L : Loop) : Prop := (∀ e ∈ L.todo, e.ev ≠ some x) ∧ L.current ≠ some x

def Inv (x : Nat) (s : Status) (L : Loop) : Prop := (s = .dead → x ∉ L.reg) ∧ (s ≠ .ok → Safe x L)

theorem Inv.init (x : Nat) (L : Loop) : Inv x .ok L := ⟨nofun, fun h => absurd rfl h⟩

/-- Functions are only called for `current_ev`, so this is what licenses a call. -/
theorem Inv.ok_of_current {x : Nat} {s : Status} {L : Loop} (h : Inv x s L) (hc : L.current = some x) : s = .ok :=
  Decidable.byContradiction fun hs => (h.2 hs).2 hc

theorem Inv.pop {x : Nat} {s : Status} {L : Loop} {e : Entry} {rest : List Entry} (h : Inv x s L)
    (hL : L.todo = e :: rest) :
    Inv x s { L with done := L.done ++ [e], todo := rest } ∧ (e.ev = some x → s = .ok) :=
  ⟨⟨h.1, fun hs => ⟨fun e' he' => (h.2 hs).1 e' (hL ▸ List.mem_cons_of_mem _ he'), (h.2 hs).2⟩⟩,
   fun he => Decidable.byContradiction fun hs => (h.2 hs).1 e (hL ▸ List.mem_cons_self) he⟩

/-- `handle_events` withdraws the array. -/
theorem Inv.withdraw {x : Nat} {s : Status} {L : Loop} (h : Inv x s L) : Inv x s { L with done := [], todo := [] } :=
  ⟨h.1, fun hs => ⟨fun _ he => (nomatch he), (h.2 hs).2⟩⟩

theorem removeEv_inv (P : Params) (hn : P.nulling = true) (x y : Nat) (L : Loop) (s : Status)
    (h : Inv x s L) : Inv x (if y = x then .dead else s) (removeEv P y L) := by
  have hsafe : y = x ∨ Safe x L → Safe x (removeEv P y L) := by
    intro h'
    rw [Safe, removeEv_todo, removeEv_current, hn]
    refine ⟨fun e' he' hev => ?_, fun hc => ?_⟩
    · obtain ⟨e, he, rfl⟩ := List.mem_map.1 he'
      obtain ⟨h1, h2⟩ := nullBy_ev_some.1 hev
      exact h'.elim (fun e => h2 ⟨rfl, by simp [e]⟩) (fun hs => hs.1 e he h1)
    · obtain ⟨h1, h2⟩ := curBy_eq_some.1 hc
      exact h'.elim (fun e => h2 (by simp [e])) (fun hs => hs.2 h1)
  by_cases hxy : y = x
  · rw [if_pos hxy]
    exact ⟨fun _ hm => by simp [removeEv, hxy] at hm, fun _ => hsafe (.inl hxy)⟩
  · rw [if_neg hxy]
    exact ⟨fun hd hm => h.1 hd (List.mem_filter.1 hm).1, fun hs => hsafe (.inr (h.2 hs))⟩

theorem addEv_inv (x y : Nat) (ok : Bool) (L : Loop) (s : Status) (h : Inv x s L) :
    Inv x (stepStatus x s (.added y (addEv y ok L).2)) (addEv y ok L).1 := by
  unfold addEv
  split
  · -- the kernel accepted
    simp only [stepStatus]
    split
    · rename_i hc
      exact ⟨nofun, fun _ => h.2 (by rw [hc.2.2]; simp)⟩
    · rename_i hc
      refine ⟨fun hd hm => ?_, h.2⟩
      rcases List.mem_append.1 hm with hm | hm
      · exact h.1 hd hm
      · exact hc ⟨(List.mem_singleton.1 hm).symm, trivial, hd⟩
  · simpa [stepStatus] using h

theorem runActs_inv (P : Params) (hn : P.nulling = true) (x : Nat) (acts : List Act) (L : Loop) (s : Status)
    (h : Inv x s L) : Inv x (statusAfter x s (runActs P acts L).2) (runActs P acts L).1 := by
  induction acts generalizing L s with
  | nil => exact h
  | cons a as ih =>
    cases a with
    | remove y => exact ih _ _ (removeEv_inv P hn x y L s h)
    | add y ok => exact ih _ _ (addEv_inv x y ok L s h)
    | stop => exact ih _ _ h

theorem callback_inv (P : Params) (hn : P.nulling = true) (x x' : Nat) (f : Fn) (L : Loop) (sc : List Answer)
    (s : Status) (h : Inv x s L) (hc : L.current = some x') :
    monX x s (callback P x' f L sc).trace ∧
      Inv x (statusAfter x s (callback P x' f L sc).trace) (callback P x' f L sc).loop := by
  rw [callback_trace]
  constructor
  · refine ⟨fun f' hf => h.ok_of_current (by injection hf with e; rw [hc, e]), ?_⟩
    rw [monX_append]
    exact ⟨monX_of_no_call (fun _ hm => runActs_actEv P _ L _ hm) _, by simp [monX]⟩
  · simp only [statusAfter_cons, stepStatus, statusAfter_append, statusAfter_nil]
    exact runActs_inv P hn x _ L s h

theorem writePart_inv (P : Params) (hn : P.nulling = true) (x x' : Nat) (m : Mask) (L : Loop) (sc : List Answer)
    (s : Status) (h : Inv x s L) (hc : ∀ y, L.current = some y → y = x') :
    monX x s (writePart P x' m L sc).seg ∧
      Inv x (statusAfter x s (writePart P x' m L sc).seg) (writePart P x' m L sc).loop := by
  unfold writePart
  split
  · rename_i hsome
    obtain ⟨y, hy⟩ := Option.isSome_iff_exists.1 hsome
    split
    · exact callback_inv P hn x x' .write L sc s h (by rw [hy, hc y hy])
    · exact ⟨trivial, h⟩
  · exact ⟨trivial, h⟩

theorem entry_inv (P : Params) (hn : P.nulling = true) (x : Nat) (e : Entry) (L : Loop) (sc : List Answer)
    (s : Status) (h : Inv x s L) (hx : e.ev = some x → s = .ok) :
    monX x s (entry P e L sc).seg ∧ Inv x (statusAfter x s (entry P e L sc).seg) (entry P e L sc).loop := by
  unfold entry
  split
  · exact ⟨trivial, h⟩
  · rename_i x' he
    have h1 : Inv x s { L with current := some x' } :=
      ⟨h.1, fun hs => ⟨(h.2 hs).1, fun hc => hs (hx (he.trans hc))⟩⟩
    dsimp only
    split
    · exact callback_inv P hn x x' .error _ sc s h1 rfl
    · split
      · have hc := callback_inv P hn x x' .read { L with current := some x' } sc s h1 rfl
        split
        · exact hc
        · exact hc
        · dsimp only
          rw [monX_append, statusAfter_append]
          -- after the read function, `current_ev` is still this `io_event` or has been cleared
          have hw := writePart_inv P hn x x' e.mask _
            (callback P x' .read { L with current := some x' } sc).script _ hc.2 (fun y hy => by
              rw [callback_current] at hy
              exact (Option.some.inj (curBy_eq_some.1 hy).1).symm)
          exact ⟨⟨hc.1, hw.1⟩, hw.2⟩
      · exact writePart_inv P hn x x' e.mask _ sc s h1 (fun y hy => (Option.some.inj hy).symm)

/-! ### `dispatchLoop` -/

theorem dispatchLoop_inv (P : Params) (hn : P.nulling = true) (x : Nat) (n : Nat) (L : Loop) (sc : List Answer)
    (s : Status) (h : Inv x s L) :
    monX x s (dispatchLoop P n L sc).trace ∧
      Inv x (statusAfter x s (dispatchLoop P n L sc).trace) (dispatchLoop P n L sc).loop := by
  fun_induction dispatchLoop P n L sc generalizing s with
  | case1 | case2 => exact ⟨trivial, h⟩
  | case3 n L sc e rest hL r =>
    simpa [DispRes.trace] using entry_inv P hn x e _ sc s (h.pop hL).1 (h.pop hL).2
  | case4 n L sc e rest hL r _ d ih =>
    have he := entry_inv P hn x e _ sc s (h.pop hL).1 (h.pop hL).2
    simp only [DispRes.trace, List.flatten_cons] at ih ⊢
    rw [monX_append, statusAfter_append]
    exact ⟨⟨he.1, (ih _ he.2).1⟩, (ih _ he.2).2⟩

theorem dispatchLoop_segs_entry (P : Params) (n : Nat) (L : Loop) (sc : List Answer) :
    ∀ seg ∈ (dispatchLoop P n L sc).segs, ∃ e L' sc', seg = (entry P e L' sc').seg := by
  fun_induction dispatchLoop P n L sc with
  | case1 | case2 => simp
  | case3 => exact fun seg hs => ⟨_, _, _, List.mem_singleton.1 hs⟩
  | case4 _ _ _ _ _ _ _ _ _ ih => exact fun seg hs => (List.mem_cons.1 hs).elim (fun h => ⟨_, _, _, h⟩) (ih seg)

theorem dispatchLoop_length (P : Params) (n : Nat) (L : Loop) (sc : List Answer) (hn : n = L.todo.length) :
    (dispatchLoop P n L sc).segs.length ≤ n ∧
      ((dispatchLoop P n L sc).aborted = false → (dispatchLoop P n L sc).segs.length = n) := by
  fun_induction dispatchLoop P n L sc with
  | case1 => simp
  | case2 _ _ _ hL => simp [hL] at hn
  | case3 => simp
  | case4 n L sc e rest hL r _ d ih =>
    have : d.segs.length ≤ n ∧ (d.aborted = false → d.segs.length = n) :=
      ih (by rw [(entry_piece ..).todo, List.length_map]; simpa [hL] using hn)
    simp only [List.length_cons]
    exact ⟨by omega, fun h => by have := this.2 h; omega⟩

theorem dispatchLoop_seg_at (P : Params) (n : Nat) (L : Loop) (sc : List Answer) (i : Nat) (e : Entry)
    (seg : List TEv) (hi : L.todo[i]? = some e) (hs : (dispatchLoop P n L sc).segs[i]? = some seg) :
    ∃ L' sc', seg = (entry P
      (nullBy P.nulling (removedIn ((dispatchLoop P n L sc).segs.take i).flatten) e) L' sc').seg := by
  fun_induction dispatchLoop P n L sc generalizing i e with
  | case1 | case2 => simp at hs
  | case3 n L sc e' rest hL r =>
    rw [hL] at hi
    cases i with
    | zero =>
      simp only [List.getElem?_cons_zero, Option.some.injEq] at hi hs
      subst hi hs
      simp only [List.take_zero, List.flatten_nil, removedIn, nullBy_nil]
      exact ⟨_, _, rfl⟩
    | succ i => simp at hs
  | case4 n L sc e' rest hL r _ d ih =>
    rw [hL] at hi
    cases i with
    | zero =>
      simp only [List.getElem?_cons_zero, Option.some.injEq] at hi hs
      subst hi hs
      simp only [List.take_zero, List.flatten_nil, removedIn, nullBy_nil]
      exact ⟨_, _, rfl⟩
    | succ i =>
      simp only [List.getElem?_cons_succ] at hi hs
      obtain ⟨L', sc', h⟩ := ih i _ (by rw [(entry_piece ..).todo, List.getElem?_map, hi]; rfl) hs
      exact ⟨L', sc', by rw [h, nullBy_nullBy, List.take_succ_cons, List.flatten_cons, removedIn_append]⟩

/-- The segment of array position `i`: nothing if the `io_event` was removed by an earlier
    position (then the entry was nulled), otherwise one run of `entry` on the original entry. -/
theorem dispatchLoop_at (P : Params) (hn : P.nulling = true) (n : Nat) (L : Loop) (sc : List Answer) (i x : Nat)
    (m : Mask) (seg : List TEv) (hi : L.todo[i]? = some ⟨some x, m⟩)
    (hs : (dispatchLoop P n L sc).segs[i]? = some seg) :
    (x ∈ removedIn ((dispatchLoop P n L sc).segs.take i).flatten ∧ seg = []) ∨
      (x ∉ removedIn ((dispatchLoop P n L sc).segs.take i).flatten ∧
        ∃ L' sc', seg = (entry P ⟨some x, m⟩ L' sc').seg) := by
  obtain ⟨L', sc', h⟩ := dispatchLoop_seg_at P n L sc i _ seg hi hs
  by_cases hx : x ∈ removedIn ((dispatchLoop P n L sc).segs.take i).flatten
  · exact .inl ⟨hx, by rw [h, entry_none]; simp [nullBy, hn, hx]⟩
  · exact .inr ⟨hx, L', sc', by rw [h]; simp [nullBy, hx]⟩

theorem dispatchLoop_no_harvest (P : Params) (n : Nat) (L : Loop) (sc : List Answer) (b : List (Nat × Mask)) :
    TEv.harvest b ∉ (dispatchLoop P n L sc).trace := by
  intro hm
  obtain ⟨seg, hs, hb⟩ := List.mem_flatten.1 hm
  obtain ⟨e, L', sc', rfl⟩ := dispatchLoop_segs_entry P n L sc seg hs
  exact (entry_piece P e L' sc').noHarvest b hb

theorem dispatchLoop_abortShape (P : Params) (n : Nat) (L : Loop) (sc : List Answer) :
    AbortShape (dispatchLoop P n L sc).trace (dispatchLoop P n L sc).aborted := by
  fun_induction dispatchLoop P n L sc with
  | case1 | case2 => exact abortShape_nil
  | case3 n L sc e rest hL r hab =>
    have hr : AbortShape r.seg r.abort := (entry_piece ..).abort
    rw [hab] at hr
    simpa [DispRes.trace] using hr
  | case4 n L sc e rest hL r hab d ih =>
    simp only [DispRes.trace, List.flatten_cons]
    exact abortShape_append ((entry_piece P e _ sc).abort.1 (by simpa using hab)) ih

theorem dispatch_inv (P : Params) (hn : P.nulling = true) (x : Nat) (L : Loop) (sc : List Answer)
    (s : Status) (h : Inv x s L) :
    monX x s (dispatch P L sc).trace ∧
      Inv x (statusAfter x s (dispatch P L sc).trace) (dispatch P L sc).loop :=
  dispatchLoop_inv P hn x L.todo.length L sc s h

/-! ### `run` -/

theorem handleBatch_trace (P : Params) (b : List (Nat × Mask)) (L : Loop) (sc : List Answer) :
    (handleBatch P b L sc).trace =
      (dispatch P { L with done := [], todo := b.map fun p => ⟨some p.1, p.2⟩ } sc).trace := rfl

theorem handleBatch_abortShape (P : Params) (b : List (Nat × Mask)) (L : Loop) (sc : List Answer) :
    AbortShape (handleBatch P b L sc).trace (handleBatch P b L sc).aborted :=
  dispatchLoop_abortShape P _ _ sc

theorem mem_harvest {P : Params} {reg : List Nat} {ready : List (Nat × Mask)} {p : Nat × Mask}
    (h : p ∈ harvest P reg ready) : p.1 ∈ reg ∧ p ∈ ready := by
  have h' := List.mem_filter.1 (List.mem_of_mem_take h)
  exact ⟨by simpa using h'.2, h'.1⟩

/-- A harvest makes `stale` into `ok`: the new array holds registered ids only, and a `dead` one is not registered. -/
theorem handleBatch_inv (P : Params) (hn : P.nulling = true) (x : Nat) (b : List (Nat × Mask)) (L : Loop)
    (sc : List Answer) (s : Status) (h : Inv x s L) (hb : ∀ p ∈ b, p.1 ∈ L.reg) :
    monX x (stepStatus x s (.harvest b)) (handleBatch P b L sc).trace ∧
      Inv x (statusAfter x (stepStatus x s (.harvest b)) (handleBatch P b L sc).trace) (handleBatch P b L sc).loop := by
  have h1 : Inv x (stepStatus x s (.harvest b)) { L with done := [], todo := b.map fun p => ⟨some p.1, p.2⟩ } := by
    cases s with
    | ok => exact Inv.init x _
    | stale => exact Inv.init x _
    | dead =>
      refine ⟨fun _ => h.1 rfl, fun _ => ⟨fun e he hc => ?_, (h.2 (by simp)).2⟩⟩
      obtain ⟨p, hp, rfl⟩ := List.mem_map.1 he
      exact h.1 rfl (Option.some.inj hc ▸ hb p hp)
  have hd := dispatch_inv P hn x _ sc _ h1
  rw [handleBatch_trace]
  exact ⟨hd.1, hd.2.withdraw⟩

theorem run_inv (P : Params) (hn : P.nulling = true) (x : Nat) (ws : List Wait) (L : Loop) (sc : List Answer)
    (s : Status) (h : Inv x s L) : monX x s (run P ws L sc).trace := by
  fun_induction run P ws L sc generalizing s with
  | case1 | case2 | case3 | case5 => simp [monX]
  | case4 ws L sc _ r ih => exact ⟨by simp, ih s h⟩
  | case6 ws L sc _ ready b d _ =>
    exact ⟨by simp, (monX_append ..).2 ⟨(handleBatch_inv P hn x b L sc s h fun _ hp => (mem_harvest hp).1).1, by simp [monX]⟩⟩
  | case7 ws L sc _ ready b d _ r ih =>
    have hb := handleBatch_inv P hn x b L sc s h fun _ hp => (mem_harvest hp).1
    exact ⟨by simp, (monX_append ..).2 ⟨hb.1, ih _ hb.2⟩⟩

/-! ### from the monitor to statements about positions in the trace -/

theorem stepStatus_eq_ok {x : Nat} {s : Status} {e : TEv} (h : stepStatus x s e = .ok) :
    s = .ok ∨ ∃ b, e = .harvest b := by
  cases e <;> simp only [stepStatus] at h
  case removed => split at h <;> simp_all
  case added => split at h <;> simp_all
  case harvest b => exact .inr ⟨b, rfl⟩
  all_goals exact .inl h

theorem statusAfter_eq_ok {x : Nat} {s : Status} {t : List TEv} (hs : s ≠ .ok) (h : statusAfter x s t = .ok) :
    ∃ b, TEv.harvest b ∈ t := by
  induction t generalizing s with
  | nil => exact absurd h hs
  | cons e t ih =>
    by_cases hk : stepStatus x s e = .ok
    · obtain hk | ⟨b, rfl⟩ := stepStatus_eq_ok hk
      · exact absurd hk hs
      · exact ⟨b, List.mem_cons_self⟩
    · obtain ⟨b, hb⟩ := ih hk h
      exact ⟨b, List.mem_cons_of_mem _ hb⟩

theorem monX_no_call {x : Nat} {s : Status} {t : List TEv} (hs : s ≠ .ok) (hm : monX x s t)
    (hh : ∀ b, TEv.harvest b ∉ t) (f : Fn) : TEv.call x f ∉ t := by
  intro hmem
  obtain ⟨pre, post, rfl⟩ := List.append_of_mem hmem
  have hok := ((monX_append ..).1 hm).2.1 f rfl
  obtain ⟨b, hb⟩ := statusAfter_eq_ok hs hok
  exact hh b (List.mem_append_left _ hb)

theorem monX_removed {x : Nat} {s : Status} {pre post : List TEv} (h : monX x s (pre ++ .removed x :: post)) :
    monX x .dead post := by
  rw [List.append_cons, monX_append, statusAfter_append] at h
  simpa [stepStatus] using h.2

theorem stepStatus_dead (x : Nat) (e : TEv) : stepStatus x .dead e = .dead ∨ e = .added x true := by
  cases e <;> simp only [stepStatus]
  case removed => split <;> simp
  case added y ok => by_cases h : y = x ∧ ok = true <;> simp [h]
  all_goals simp

/-- From `dead` the status `ok` is reached only through a successful `add` of `x` followed by an
    `epoll_wait` result. -/
theorem statusAfter_dead_ok (x : Nat) (t : List TEv) (h : statusAfter x .dead t = .ok) :
    ∃ m1 m2 b m3, t = m1 ++ .added x true :: (m2 ++ .harvest b :: m3) := by
  induction t with
  | nil => cases h
  | cons e t ih =>
    obtain hd | rfl := stepStatus_dead x e
    · rw [statusAfter_cons, hd] at h
      obtain ⟨m1, m2, b, m3, rfl⟩ := ih h
      exact ⟨e :: m1, m2, b, m3, rfl⟩
    · obtain ⟨b, hb⟩ := statusAfter_eq_ok (s := .stale) (by simp) (by simpa [stepStatus] using h)
      obtain ⟨m2, m3, rfl⟩ := List.append_of_mem hb
      exact ⟨[], m2, b, m3, rfl⟩

/-! ### `EL_ABORT_LOOP` -/

theorem split_unique {α : Type} {a : α} {l q' p q : List α} (hl : a ∉ l) (hq : a ∉ q')
    (h : l ++ a :: q' = p ++ a :: q) : p = l ∧ q = q' := by
  rcases List.append_eq_append_iff.1 h with ⟨as, rfl, h'⟩ | ⟨cs, rfl, h'⟩
  · cases as with
    | nil => exact ⟨by simp, (List.cons.inj h').2.symm⟩
    | cons b as => exact absurd (by rw [(List.cons.inj h').2]; simp) hq
  · cases cs with
    | nil => exact ⟨by simp, (List.cons.inj h').2⟩
    | cons c cs => exact absurd (by rw [(List.cons.inj h').1]; simp) hl

theorem abortShape_last {t : List TEv} {b : Bool} (h : AbortShape t b) (pre post : List TEv)
    (ht : t = pre ++ .ret .abort :: post) : post = [] ∧ b = true := by
  cases b with
  | false =>
    exfalso
    apply h.1 rfl
    rw [mem_retsOf, ht]; simp
  | true =>
    obtain ⟨p, hp, hn⟩ := h.2 rfl
    rw [hp] at ht
    have := split_unique (fun hm => hn (mem_retsOf.2 hm)) (by simp) ht
    exact ⟨this.2, rfl⟩

/-- `run`: either no callback ever answered abort, or the trace ends `…, ret abort, runRet (-1)`. -/
theorem run_abortShape (P : Params) (ws : List Wait) (L : Loop) (sc : List Answer) :
    (Ret.abort ∉ retsOf (run P ws L sc).trace) ∨
    (∃ pre, (run P ws L sc).trace = pre ++ [.ret .abort, .runRet (-1)] ∧ Ret.abort ∉ retsOf pre ∧
      (run P ws L sc).rc = -1) := by
  fun_induction run P ws L sc with
  | case1 | case2 | case3 | case5 => simp [retsOf]
  | case4 ws L sc _ r ih =>
    rcases ih with h | ⟨pre, h1, h2, h3⟩
    · exact .inl (by simpa [retsOf] using h)
    · exact .inr ⟨.eintr :: pre, congrArg (TEv.eintr :: ·) h1, by simpa [retsOf] using h2, h3⟩
  | case6 ws L sc _ ready b d hab =>
    have hd : AbortShape d.trace d.aborted := handleBatch_abortShape P b L sc
    obtain ⟨pre, hp, hn⟩ := hd.2 hab
    exact .inr ⟨.harvest b :: pre, by simp [hp], by simpa [retsOf] using hn, rfl⟩
  | case7 ws L sc _ ready b d hab r ih =>
    have hd : AbortShape d.trace d.aborted := handleBatch_abortShape P b L sc
    have hno := hd.1 (by simpa using hab)
    rcases ih with h | ⟨pre, h1, h2, h3⟩
    · exact .inl (by simp [retsOf, retsOf_append, hno, show Ret.abort ∉ retsOf r.trace from h])
    · refine .inr ⟨.harvest b :: (d.trace ++ pre), ?_, by simp [retsOf, retsOf_append, hno, h2], h3⟩
      rw [show r.trace = _ from h1]; simp

/-! ### the harvested array is withdrawn after every batch -/

theorem run_pending (P : Params) (ws : List Wait) (L : Loop) (sc : List Answer) (h : L.pending = []) :
    (run P ws L sc).loop.pending = [] := by
  fun_induction run P ws L sc with
  | case1 | case2 | case3 | case5 => exact h
  | case4 _ _ _ _ _ ih => exact ih h
  | case6 => rfl
  | case7 _ _ _ _ _ _ _ _ _ ih => exact ih rfl

/-! ### the error test, bit by bit -/

theorem errBits_table : ∀ i : Fin 32, (~~~(EPOLLIN ||| EPOLLOUT)).getLsbD i.val = decide (i.val ≠ 0 ∧ i.val ≠ 2) := by
  decide

theorem isErr_iff_bit (m : Mask) : isErr m = true ↔ ∃ i, i < 32 ∧ i ≠ 0 ∧ i ≠ 2 ∧ m.getLsbD i = true := by
  have hbit : ∀ i, (m &&& ~~~(EPOLLIN ||| EPOLLOUT)).getLsbD i = true ↔
      i < 32 ∧ i ≠ 0 ∧ i ≠ 2 ∧ m.getLsbD i = true := by
    intro i
    by_cases hi : i < 32
    · rw [BitVec.getLsbD_and, errBits_table ⟨i, hi⟩]; simp [hi, and_comm, and_assoc]
    · simp [hi, BitVec.getLsbD_of_ge _ i (Nat.le_of_not_lt hi)]
  rw [isErr, bne_iff_ne, ne_eq, BitVec.zero_iff_eq_false, Classical.not_forall]
  simp only [Bool.not_eq_false, hbit]

end Cjet.Evloop
