import Cjet.Matcher.Spec

/-! Helper lemmas for C16: the libc loops against `List` prefix / suffix / infix, and each of the
twelve match functions against its `Spec`. -/

namespace Cjet.Matcher

open List

/-! ### bytes -/

theorem toLower_ne_zero (c : UInt8) (h : c ≠ 0) : toLower c ≠ 0 := by
  unfold toLower
  split
  · -- `65 ≤ c ≤ 90`: `c + 32` does not wrap
    rename_i hc
    intro h0
    have := congrArg UInt8.toNat h0
    simp only [UInt8.toNat_add, UInt8.le_iff_toNat_le] at this hc
    simp at this hc
    omega
  · exact h

theorem diff_eq_zero {a b : UInt8} : diff a b = 0 ↔ a = b := by
  unfold diff
  constructor
  · intro h
    apply UInt8.toNat_inj.mp
    omega
  · rintro rfl
    omega

/-! ### NulFree, cstr, lower -/

@[simp] theorem nulFree_nil : NulFree [] := by simp [NulFree]

@[simp] theorem nulFree_cons {a : UInt8} {s : Bytes} : NulFree (a :: s) ↔ a ≠ 0 ∧ NulFree s := by
  simp [NulFree]

theorem nulFree_cstr (b : Bytes) : NulFree (cstr b) :=
  fun x hx => bne_iff_ne.mp (List.all_eq_true.mp List.all_takeWhile x hx)

theorem cstr_of_nulFree : ∀ {b : Bytes}, NulFree b → cstr b = b
  | [], _ => by simp [cstr]
  | a :: s, h => by
    have ih := cstr_of_nulFree (nulFree_cons.mp h).2
    have ha := (nulFree_cons.mp h).1
    unfold cstr at ih ⊢
    simp [ha, ih]

theorem nulFree_lower {s : Bytes} (h : NulFree s) : NulFree (lower s) := by
  intro x hx
  simp only [lower, List.mem_map] at hx
  obtain ⟨y, hy, rfl⟩ := hx
  exact toLower_ne_zero y (h y hy)

theorem nulFree_drop {s : Bytes} (h : NulFree s) (n : Nat) : NulFree (s.drop n) :=
  fun x hx => h x (List.mem_of_mem_drop hx)

@[simp] theorem lower_nil : lower [] = [] := rfl
@[simp] theorem lower_cons (a : UInt8) (s : Bytes) : lower (a :: s) = toLower a :: lower s := rfl
@[simp] theorem lower_length (s : Bytes) : (lower s).length = s.length := by simp [lower]
theorem lower_drop (s : Bytes) (n : Nat) : lower (s.drop n) = (lower s).drop n := by
  simp [lower, List.map_drop]

/-! ### strcmp family -/

theorem strcmp_eq_zero : ∀ (a b : Bytes), NulFree a → NulFree b → (strcmp a b = 0 ↔ a = b)
  | [], [], _, _ => by simp [strcmp]
  | [], b :: bs, _, hb => by simp [strcmp, diff_eq_zero, (nulFree_cons.mp hb).1.symm]
  | a :: as, [], ha, _ => by simp [strcmp, diff_eq_zero, (nulFree_cons.mp ha).1]
  | a :: as, b :: bs, ha, hb => by
    have ih := strcmp_eq_zero as bs (nulFree_cons.mp ha).2 (nulFree_cons.mp hb).2
    unfold strcmp
    by_cases h : a = b
    · simp [h, ih]
    · simp [h, diff_eq_zero]

theorem strncmp_eq_zero : ∀ (a b : Bytes) (n : Nat), NulFree a → NulFree b →
    (strncmp a b n = 0 ↔ a.take n = b.take n)
  | _, _, 0, _, _ => by simp [strncmp]
  | [], [], _ + 1, _, _ => by simp [strncmp]
  | [], b :: bs, _ + 1, _, hb => by simp [strncmp, diff_eq_zero, (nulFree_cons.mp hb).1.symm]
  | a :: as, [], _ + 1, ha, _ => by simp [strncmp, diff_eq_zero, (nulFree_cons.mp ha).1]
  | a :: as, b :: bs, n + 1, ha, hb => by
    have ih := strncmp_eq_zero as bs n (nulFree_cons.mp ha).2 (nulFree_cons.mp hb).2
    unfold strncmp
    by_cases h : a = b
    · simp [h, ih]
    · simp [h, diff_eq_zero]

theorem strcasecmp_eq_strcmp_lower : ∀ (a b : Bytes), strcasecmp a b = strcmp (lower a) (lower b)
  | [], [] => rfl
  | [], b :: bs => rfl
  | a :: as, [] => rfl
  | a :: as, b :: bs => by
    have ih := strcasecmp_eq_strcmp_lower as bs
    simp [strcasecmp, strcmp, ih]

theorem strncasecmp_eq_strncmp_lower : ∀ (a b : Bytes) (n : Nat),
    strncasecmp a b n = strncmp (lower a) (lower b) n
  | _, _, 0 => by simp [strncasecmp, strncmp]
  | [], [], _ + 1 => rfl
  | [], b :: bs, _ + 1 => rfl
  | a :: as, [], _ + 1 => rfl
  | a :: as, b :: bs, n + 1 => by
    have ih := strncasecmp_eq_strncmp_lower as bs n
    simp [strncasecmp, strncmp, ih]

/-- `strncmp(op, path, strlen(op)) == 0` is the prefix test. -/
theorem strncmp_len_eq_zero (a b : Bytes) (ha : NulFree a) (hb : NulFree b) :
    strncmp a b a.length = 0 ↔ a <+: b := by
  rw [strncmp_eq_zero a b _ ha hb, List.take_length, List.prefix_iff_eq_take]

/-- Comparing more bytes than the second string has (terminator included) is `strcmp`. -/
theorem strncmp_long_eq_zero (a b : Bytes) (n : Nat) (ha : NulFree a) (hb : NulFree b)
    (hn : b.length < n) : strncmp a b n = 0 ↔ a = b := by
  rw [strncmp_eq_zero a b n ha hb, List.take_of_length_le (Nat.le_of_lt hn)]
  constructor
  · intro h
    by_cases hl : a.length ≤ n
    · rwa [List.take_of_length_le hl] at h
    · have := congrArg List.length h
      simp only [List.length_take] at this
      omega
  · rintro rfl
    exact List.take_of_length_le (Nat.le_of_lt hn)

theorem strcasecmp_eq_zero (a b : Bytes) (ha : NulFree a) (hb : NulFree b) :
    strcasecmp a b = 0 ↔ lower a = lower b := by
  rw [strcasecmp_eq_strcmp_lower]
  exact strcmp_eq_zero _ _ (nulFree_lower ha) (nulFree_lower hb)

theorem strncasecmp_len_eq_zero (a b : Bytes) (ha : NulFree a) (hb : NulFree b) :
    strncasecmp a b a.length = 0 ↔ lower a <+: lower b := by
  rw [strncasecmp_eq_strncmp_lower, ← lower_length a]
  exact strncmp_len_eq_zero _ _ (nulFree_lower ha) (nulFree_lower hb)

/-! ### strstr family -/

theorem startsAt_iff : ∀ (h n : Bytes), startsAt h n = true ↔ n <+: h
  | _, [] => by simp [startsAt]
  | [], _ :: _ => by simp [startsAt]
  | h :: hs, n :: ns => by
    rw [List.cons_prefix_cons, ← startsAt_iff hs ns, startsAt, Bool.and_eq_true, beq_iff_eq, eq_comm]

theorem startsAtCI_eq : ∀ (h n : Bytes), startsAtCI h n = startsAt (lower h) (lower n)
  | _, [] => by simp [startsAtCI, startsAt]
  | [], _ :: _ => rfl
  | h :: hs, n :: ns => by
    have ih := startsAtCI_eq hs ns
    simp [startsAtCI, startsAt, ih]

theorem strstrFrom_isSome (needle : Bytes) : ∀ (hay : Bytes) (off : Nat),
    (strstrFrom needle hay off).isSome = true ↔ needle <:+: hay
  | [], off => by
    rw [strstrFrom, List.infix_nil, ← List.prefix_nil, ← startsAt_iff]
    cases startsAt [] needle <;> simp
  | x :: t, off => by
    rw [strstrFrom, List.infix_cons_iff, ← startsAt_iff, ← strstrFrom_isSome needle t (off + 1)]
    cases startsAt (x :: t) needle <;> simp

theorem strcasestrFrom_eq (needle : Bytes) : ∀ (hay : Bytes) (off : Nat),
    strcasestrFrom needle hay off = strstrFrom (lower needle) (lower hay) off
  | [], off => by simp [strcasestrFrom, strstrFrom, startsAtCI_eq]
  | x :: t, off => by
    have ih := strcasestrFrom_eq needle t (off + 1)
    simp [strcasestrFrom, strstrFrom, startsAtCI_eq, ih]

theorem strstr_isSome (hay needle : Bytes) : (strstr hay needle).isSome = true ↔ needle <:+: hay :=
  strstrFrom_isSome needle hay 0

theorem strcasestr_isSome (hay needle : Bytes) :
    (strcasestr hay needle).isSome = true ↔ lower needle <:+: lower hay := by
  unfold strcasestr
  rw [strcasestrFrom_eq]
  exact strstrFrom_isSome _ _ 0

/-! ### the match functions -/

open Cjet.Generated.Matcher (CFn)

theorem b2i_ne_zero (b : Bool) : b2i b ≠ 0 ↔ b = true := by
  cases b <;> simp [b2i]

theorem containsAllLoop_ne_zero (find : Bytes → Bytes → Option Nat) (P : Bytes → Prop) (path : Bytes)
    (hfind : ∀ e, (find path e).isSome = true ↔ P e) :
    ∀ es : List Bytes, containsAllLoop find path es ≠ 0 ↔ ∀ e ∈ es, P e
  | [] => by simp [containsAllLoop]
  | e :: es => by
    have ih := containsAllLoop_ne_zero find P path hfind es
    rw [containsAllLoop, List.forall_mem_cons, ← ih, ← hfind e]
    cases find path e <;> simp

theorem nulFree_first (pm : PathMatcher) (he : ∀ e ∈ pm.elems, NulFree e) : NulFree pm.first := by
  unfold PathMatcher.first
  cases h : pm.elems with
  | nil => simp
  | cons a t => simpa using he a (by simp [h])

/-- `strlen(path) >= strlen(op) && strcmp(path + strlen(path) - strlen(op), op) == 0` is the
    suffix test. -/
theorem endswith_iff (p op : Bytes) (hp : NulFree p) (ho : NulFree op) :
    (decide (strlen p ≥ strlen op) && strcmp (p.drop (strlen p - strlen op)) op == 0) = true ↔ op <:+ p := by
  simp only [strlen, Bool.and_eq_true, beq_iff_eq]
  rw [strcmp_eq_zero _ _ (nulFree_drop hp _) ho, List.suffix_iff_eq_drop]
  constructor
  · rintro ⟨_, h⟩
    exact h.symm
  · intro h
    refine ⟨?_, h.symm⟩
    have := congrArg List.length h
    simp only [List.length_drop] at this
    apply decide_eq_true
    omega

theorem endswithCI_iff (p op : Bytes) (hp : NulFree p) (ho : NulFree op) :
    (decide (strlen p ≥ strlen op) && strcasecmp (p.drop (strlen p - strlen op)) op == 0) = true ↔
      lower op <:+ lower p := by
  have := endswith_iff (lower p) (lower op) (nulFree_lower hp) (nulFree_lower ho)
  simp only [strlen, lower_length, ← lower_drop, ← strcasecmp_eq_strcmp_lower] at this
  exact this

/-- `Spec`, `kindOfFn`, `foldCase` and `evalFn` unfold by computation once `fn` is a constructor. -/
theorem evalFn_spec (fn : CFn) (pm : PathMatcher) (path : Bytes) (hp : NulFree path)
    (he : ∀ e ∈ pm.elems, NulFree e) :
    evalFn fn pm path ≠ 0 ↔ Spec (kindOfFn fn).1 (kindOfFn fn).2 pm.elems path := by
  have hf := nulFree_first pm he
  cases fn
  case equals_match => exact (b2i_ne_zero _).trans (beq_iff_eq.trans (strcmp_eq_zero _ _ hf hp))
  case equals_match_ignore_case =>
    exact (b2i_ne_zero _).trans (beq_iff_eq.trans (strcasecmp_eq_zero _ _ hf hp))
  case contains_match => exact (b2i_ne_zero _).trans (strstr_isSome path pm.first)
  case contains_match_ignore_case => exact (b2i_ne_zero _).trans (strcasestr_isSome path pm.first)
  case startswith_match =>
    exact (b2i_ne_zero _).trans (beq_iff_eq.trans (strncmp_len_eq_zero _ _ hf hp))
  case startswith_match_ignore_case =>
    exact (b2i_ne_zero _).trans (beq_iff_eq.trans (strncasecmp_len_eq_zero _ _ hf hp))
  case endswith_match => exact (b2i_ne_zero _).trans (endswith_iff path pm.first hp hf)
  case endswith_match_ignore_case =>
    exact (b2i_ne_zero _).trans (endswithCI_iff path pm.first hp hf)
  case equalsnot_match => exact not_congr (strcmp_eq_zero _ _ hf hp)
  case equalsnot_match_ignore_case => exact not_congr (strcasecmp_eq_zero _ _ hf hp)
  case containsallof_match =>
    exact containsAllLoop_ne_zero strstr (fun e => e <:+: path) path (fun e => strstr_isSome path e) pm.elems
  case containsallof_match_ignore_case =>
    exact containsAllLoop_ne_zero strcasestr (fun e => lower e <:+: lower path) path
      (fun e => strcasestr_isSome path e) pm.elems

end Cjet.Matcher
