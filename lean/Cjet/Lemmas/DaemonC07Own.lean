/-
  DaemonC07Own — ownership: every element, fetch and routing entry has exactly one owner list, and
  a teardown releases exactly what the leaving peer owns or requested.  In front of it, the idle
  baseline: a state without peers holds nothing, and disconnecting every live peer (in any order,
  with any send results) reaches it; built on C05's closed form of `free_peer_resources`
  (`afterClose`).
  At the end: the concrete history of the examples of `Cjet.Props.C07`.
-/
import Cjet.Lemmas.DaemonC01Exec
import Cjet.Lemmas.DaemonC05Run
import Cjet.Lemmas.DaemonC07Run

namespace Cjet.Daemon.C07

open Cjet Cjet.Json Cjet.Daemon

/-! ## the idle baseline -/

/-- the path index of a state without peers is empty -/
theorem index_nil_of_no_peers {s : State} (hI : C05.Inv s) (h : s.peers = []) : s.index = [] := by
  apply List.eq_nil_iff_forall_not_mem.mpr
  intro en hen
  obtain ⟨pa, o⟩ := en
  obtain ⟨p, hp, _⟩ := hI.idxElem pa o hen
  rw [h] at hp
  cases hp

theorem peers_nil_of_conns {ps : List Peer} (h : C05.conns ps = []) : ps = [] := by
  cases ps with
  | nil => rfl
  | cons p t => cases h

/-- the state after `disconnect c` of a connected peer is C05's `afterClose` -/
theorem step_disconnect_st (cfg : Config) {s : State} (hI : C05.Inv s) {c : Nat} (hc : c ∈ C05.conns s.peers)
    (o : Oracle) : (step cfg s (.disconnect c o)).1 = C05.afterClose s c := by
  have hcl : C05.Closes cfg s (.disconnect c o) c (mkCtx s o) := ⟨hc, Or.inl ⟨o, rfl, rfl⟩⟩
  rw [hcl.step_eq]
  obtain ⟨p, hp⟩ := hcl.findPeer hI
  rw [C05.closePeer_eq (x := mkCtx s o) hI hp]
  rfl

theorem step_disconnect_dead (cfg : Config) {s : State} {c : Nat} (hc : c ∉ C05.conns s.peers)
    (o : Oracle) : step cfg s (.disconnect c o) = (s, []) := by
  rw [step_disconnect_eq]
  have : (findPeer s.peers c).isNone = true := C05.findPeer_isNone.2 hc
  simp [this]

/-- a `disconnect` removes exactly that connection from the peer list -/
theorem step_disconnect_conns (cfg : Config) {s : State} (hI : C05.Inv s) (c : Nat) (o : Oracle) :
    C05.conns (step cfg s (.disconnect c o)).1.peers = (C05.conns s.peers).filter (· != c) := by
  by_cases hc : c ∈ C05.conns s.peers
  · rw [step_disconnect_st cfg hI hc, C05.conns_afterClose]
  · rw [step_disconnect_dead cfg hc]
    symm
    apply List.filter_eq_self.mpr
    intro d hd
    simp only [bne_iff_ne, ne_eq]
    intro e
    exact hc (e ▸ hd)

/-- disconnecting a list of connections that covers every live one empties the peer list -/
theorem disconnect_all (cfg : Config) (ds : List (Nat × Oracle)) {s : State} (hI : C05.Inv s)
    (hcov : ∀ c ∈ C05.conns s.peers, c ∈ ds.map (·.1)) :
    (run cfg s (ds.map (fun d => Op.disconnect d.1 d.2))).1.peers = [] := by
  induction ds generalizing s with
  | nil =>
    apply peers_nil_of_conns
    apply List.eq_nil_iff_forall_not_mem.mpr
    intro c hc
    have := hcov c hc
    simp at this
  | cons d rest ih =>
    rw [List.map_cons, run_cons]
    apply ih (C05.step_inv hI _)
    intro c hc
    rw [step_disconnect_conns cfg hI, List.mem_filter] at hc
    have := hcov c hc.1
    simp only [List.map_cons, List.mem_cons] at this
    rcases this with e | h
    · exact absurd e (by simpa using hc.2)
    · exact h

/-- SIGTERM: `destroy_all_peers` walks the peer list in order -/
def termOps (s : State) (orc : Nat → Oracle) : List Op :=
  s.peers.map (fun p => Op.disconnect p.conn (orc p.conn))

theorem termOps_eq (s : State) (orc : Nat → Oracle) :
    termOps s orc = (s.peers.map (fun p => (p.conn, orc p.conn))).map (fun d => Op.disconnect d.1 d.2) := by
  simp [termOps, List.map_map, Function.comp_def]

theorem term_peers_nil (cfg : Config) {s : State} (hI : C05.Inv s) (orc : Nat → Oracle) :
    (run cfg s (termOps s orc)).1.peers = [] := by
  rw [termOps_eq]
  apply disconnect_all cfg _ hI
  intro c hc
  simpa [C05.conns, List.map_map, Function.comp_def] using hc

/-- a state without peers holds no timer -/
theorem heldTimers_nil_of_no_peers {s : State} (h : s.peers = []) : heldTimers s = [] := by
  simp [heldTimers, h]

/-! ## the objects of a state -/

def elemPaths (s : State) : List Bytes := s.peers.flatMap (fun p => p.elements.map (·.path))
def fetchUids (s : State) : List Nat := s.peers.flatMap (fun p => p.fetches.map (·.uid))
def allRoutes (s : State) : List Route := s.peers.flatMap (·.routes)

/-- the requests of `c` waiting in the tables of the other peers -/
def requestedBy (s : State) (c : Nat) : List Route :=
  (s.peers.filter (·.conn != c)).flatMap (fun q => q.routes.filter (·.requester == c))

/-! ## list facts -/

theorem nodup_flatMap' {α β : Type} {l : List α} {f : α → List β}
    (h1 : ∀ a ∈ l, (f a).Nodup) (h2 : l.Pairwise (fun a b => ∀ x ∈ f a, x ∉ f b)) : (l.flatMap f).Nodup :=
  List.pairwise_flatMap.mpr ⟨h1, h2.imp fun h x hx y hy (e : x = y) => h x hx (e ▸ hy)⟩

theorem flatMap_append_perm' {α β : Type} (l : List α) (f g : α → List β) :
    (l.flatMap (fun a => f a ++ g a)).Perm (l.flatMap f ++ l.flatMap g) := by
  induction l with
  | nil => simp
  | cons a t ih =>
    simp only [List.flatMap_cons]
    -- (f a ++ g a) ++ rest ~ (f a ++ F) ++ (g a ++ G)
    have h1 : (f a ++ g a ++ List.flatMap (fun a => f a ++ g a) t).Perm
        (f a ++ g a ++ (List.flatMap f t ++ List.flatMap g t)) := List.Perm.append_left _ ih
    refine h1.trans ?_
    rw [List.append_assoc, List.append_assoc]
    apply List.Perm.append_left
    rw [← List.append_assoc, ← List.append_assoc]
    exact List.Perm.append_right _ List.perm_append_comm

theorem flatMap_perm_congr {α β : Type} {l : List α} {f g : α → List β}
    (h : ∀ a ∈ l, (f a).Perm (g a)) : (l.flatMap f).Perm (l.flatMap g) := by
  induction l with
  | nil => simp
  | cons a t ih =>
    simp only [List.flatMap_cons]
    exact (h a List.mem_cons_self).append (ih (fun b hb => h b (List.mem_cons_of_mem _ hb)))

theorem filter_conn_eq {ps : List Peer} (hn : (C05.conns ps).Nodup) {c : Nat} {p : Peer}
    (hp : findPeer ps c = some p) : ps.filter (·.conn == c) = [p] := by
  induction ps with
  | nil => cases hp
  | cons q t ih =>
    simp only [C05.conns_cons, List.nodup_cons] at hn
    unfold findPeer at hp
    rw [List.find?_cons] at hp
    by_cases hq : (q.conn == c) = true
    · simp only [hq, Option.some.injEq] at hp
      subst hp
      rw [List.filter_cons, if_pos hq]
      congr 1
      apply List.filter_eq_nil_iff.mpr
      intro r hr hrc
      have h1 : q.conn = c := by simpa using hq
      have h2 : r.conn = c := by simpa using hrc
      exact hn.1 (C05.mem_conns.mpr ⟨r, hr, by rw [h2, h1]⟩)
    · have hq' : (q.conn == c) = false := by simpa using hq
      simp only [hq'] at hp
      rw [List.filter_cons, if_neg hq]
      exact ih hn.2 hp

/-- the peer list splits into the leaving peer and the others -/
theorem peers_split {ps : List Peer} (hn : (C05.conns ps).Nodup) {c : Nat} {p : Peer}
    (hp : findPeer ps c = some p) {β : Type} (f : Peer → List β) :
    (ps.flatMap f).Perm (f p ++ (ps.filter (·.conn != c)).flatMap f) := by
  have h := (List.filter_append_perm (fun q : Peer => q.conn == c) ps).symm
  have h2 := List.Perm.flatMap_right f h
  rw [List.flatMap_append, filter_conn_eq hn hp] at h2
  simpa [bne] using h2

/-! ## ownership in every reachable state -/

theorem peers_pairwise {ps : List Peer} (hn : (C05.conns ps).Nodup) :
    ps.Pairwise (fun a b => a.conn ≠ b.conn) := by
  unfold C05.conns List.Nodup at hn
  exact List.pairwise_map.mp hn

theorem elemPaths_nodup {s : State} (hI : C05.Inv s) : (elemPaths s).Nodup := by
  apply nodup_flatMap'
  · intro p hp; exact hI.paths p hp
  · apply List.Pairwise.imp_of_mem _ (peers_pairwise hI.nodup)
    intro a b ha hb hne x hxa hxb
    obtain ⟨e, he, rfl⟩ := List.mem_map.mp hxa
    obtain ⟨e', he', hpe⟩ := List.mem_map.mp hxb
    exact hne (by rw [hI.path_owner ha hb he he' hpe.symm])

theorem fetchUids_nodup {cfg : Config} {s : State} (hI : C01.Inv cfg s) : (fetchUids s).Nodup := by
  apply nodup_flatMap'
  · intro p hp; exact hI.fetches.uidNodup p hp
  · have hn : (C05.conns s.peers).Nodup := hI.fetches.connNodup
    apply List.Pairwise.imp_of_mem _ (peers_pairwise hn)
    intro a b ha hb hne x hxa hxb
    obtain ⟨f, hf, rfl⟩ := List.mem_map.mp hxa
    obtain ⟨g, hg, hfg⟩ := List.mem_map.mp hxb
    exact hne (hI.fetches.uidGlobal a ha b hb f hf g hg hfg.symm)

/-- the index has exactly one entry per element -/
theorem index_perm_elemPaths {s : State} (hI : C05.Inv s) : (s.index.map (·.1)).Perm (elemPaths s) := by
  rw [List.perm_ext_iff_of_nodup hI.idxNodup (elemPaths_nodup hI)]
  intro pa
  constructor
  · intro h
    obtain ⟨en, hen, rfl⟩ := List.mem_map.mp h
    obtain ⟨p, hp, _, e, he, hpa⟩ := hI.idxElem en.1 en.2 hen
    exact List.mem_flatMap.mpr ⟨p, hp, List.mem_map.mpr ⟨e, he, hpa⟩⟩
  · intro h
    obtain ⟨p, hp, hm⟩ := List.mem_flatMap.mp h
    obtain ⟨e, he, rfl⟩ := List.mem_map.mp hm
    exact List.mem_map.mpr ⟨(e.path, p.conn), hI.inIdx p hp e he, rfl⟩

/-! ## what a teardown releases -/

theorem elemPaths_afterClose (s : State) (c : Nat) :
    elemPaths (C05.afterClose s c) = (s.peers.filter (·.conn != c)).flatMap (fun p => p.elements.map (·.path)) := by
  unfold elemPaths C05.afterClose
  simp only [List.flatMap_map]
  apply flatMap_congr
  intro p _
  simp [C05.scrub, List.map_map, Function.comp_def]

theorem fetchUids_afterClose (s : State) (c : Nat) :
    fetchUids (C05.afterClose s c) = (s.peers.filter (·.conn != c)).flatMap (fun p => p.fetches.map (·.uid)) := by
  unfold fetchUids C05.afterClose
  simp only [List.flatMap_map]
  rfl

theorem allRoutes_afterClose (s : State) (c : Nat) :
    allRoutes (C05.afterClose s c) =
      (s.peers.filter (·.conn != c)).flatMap (fun p => p.routes.filter (·.requester != c)) := by
  unfold allRoutes C05.afterClose
  simp only [List.flatMap_map]
  rfl

/-- the routing entries before a teardown of `c` = those of `c`'s own table + `c`'s requests in the
    other tables + the entries that survive -/
theorem allRoutes_split {s : State} (hn : (C05.conns s.peers).Nodup) {c : Nat} {p : Peer}
    (hp : findPeer s.peers c = some p) :
    (allRoutes s).Perm (p.routes ++ requestedBy s c ++ allRoutes (C05.afterClose s c)) := by
  rw [allRoutes_afterClose, List.append_assoc]
  refine (peers_split hn hp (·.routes)).trans (List.Perm.append_left _ ?_)
  unfold requestedBy
  refine List.Perm.trans ?_ (flatMap_append_perm' _ _ _)
  apply flatMap_perm_congr
  intro q _
  have := (List.filter_append_perm (fun r : Route => r.requester == c) q.routes).symm
  simpa [bne] using this

theorem heldTimers_eq_map (s : State) : heldTimers s = (allRoutes s).map (·.timer) := rfl

/-! ## the timers a teardown destroys -/

theorem destroyed_strip (l : List Obs) : C03.destroyed (l.map C05.strip) = C03.destroyed l := by
  induction l with
  | nil => rfl
  | cons o t ih =>
    cases o with
    | send c j b => exact ih
    | closed c => exact ih
    | timerArm a b => exact ih
    | timerDestroy a => show a :: C03.destroyed (t.map C05.strip) = a :: C03.destroyed t; rw [ih]

theorem destroyed_routeActs (c : Nat) (rs : List Route) :
    C03.destroyed (rs.flatMap (C05.routeActs c)) = rs.map (·.timer) := by
  induction rs with
  | nil => rfl
  | cons r t ih =>
    rw [List.flatMap_cons, C03.destroyed_append, ih]
    unfold C05.routeActs
    simp only [List.map_cons]
    congr 1
    split
    · rfl
    · split
      · rfl
      · split <;> rfl

theorem destroyed_map_destroy (rs : List Route) :
    C03.destroyed (rs.map (fun r => Obs.timerDestroy r.timer)) = rs.map (·.timer) := by
  induction rs with
  | nil => rfl
  | cons r t ih => simp [ih]

theorem destroyed_notifyActs (ps : List Peer) (e : Element) (ev : String) :
    C03.destroyed (C05.notifyActs ps e ev) = [] := by
  unfold C05.notifyActs
  induction e.fetchers with
  | nil => rfl
  | cons s t ih =>
    rw [List.filterMap_cons]
    split
    · exact ih
    · next o ho =>
      cases s with
      | none => simp at ho
      | some fk =>
        simp only at ho
        cases hf : findFetch ps fk with
        | none => rw [hf] at ho; simp at ho
        | some f =>
          rw [hf] at ho
          simp only [Option.map_some, Option.some.injEq] at ho
          subst ho
          exact ih

theorem destroyed_flatMap_nil {α : Type} (l : List α) (f : α → List Obs) (h : ∀ a, C03.destroyed (f a) = []) :
    C03.destroyed (l.flatMap f) = [] := by
  induction l with
  | nil => rfl
  | cons a t ih => rw [List.flatMap_cons, C03.destroyed_append, h a, ih]; rfl

/-- the timers destroyed by a closing step: whatever the accepted part of the message destroyed,
    then exactly the timers of the leaving peer's table and of its own requests elsewhere -/
theorem closes_destroyed {cfg : Config} {s : State} {op : Op} {c : Nat} {x : Ctx} (hI : C05.Inv s)
    (hx : C05.Closes cfg s op c x) {p : Peer} (hp : findPeer x.st.peers c = some p) :
    C03.destroyed (step cfg s op).2 =
      C03.destroyed x.out.reverse ++ (p.routes ++ requestedBy x.st c).map (·.timer) := by
  have h := congrArg C03.destroyed (hx.out_eq hI hp)
  rw [destroyed_strip] at h
  rw [h]
  simp only [C03.destroyed_append, destroyed_strip, destroyed_routeActs, destroyed_map_destroy,
    List.map_append]
  rw [destroyed_flatMap_nil _ _ (fun e => destroyed_notifyActs _ _ _)]
  simp [requestedBy, C03.destroyed, C03.destroyedOf]

end Cjet.Daemon.C07

/-! ## the history of the non-vacuity examples of `Cjet.Props.C07`
  peer 1 owns state "a"; peer 2 has two `set` requests in flight to it; the first is answered. -/

namespace Cjet.Props.C07

open Cjet Cjet.Json Cjet.Daemon Cjet.Daemon.C07
open Cjet.Daemon.C03 (destroyed OpOk runWeight)

def exNum (i : Int) : Json := .num ⟨0, i⟩
def exReq (method : String) (id : Int) (params : List (Bytes × Json)) : Json :=
  .obj [(k "method", mkStr method), (k "id", exNum id), (k "params", .obj params)]
def exOps : List Op :=
  [.connect 1 false true (k "0x1"), .connect 2 false true (k "0x2"),
   .message 1 (some (exReq "add" 1 [(k "path", mkStr "a"), (k "value", exNum 1)])) {},
   .message 2 (some (exReq "fetch" 2 [(k "id", mkStr "f")])) {},
   .message 2 (some (exReq "set" 3 [(k "path", mkStr "a"), (k "value", exNum 2)])) {},
   .message 2 (some (exReq "set" 4 [(k "path", mkStr "a"), (k "value", exNum 3)])) {},
   .message 1 (some (.obj [(k "id", .str (routedId (some (exNum 3)) 0 (k "0x2"))), (k "result", .bool true)])) {}]
def exRun : State × List (List Obs) := run {} {} exOps

theorem exOps_ok : (∀ op ∈ exOps, OpOk op) ∧ runWeight exOps < 4294967296 := by decide +kernel

/-- The one evaluation of `exOps`, alone and followed by SIGTERM; the examples read their parts off it. -/
theorem exRun_eval :
    (heldTimers exRun.1 = [1] ∧ exRun.1.nextTimer = 2 ∧
      armed exRun.2.flatten = [0, 1] ∧ destroyed exRun.2.flatten = [0]) ∧
    C05.conns exRun.1.peers = [1, 2] ∧
    (let r := run {} {} (exOps ++ termOps exRun.1 (fun _ => {}))
     r.1.nextTimer = 2 ∧ destroyed r.2.flatten = [0, 1]) := by decide +kernel

end Cjet.Props.C07
