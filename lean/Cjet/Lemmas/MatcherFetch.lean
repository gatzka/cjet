import Cjet.Lemmas.Matcher

/-! Helper lemmas for C16: the rule parser. Facts about the generated table, the option key test and
the table lookup, `create_matcher`, the fill loop of `add_matchers`, `state_matches`, and
`create_fetch` as a whole. -/

namespace Cjet.Matcher

open List
open Cjet.Generated.Matcher (CFn Entry table optionKey optionKeyCmpLen)

/-! ### facts about the generated table (re-checked whenever fetch.c changes) -/

theorem optionKey_nulFree : NulFree optionKey := by decide +kernel
theorem optionKey_cmpLen : optionKey.length < optionKeyCmpLen := by decide +kernel
theorem optionName_eq : Kind.optionName = optionKey := by decide +kernel
theorem table_names_nulFree : ∀ e ∈ table, NulFree e.name := by decide +kernel

/-- Every table entry is one of the property's kinds, wired to the right pair of functions. -/
theorem table_kinds : ∀ e ∈ table, ∃ k ∈ Kind.all, e.name = k.name ∧
    kindOfFn e.caseSensitive = (k, false) ∧ kindOfFn e.caseInsensitive = (k, true) ∧ e.multi = k.multi := by
  decide +kernel

/-- Every kind of the property is in the table. -/
theorem kinds_in_table : ∀ k ∈ Kind.all, ∃ e ∈ table, e.name = k.name := by decide +kernel

theorem kind_names_inj : ∀ k₁ ∈ Kind.all, ∀ k₂ ∈ Kind.all, k₁.name = k₂.name → k₁ = k₂ := by decide +kernel

theorem kind_mem_all (k : Kind) : k ∈ Kind.all := by cases k <;> decide

/-- The option key is not a matcher name. -/
theorem specKind_optionKey : specKind optionKey = none := by decide +kernel

/-- The key test of the option lookup of `create_fetch` (`get_case_insensitive`): which cJSON
    lookup it uses and how that lookup compares keys are read from the source. -/
def looseOption (key : Bytes) : Bool :=
  cjsonKeyEq (Cjet.Generated.Matcher.optionLookupCaseSensitive ||
    Cjet.Generated.Matcher.cjsonGetObjectItemCaseSensitive) optionKey key

theorem getCaseInsensitive_cons (k : Bytes) (v : JVal) (rest : Members) :
    getCaseInsensitive ((k, v) :: rest) =
      if looseOption (cstr k) then some v else getCaseInsensitive rest := rfl

theorem table_not_option : ∀ e ∈ table, looseOption e.name = false := by decide +kernel
theorem looseOption_optionKey : looseOption optionKey = true := by decide +kernel

/-! ### the option key test and the table lookup -/

theorem isOptionKey_iff (k : Bytes) : isOptionKey k = true ↔ cstr k = optionKey := by
  unfold isOptionKey
  rw [beq_iff_eq]
  exact strncmp_long_eq_zero _ _ _ (nulFree_cstr k) optionKey_nulFree optionKey_cmpLen

theorem isOptionKey_eq (m : Bytes × JVal) : isOptionKey m.1 = isOption m :=
  Bool.eq_iff_iff.mpr ((isOptionKey_iff m.1).trans beq_iff_eq.symm)

theorem lookupEntry_eq_find (name : Bytes) : ∀ es : List Entry,
    lookupEntry name es = es.find? (fun e => strcmp name e.name == 0)
  | [] => rfl
  | e :: es => by
    rw [lookupEntry, List.find?_cons, lookupEntry_eq_find name es]
    cases strcmp name e.name == 0 <;> rfl

/-- A name found in the table is the name of the entry found (names are C strings). -/
theorem lookupEntry_table {name : Bytes} {e : Entry} (hn : NulFree name)
    (h : lookupEntry name table = some e) : e ∈ table ∧ e.name = name := by
  rw [lookupEntry_eq_find] at h
  have hm := List.mem_of_find?_eq_some h
  have hs := List.find?_some h
  exact ⟨hm, ((strcmp_eq_zero _ _ hn (table_names_nulFree e hm)).mp (beq_iff_eq.mp hs)).symm⟩

theorem specKind_some {name : Bytes} {k : Kind} : specKind name = some k ↔ k.name = name := by
  unfold specKind
  constructor
  · intro h
    have := List.find?_some h
    exact beq_iff_eq.mp this
  · intro h
    cases hf : Kind.all.find? (fun k => k.name == name) with
    | none => exact absurd (beq_iff_eq.mpr h) (List.find?_eq_none.mp hf k (kind_mem_all k))
    | some k' =>
      have h1 := List.find?_some hf
      rw [kind_names_inj k' (kind_mem_all k') k (kind_mem_all k) ((beq_iff_eq.mp h1).trans h.symm)]

theorem specKind_none {name : Bytes} : specKind name = none ↔ ∀ k : Kind, k.name ≠ name := by
  unfold specKind
  rw [List.find?_eq_none]
  constructor
  · intro h k
    simpa using h k (kind_mem_all k)
  · intro h k _
    simpa using h k

/-- The lookup loop of `create_matcher` finds exactly the kinds the property names. -/
theorem lookupEntry_specKind {name : Bytes} (hn : NulFree name) :
    (∀ e, lookupEntry name table = some e →
      ∃ k, specKind name = some k ∧ kindOfFn e.caseSensitive = (k, false) ∧
        kindOfFn e.caseInsensitive = (k, true) ∧ e.multi = k.multi) ∧
    (lookupEntry name table = none → specKind name = none) := by
  constructor
  · intro e h
    obtain ⟨hm, hname⟩ := lookupEntry_table hn h
    obtain ⟨k, _, hk, h1, h2, h3⟩ := table_kinds e hm
    exact ⟨k, specKind_some.mpr (hk.symm.trans hname), h1, h2, h3⟩
  · intro h
    rw [specKind_none]
    intro k hk
    obtain ⟨e, he, hen⟩ := kinds_in_table k (kind_mem_all k)
    rw [lookupEntry_eq_find, List.find?_eq_none] at h
    apply h e he
    rw [beq_iff_eq, strcmp_eq_zero _ _ hn (table_names_nulFree e he), hen, hk]

theorem fillPathElements_eq_allStrings : ∀ items, fillPathElements items = allStrings items
  | [] => rfl
  | .str b :: rest => by simp [fillPathElements, allStrings, fillPathElements_eq_allStrings rest]
  | .other :: _ => rfl

theorem allStrings_nulFree : ∀ {items ops}, allStrings items = some ops → ∀ e ∈ ops, NulFree e
  | [], _, h => by cases h; nofun
  | .str b :: rest, ops, h => by
    simp only [allStrings, Option.map_eq_some_iff] at h
    obtain ⟨t, ht, rfl⟩ := h
    exact List.forall_mem_cons.mpr ⟨nulFree_cstr b, allStrings_nulFree ht⟩
  | .other :: _, _, h => by cases h

theorem allStrings_length : ∀ {items ops}, allStrings items = some ops → ops.length = items.length
  | [], _, h => by cases h; rfl
  | .str b :: rest, ops, h => by
    simp only [allStrings, Option.map_eq_some_iff] at h
    obtain ⟨t, ht, rfl⟩ := h
    rw [List.length_cons, List.length_cons, allStrings_length ht]
  | .other :: _, _, h => by cases h

theorem operands_eq_some {k : Kind} {v : JVal} {ops : List Bytes} :
    operands k v = some ops ↔
      (k.multi = true ∧ ∃ items, v = .arr items ∧ items ≠ [] ∧ allStrings items = some ops) ∨
      (k.multi = false ∧ ∃ s, v = .str s ∧ ops = [cstr s]) := by
  unfold operands
  constructor
  · intro h
    cases hk : k.multi <;> cases v <;> simp only [hk, ↓reduceIte, Bool.false_eq_true] at h
    case false.str s =>
      cases h
      exact .inr ⟨rfl, s, rfl, rfl⟩
    case true.arr items =>
      cases items
      · cases h
      · exact .inl ⟨rfl, _, rfl, nofun, h⟩
    all_goals cases h
  · rintro (⟨hk, _ | ⟨i, is⟩, rfl, hne, hf⟩ | ⟨hk, s, rfl, rfl⟩)
    · exact absurd rfl hne
    · rw [hk]; exact hf
    · rw [hk]; rfl

theorem operands_nulFree {k : Kind} {v : JVal} {ops : List Bytes} (h : operands k v = some ops) :
    ∀ e ∈ ops, NulFree e := by
  rcases operands_eq_some.mp h with ⟨_, items, _, _, hf⟩ | ⟨_, s, _, rfl⟩
  · exact allStrings_nulFree hf
  · simp [nulFree_cstr]

theorem callocOk_zero_false {cfg : Cfg} (hs : cfg.Sane) : callocOk cfg (pathMatcherBytes 0) = false := by
  unfold Cfg.Sane at hs
  unfold callocOk
  simp only [Bool.not_eq_false', decide_eq_true_eq]
  omega

/-! ### create_matcher -/

theorem buildMatcher_eq_ok {cfg : Cfg} {ci : Bool} {key : Bytes} {v : JVal} {pm : PathMatcher} :
    buildMatcher cfg ci key v = .ok pm ↔ ∃ e, lookupEntry (cstr key) table = some e ∧
      pm.fn = (if ci then e.caseInsensitive else e.caseSensitive) ∧
      ((e.multi = true ∧ ∃ items, v = .arr items ∧
          callocOk cfg (pathMatcherBytes items.length) = true ∧ fillPathElements items = some pm.elems) ∨
       (e.multi = false ∧ ∃ s, v = .str s ∧
          callocOk cfg (pathMatcherBytes 1) = true ∧ pm.elems = [cstr s])) := by
  unfold buildMatcher
  constructor
  · intro h
    cases he : lookupEntry (cstr key) table with
    | none => rw [he] at h; cases h
    | some e =>
      rw [he] at h
      refine ⟨e, rfl, ?_⟩
      cases hm : e.multi <;> cases v <;> simp only [hm, ↓reduceIte, Bool.false_eq_true] at h
      case false.str s =>
        cases hc : callocOk cfg (pathMatcherBytes 1) <;> rw [hc] at h <;> cases h
        exact ⟨rfl, .inr ⟨rfl, s, rfl, rfl, rfl⟩⟩
      case true.arr items =>
        cases hc : callocOk cfg (pathMatcherBytes items.length) <;> rw [hc] at h
        · cases h
        · cases hf : fillPathElements items <;> rw [hf] at h <;> cases h
          exact ⟨rfl, .inl ⟨rfl, items, rfl, hc, hf⟩⟩
      all_goals cases h
  · obtain ⟨fn, elems⟩ := pm
    rintro ⟨e, he, rfl, ⟨hm, items, rfl, hc, hf⟩ | ⟨hm, s, rfl, hc, rfl⟩⟩
    · simp [he, hm, hc, hf]
    · simp [he, hm, hc]

/-- Soundness of `create_matcher`: what it builds is the declared matcher. -/
theorem buildMatcher_ok {cfg : Cfg} (hs : cfg.Sane) {ci : Bool} {key : Bytes} {v : JVal} {pm : PathMatcher}
    (h : buildMatcher cfg ci key v = .ok pm) :
    ∃ k ops, specKind (cstr key) = some k ∧ operands k v = some ops ∧
      kindOfFn pm.fn = (k, ci) ∧ pm.elems = ops := by
  obtain ⟨e, he, hfn, hv⟩ := buildMatcher_eq_ok.mp h
  obtain ⟨k, hk, hcs, hci, hm⟩ := (lookupEntry_specKind (nulFree_cstr key)).1 e he
  refine ⟨k, pm.elems, hk, operands_eq_some.mpr ?_, by rw [hfn]; cases ci <;> assumption, rfl⟩
  rw [← hm]
  rcases hv with ⟨hmu, items, rfl, hc, hf⟩ | ⟨hmu, s, rfl, _, hel⟩
  · refine .inl ⟨hmu, items, rfl, ?_, fillPathElements_eq_allStrings items ▸ hf⟩
    -- an empty array asks for `pathMatcherBytes 0`, which is over any sane heap cap
    rintro rfl
    rw [List.length_nil, callocOk_zero_false hs] at hc
    cases hc
  · exact .inr ⟨hmu, s, rfl, hel⟩

/-- Completeness of `create_matcher`: a declared, well-typed matcher that fits the heap is built. -/
theorem buildMatcher_complete {cfg : Cfg} {ci : Bool} {key : Bytes} {v : JVal} {k : Kind} {ops : List Bytes}
    (hk : specKind (cstr key) = some k) (ho : operands k v = some ops)
    (hfit1 : callocOk cfg (pathMatcherBytes 1) = true)
    (hfit : ∀ items, v = .arr items → items ≠ [] → callocOk cfg (pathMatcherBytes items.length) = true) :
    ∃ pm, buildMatcher cfg ci key v = .ok pm := by
  have hl := lookupEntry_specKind (nulFree_cstr key)
  cases he : lookupEntry (cstr key) table with
  | none => rw [hl.2 he] at hk; cases hk
  | some e =>
    obtain ⟨k', hk', _, _, hm⟩ := hl.1 e he
    obtain rfl : k' = k := Option.some.inj (hk'.symm.trans hk)
    refine ⟨⟨_, ops⟩, buildMatcher_eq_ok.mpr ⟨e, he, rfl, ?_⟩⟩
    rw [hm]
    rcases operands_eq_some.mp ho with ⟨hmu, items, rfl, hne, hf⟩ | ⟨hmu, s, rfl, rfl⟩
    · exact .inl ⟨hmu, items, rfl, hfit items rfl hne, fillPathElements_eq_allStrings items ▸ hf⟩
    · exact .inr ⟨hmu, s, rfl, hfit1, rfl⟩

/-- A key the option lookup of `create_fetch` would take for the option is never a matcher name:
    `create_matcher` fails on it. -/
theorem buildMatcher_loose_fails {cfg : Cfg} {ci : Bool} {key : Bytes} {v : JVal}
    (hl : looseOption (cstr key) = true) :
    ∀ pm, buildMatcher cfg ci key v ≠ .ok pm := by
  intro pm h
  obtain ⟨e, he, _⟩ := buildMatcher_eq_ok.mp h
  obtain ⟨hm, hname⟩ := lookupEntry_table (nulFree_cstr key) he
  have := table_not_option e hm
  rw [hname, hl] at this
  cases this

/-! ### the fill loop of add_matchers -/

/-- Proof device: the fill loop without the slot array. -/
inductive Built (cfg : Cfg) (ci : Bool) : Members → List PathMatcher → Prop
  | nil : Built cfg ci [] []
  | skip {m rest pms} : isOption m = true → Built cfg ci rest pms → Built cfg ci (m :: rest) pms
  | build {m rest pm pms} : isOption m = false → buildMatcher cfg ci m.1 m.2 = .ok pm →
      Built cfg ci rest pms → Built cfg ci (m :: rest) (pm :: pms)

theorem set_filled (filled : List PathMatcher) (r : Nat) (pm : PathMatcher) :
    (filled.map some ++ List.replicate (r + 1) none).set filled.length (some pm) =
      (filled ++ [pm]).map some ++ List.replicate r none := by
  rw [List.set_append_right _ _ (by simp), List.length_map, Nat.sub_self, List.replicate_succ,
    List.set_cons_zero, List.map_append, List.append_assoc]
  rfl

theorem createMatcher_filled {cfg : Cfg} {ci : Bool} {k : Bytes} {v : JVal} {pm : PathMatcher}
    (hb : buildMatcher cfg ci k v = .ok pm) (filled : List PathMatcher) (r : Nat) :
    createMatcher cfg ci k v filled.length (filled.map some ++ List.replicate r none) =
      match r with
      | 0 => .error .oobWrite
      | r' + 1 => .ok ((filled ++ [pm]).map some ++ List.replicate r' none) := by
  unfold createMatcher
  cases r with
  | zero => simp [hb]
  | succ r' =>
    have hlt : filled.length < (filled.map some ++ List.replicate (r' + 1) none).length := by simp
    simp only [hb, hlt, ↓reduceIte, set_filled]

/-- Invariant of the fill loop: the slots are the matchers built so far followed by NULLs. -/
theorem addMatchers_ok {cfg : Cfg} {fc ci : Bool} {n : Nat} :
    ∀ (members : Members) (filled : List PathMatcher) (r : Nat) (slots' : Slots),
      addMatchers cfg fc ci n members filled.length (filled.map some ++ List.replicate r none) = .ok slots' →
      ∃ pms, Built cfg ci members pms ∧ pms.length ≤ r ∧
        slots' = (filled ++ pms).map some ++ List.replicate (r - pms.length) none ∧
        (fc = true → filled.length + pms.length = n)
  | [], filled, r, slots', h => by
    unfold addMatchers at h
    split at h
    · simp at h
    · rename_i hc
      simp only [Except.ok.injEq] at h
      subst h
      exact ⟨[], .nil, by simp, by simp, fun hfc => by simpa [hfc] using hc⟩
  | (k, v) :: rest, filled, r, slots', h => by
    unfold addMatchers at h
    rw [isOptionKey_eq (k, v)] at h
    cases hopt : isOption (k, v)
    · simp only [hopt, Bool.not_false, ↓reduceIte] at h
      cases hb : buildMatcher cfg ci k v with
      | error w => simp [createMatcher, hb] at h
      | ok pm =>
        rw [createMatcher_filled hb] at h
        cases r with
        | zero => simp at h
        | succ r' =>
          rw [show filled.length + 1 = (filled ++ [pm]).length by simp] at h
          obtain ⟨pms, hpms, hle, hslots, hn⟩ := addMatchers_ok rest (filled ++ [pm]) r' slots' h
          refine ⟨pm :: pms, .build hopt hb hpms, by simp; omega, by simp [hslots], fun hfc => ?_⟩
          have := hn hfc
          simp at this ⊢
          omega
    · simp only [hopt, Bool.not_true, Bool.false_eq_true, ↓reduceIte] at h
      obtain ⟨pms, hpms, rest'⟩ := addMatchers_ok rest filled r slots' h
      exact ⟨pms, .skip hopt hpms, rest'⟩

theorem addMatchers_complete {cfg : Cfg} {fc ci : Bool} {n : Nat} {members : Members}
    {pms : List PathMatcher} (hb : Built cfg ci members pms) :
    ∀ (filled : List PathMatcher) (r : Nat), pms.length ≤ r →
      (fc = true → filled.length + pms.length = n) →
      addMatchers cfg fc ci n members filled.length (filled.map some ++ List.replicate r none) =
        .ok ((filled ++ pms).map some ++ List.replicate (r - pms.length) none) := by
  induction hb with
  | nil =>
    intro filled r _ hn
    unfold addMatchers
    cases fc
    · simp
    · simpa using hn rfl
  | @skip m rest pms hopt _ ih =>
    intro filled r hle hn
    unfold addMatchers
    simp only [isOptionKey_eq m, hopt, Bool.not_true, Bool.false_eq_true, ↓reduceIte]
    exact ih filled r hle hn
  | @build m rest pm pms hopt hbm _ ih =>
    intro filled r hle hn
    simp only [List.length_cons] at hle hn
    obtain ⟨r', rfl⟩ : ∃ r', r = r' + 1 := ⟨r - 1, by omega⟩
    unfold addMatchers
    simp only [isOptionKey_eq m, hopt, Bool.not_false, ↓reduceIte, createMatcher_filled hbm]
    rw [show filled.length + 1 = (filled ++ [pm]).length by simp,
      ih (filled ++ [pm]) r' (by omega) (fun hfc => by have := hn hfc; simp; omega)]
    simp

theorem Built.length {cfg : Cfg} {ci : Bool} {members : Members} {pms : List PathMatcher}
    (hb : Built cfg ci members pms) : pms.length = matcherCount members := by
  induction hb with
  | nil => rfl
  | skip hopt _ ih => simp [matcherCount, hopt, ih]
  | build hopt _ _ ih => simp [matcherCount, hopt, ih]

theorem Built.members {cfg : Cfg} {ci : Bool} {members : Members} {pms : List PathMatcher}
    (hb : Built cfg ci members pms) :
    ∀ m ∈ members, isOption m = true ∨ ∃ pm, buildMatcher cfg ci m.1 m.2 = .ok pm := by
  induction hb with
  | nil => nofun
  | skip hopt _ ih => exact List.forall_mem_cons.mpr ⟨.inl hopt, ih⟩
  | build _ hbm _ ih => exact List.forall_mem_cons.mpr ⟨.inr ⟨_, hbm⟩, ih⟩

theorem Built.of_members {cfg : Cfg} {ci : Bool} : ∀ {members : Members},
    (∀ m ∈ members, isOption m = true ∨ ∃ pm, buildMatcher cfg ci m.1 m.2 = .ok pm) →
    ∃ pms, Built cfg ci members pms
  | [], _ => ⟨[], .nil⟩
  | m :: rest, h => by
    obtain ⟨hm, hrest⟩ := List.forall_mem_cons.mp h
    obtain ⟨pms, hp⟩ := Built.of_members hrest
    cases hopt : isOption m
    · rcases hm with ho | ⟨pm, hpm⟩
      · rw [hopt] at ho; cases ho
      · exact ⟨pm :: pms, .build hopt hpm hp⟩
    · exact ⟨pms, .skip hopt hp⟩

/-- The conjunction over the built matchers is the conjunction over the declared matchers. -/
theorem Built.spec {cfg : Cfg} (hs : cfg.Sane) {ci : Bool} (path : Bytes) (hp : NulFree path)
    {members : Members} {pms : List PathMatcher} (hb : Built cfg ci members pms) :
    (∀ pm ∈ pms, evalFn pm.fn pm path ≠ 0) ↔
      ∀ m ∈ members, isOption m = false →
        ∃ k ops, specKind (cstr m.1) = some k ∧ operands k m.2 = some ops ∧ Spec k ci ops path := by
  induction hb with
  | nil => simp
  | skip hopt _ ih =>
    rw [List.forall_mem_cons, ih]
    exact ⟨fun h => ⟨fun h' => (by rw [hopt] at h'; cases h'), h⟩, fun h => h.2⟩
  | @build m rest pm pms hopt hbm _ ih =>
    obtain ⟨k, ops, hk, ho, hfn, rfl⟩ := buildMatcher_ok hs hbm
    have hev := evalFn_spec pm.fn pm path hp (operands_nulFree ho)
    rw [hfn] at hev
    rw [List.forall_mem_cons, List.forall_mem_cons, ih, hev]
    -- the kind and the operands of `m` are determined by `m`
    refine and_congr_left' ⟨fun h _ => ⟨k, _, hk, ho, h⟩, fun h => ?_⟩
    obtain ⟨k', ops', hk', ho', h⟩ := h hopt
    obtain rfl : k = k' := Option.some.inj (hk.symm.trans hk')
    obtain rfl := Option.some.inj (ho.symm.trans ho')
    exact h

/-! ### state_matches -/

theorem stateLoop_filled (path : Bytes) : ∀ (pms : List PathMatcher) (slots : Slots) (i : Nat),
    slots.drop i = pms.map some →
    stateLoop slots path i pms.length = .verdict (pms.all (fun pm => evalFn pm.fn pm path != 0))
  | [], _, _, _ => rfl
  | pm :: t, slots, i, h => by
    have hget : slots[i]? = some (some pm) := by rw [← List.head?_drop, h]; rfl
    have ht : slots.drop (i + 1) = t.map some := by rw [← List.tail_drop, h]; rfl
    rw [List.length_cons, stateLoop, hget, List.all_cons, bne]
    dsimp only
    cases evalFn pm.fn pm path == 0
    · exact stateLoop_filled path t slots (i + 1) ht
    · rfl

theorem stateMatches_filled (path : Bytes) {pms : List PathMatcher} (hpos : 0 < pms.length) :
    stateMatches ⟨pms.length, pms.map some⟩ path =
      .verdict (pms.all (fun pm => evalFn pm.fn pm path != 0)) := by
  obtain ⟨pm0, t, rfl⟩ := List.exists_cons_of_length_pos hpos
  exact stateLoop_filled path (pm0 :: t) _ 0 rfl

/-! ### the option lookup of create_fetch against the fill loop's own test -/

theorem isOption_loose {m : Bytes × JVal} (h : isOption m = true) :
    looseOption (cstr m.1) = true := by
  rw [beq_iff_eq.mp h]
  exact looseOption_optionKey

theorem getCaseInsensitive_eq_find : ∀ members : Members,
    getCaseInsensitive members = (members.find? fun m => looseOption (cstr m.1)).map (·.2)
  | [] => rfl
  | (k, v) :: rest => by
    rw [getCaseInsensitive_cons, List.find?_cons, getCaseInsensitive_eq_find rest]
    cases looseOption (cstr k) <;> rfl

theorem find?_congr {α : Type} {p q : α → Bool} : ∀ {l : List α}, (∀ x ∈ l, p x = q x) →
    l.find? p = l.find? q
  | [], _ => rfl
  | a :: l, h => by
    rw [List.find?_cons, List.find?_cons, h a List.mem_cons_self,
      find?_congr fun x hx => h x (List.mem_cons_of_mem _ hx)]

/-- When every member is either the option key or a matcher that builds, the cJSON lookup finds
    exactly the first member the fill loop skips. -/
theorem getCaseInsensitive_eq {cfg : Cfg} {ci : Bool} {members : Members}
    (h : ∀ m ∈ members, isOption m = true ∨ ∃ pm, buildMatcher cfg ci m.1 m.2 = .ok pm) :
    getCaseInsensitive members = (members.find? isOption).map (·.2) := by
  rw [getCaseInsensitive_eq_find, find?_congr]
  intro m hm
  cases hl : looseOption (cstr m.1)
  · exact (Bool.eq_false_iff.mpr fun ho => by rw [isOption_loose ho] at hl; cases hl).symm
  · rcases h m hm with ho | ⟨pm, hpm⟩
    · exact ho.symm
    · exact absurd hpm (buildMatcher_loose_fails hl pm)

theorem count_split (members : Members) :
    members.length = optionCount members + matcherCount members := by
  simp only [optionCount, matcherCount, ← List.countP_eq_length_filter]
  simpa using List.length_eq_countP_add_countP isOption (l := members)

theorem optionCount_pos_iff (members : Members) :
    0 < optionCount members ↔ (members.find? isOption).isSome = true := by
  rw [optionCount, ← List.countP_eq_length_filter, List.countP_pos_iff, List.find?_isSome]

/-- When the fill loop succeeds, the count and the case flag of `create_fetch` are what the
    property reads off the rule. -/
theorem Built.countAndCase {cfg : Cfg} {ci : Bool} {members : Members} {pms : List PathMatcher}
    (hb : Built cfg ci members pms) :
    countAndCase members =
      (members.length - min (optionCount members) 1, optionCI members) := by
  have hpos := optionCount_pos_iff members
  unfold Matcher.countAndCase optionCI
  rw [getCaseInsensitive_eq hb.members]
  cases hf : members.find? isOption with
  | none =>
    have : optionCount members = 0 := by simpa [hf] using hpos
    simp [this]
  | some kv =>
    have : 0 < optionCount members := by simpa [hf] using hpos
    simp [Nat.min_eq_right this]

theorem Built.count_iff {cfg : Cfg} {ci : Bool} {members : Members} {pms : List PathMatcher}
    (hb : Built cfg ci members pms) :
    (Matcher.countAndCase members).1 = matcherCount members ↔ optionCount members ≤ 1 := by
  have := count_split members
  rw [hb.countAndCase]
  simp only
  omega

/-! ### no write past the slots -/

theorem buildMatcher_not_oob {cfg : Cfg} {ci : Bool} {k : Bytes} {v : JVal} :
    buildMatcher cfg ci k v ≠ .error .oobWrite := by
  unfold buildMatcher
  cases lookupEntry (cstr k) table with
  | none => simp
  | some e =>
    obtain ⟨_, _, _, multi⟩ := e
    cases multi <;> cases v <;>
      simp only [Bool.false_eq_true, ↓reduceIte, ne_eq, Except.error.injEq, reduceCtorEq,
        not_false_eq_true]
    · split <;> simp
    · split
      · simp
      · split <;> simp

/-- Only a member that the option lookup of `create_fetch` does not take for the option can be
    stored (`buildMatcher_loose_fails`): with room for all of these the fill loop stays inside the
    slots. -/
theorem addMatchers_no_oob {cfg : Cfg} {fc ci : Bool} {n : Nat} :
    ∀ (members : Members) (idx : Nat) (slots : Slots),
      idx + members.countP (fun m => !looseOption (cstr m.1)) ≤ slots.length →
      addMatchers cfg fc ci n members idx slots ≠ .error .oobWrite
  | [], idx, slots, _ => by
    unfold addMatchers
    split <;> simp
  | (k, v) :: rest, idx, slots, h => by
    rw [List.countP_cons] at h
    unfold addMatchers
    by_cases hopt : isOptionKey k = true
    · simp only [hopt, Bool.not_true, Bool.false_eq_true, ↓reduceIte]
      exact addMatchers_no_oob rest idx slots (by omega)
    · simp only [hopt, Bool.not_false, ↓reduceIte]
      unfold createMatcher
      cases hb : buildMatcher cfg ci k v with
      | error w =>
        intro hc
        exact buildMatcher_not_oob (hb.trans (congrArg Except.error (Except.error.inj hc)))
      | ok pm =>
        have hl : looseOption (cstr k) = false :=
          Bool.eq_false_iff.mpr fun hl => buildMatcher_loose_fails hl pm hb
        simp only [hl, Bool.not_false, ↓reduceIte] at h
        simp only [show idx < slots.length by omega, ↓reduceIte]
        exact addMatchers_no_oob rest (idx + 1) _ (by rw [List.length_set]; omega)

theorem countP_le_count (members : Members) :
    members.countP (fun m => !looseOption (cstr m.1)) ≤ (countAndCase members).1 := by
  unfold countAndCase
  rw [getCaseInsensitive_eq_find]
  cases hf : members.find? (fun m => looseOption (cstr m.1)) with
  | none => exact List.countP_le_length
  | some m =>
    -- the member found is not among them
    have : members.countP (fun m => !looseOption (cstr m.1)) ≠ members.length := fun he => by
      have := List.countP_eq_length.mp he m (List.mem_of_find?_eq_some hf)
      rw [List.find?_some hf] at this
      cases this
    have := List.countP_le_length (p := fun m => !looseOption (cstr m.1)) (l := members)
    simp only [Option.map_some]
    omega

/-! ### create_fetch as a whole -/

theorem createFetch_obj_iff {cfg : Cfg} {members : Members} {f : Fetch} :
    createFetch cfg (.obj members) = .ok f ↔
      ∃ pms, Built cfg (optionCI members) members pms ∧ optionCount members ≤ 1 ∧
        1 ≤ matcherCount members ∧ matcherCount members ≤ cfg.maxMatchers ∧
        f = ⟨pms.length, pms.map some⟩ := by
  unfold createFetch createFetchWith
  simp only
  constructor
  · intro h
    split at h
    · cases h
    · rename_i h0
      split at h
      · cases h
      · rename_i hmax
        split at h
        · cases h
        · rename_i slots ha
          obtain ⟨pms, hb, _, hs, hn⟩ := addMatchers_ok (filled := []) members _ slots
            (by simpa [allocFetch] using ha)
          -- as many slots were filled as were counted, so the option key was counted at most once
          have hlen : (countAndCase members).1 = pms.length := by simpa using (hn rfl).symm
          have hl := hb.length
          have hopt := hb.count_iff.mp (hlen.trans hl)
          rw [hb.countAndCase] at hb
          rw [hlen] at h0 hmax hs
          refine ⟨pms, hb, hopt, by rw [beq_iff_eq] at h0; omega, by omega, ?_⟩
          rw [← Except.ok.inj h, hs, hlen]
          simp [allocFetch]
  · rintro ⟨pms, hb, hopt, h1, hmax, rfl⟩
    have hl := hb.length
    have hn := hb.count_iff.mpr hopt
    rw [hb.countAndCase] at hn ⊢
    rw [← hl] at h1 hmax hn
    simp only at hn ⊢
    rw [hn, if_neg (by rw [beq_iff_eq]; omega), if_neg (by omega)]
    have := addMatchers_complete (fc := true) (n := pms.length) hb [] pms.length
      (Nat.le_refl _) (fun _ => by simp)
    simp only [List.length_nil, List.map_nil, List.nil_append] at this
    simp [allocFetch, this]

theorem createFetch_cases {cfg : Cfg} {p : PathParam} {f : Fetch} (h : createFetch cfg p = .ok f) :
    (p = .absent ∧ f = allocFetch 1) ∨
      ∃ pms : List PathMatcher, 0 < pms.length ∧ f = ⟨pms.length, pms.map some⟩ := by
  cases p with
  | absent => exact .inl ⟨rfl, (Except.ok.inj h).symm⟩
  | notObject => cases h
  | obj members =>
    obtain ⟨pms, hb, _, h1, _, rfl⟩ := createFetch_obj_iff.mp h
    exact .inr ⟨pms, hb.length ▸ h1, rfl⟩

theorem createFetch_refuses {cfg : Cfg} {p : PathParam} (h : ∀ f, createFetch cfg p ≠ .ok f) :
    ∃ e, createFetch cfg p = .error e := by
  cases hc : createFetch cfg p with
  | error e => exact ⟨e, rfl⟩
  | ok f => exact absurd hc (h f)

end Cjet.Matcher
