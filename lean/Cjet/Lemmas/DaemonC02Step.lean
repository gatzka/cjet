/-
  C02 helper lemmas: everything that is sent while one object, one batch, one operation is processed,
  classified.  First the dispatcher (`handleMethod`, `sendResponse`, `parseJsonRpc` on a request-like
  object and on a response object), then closing a connection (`clearRoute`, `freePeerResources`
  phase by phase, `timeoutFired`), then the classification itself (`SendClass`) for the operations
  of `step`.
-/
import Cjet.Lemmas.DaemonC02Route

namespace Cjet.Daemon.C02

open Cjet Cjet.Json Cjet.Daemon

/-! ## the dispatcher -/

theorem handleMethod_cases (cfg : Config) (x : Ctx) (p : Peer) (req : Json) (m : Bytes) :
    (m = k "set" ∧ handleMethod cfg x p req m = setOrCall cfg x p req true) ∨
    (m = k "call" ∧ handleMethod cfg x p req m = setOrCall cfg x p req false) ∨
    HandlerOK req x (handleMethod cfg x p req m) :=
  handleMethod_induct₂
    (P := fun m r _ => (m = k "set" ∧ r = setOrCall cfg x p req true) ∨
      (m = k "call" ∧ r = setOrCall cfg x p req false) ∨ HandlerOK req x r) cfg x x p p req req
    (.inr (.inr (changeState_ok ..))) (.inl ⟨rfl, rfl⟩) (.inr (.inl ⟨rfl, rfl⟩)) (.inr (.inr (addElement_ok ..)))
    (.inr (.inr (removeElementReq_ok ..))) (.inr (.inr (fetchReq_ok ..))) (.inr (.inr (unfetchReq_ok ..)))
    (.inr (.inr (getReq_ok ..))) (.inr (.inr (configReq_ok ..))) (.inr (.inr (infoReq_ok ..)))
    (.inr (.inr (authenticateReq_ok ..))) (.inr (.inr (passwdReq_ok ..))) (fun _ => .inr (.inr (.refuse ..))) m

theorem handleMethod_spec (cfg : Config) (x : Ctx) (p : Peer) (req : Json) (m : Bytes) :
    MethodSpec p.conn req x (handleMethod cfg x p req m) := by
  rcases handleMethod_cases cfg x p req m with ⟨_, h⟩ | ⟨_, h⟩ | h
  · rw [h]; exact setOrCall_spec ..
  · rw [h]; exact setOrCall_spec ..
  · exact h.methodSpec

/-- What processing one request-like object (anything that is not a response object) does:
    `pre` are the observations of the handler, `fin` the response handed to `send_response`. -/
structure RequestSpec (c : Nat) (req : Json) (x : Ctx) (res : Ctx × Bool) : Prop where
  out : ∃ pre fin, res.1.out = fin ++ pre ++ x.out ∧ (∀ o ∈ pre, obsMethod o = true) ∧
    ((fin = [] ∧ res.2 = true ∧ (Answerable req → AcceptedRouted pre)) ∨
     (∃ id resp b, fin = [.send c resp b] ∧ res.2 = b ∧ req.getItem (k "id") = some id ∧ idOk id = true ∧
        WellFormed id resp ∧ ¬ AcceptedRouted (fin ++ pre))) ∧
    ((conns x.st.peers).Nodup →
      respCount (fin ++ pre) + pendingA res.1.st.peers ≤ pendingA x.st.peers + ansN req)
  routes : RouteStep c x.st.peers res.1.st.peers

theorem sendResponse_spec {c : Nat} {req : Json} {x : Ctx} {res : Ctx × Option Json}
    (h : MethodSpec c req x res) : RequestSpec c req x (sendResponse res.1 c res.2) := by
  obtain ⟨⟨pre, hout, hm, hsome, hnone⟩, hresp, hrt, hpend⟩ := h
  have hz := respCount_of_method hm
  rcases hresp with hr | ⟨id, j, hid, hok, hr, hwf⟩
  · rw [hr] at hpend ⊢
    refine ⟨⟨pre, [], hout, hm, .inl ⟨rfl, rfl, hnone hr⟩, fun hn => ?_⟩, hrt⟩
    show respCount pre + pendingA res.1.st.peers ≤ _
    rw [hz, Nat.zero_add]
    exact hpend hn
  · rw [hr] at hsome hpend ⊢
    refine ⟨⟨pre, [.send c j _], by rw [sendResponse_out, hout]; rfl, hm,
      .inr ⟨id, j, _, rfl, rfl, hid, hok, hwf, ?_⟩, fun hn => ?_⟩, (sendResponse_st ..).symm ▸ hrt⟩
    · exact not_acceptedRouted (List.forall_mem_cons.2 ⟨hwf.not_accepted .., hsome rfl⟩)
    · have := hpend hn
      rw [Option.isSome_some, if_pos rfl] at this
      rw [sendResponse_st]
      show (if isResponse j = true then 1 else 0) + respCount pre + _ ≤ _
      rw [hz, hwf.isResponse, if_pos rfl]
      omega

theorem HandlerOK.not_accepted {c : Nat} {req : Json} {x : Ctx} {res : Ctx × Option Json} (h : HandlerOK req x res)
    {new : List Obs} (hnew : (sendResponse res.1 c res.2).1.out = new ++ x.out) : ¬ AcceptedRouted new := by
  obtain ⟨⟨⟨pre, hpre, hnot⟩, _⟩, hfrom⟩ := h
  have hna : ∀ o ∈ pre, obsAccepted o = false := fun o ho => obsNotif_not_accepted (hnot o ho)
  rw [sendResponse_out, hpre, ← List.append_assoc] at hnew
  obtain rfl := List.append_cancel_right hnew
  rcases hfrom.respFor with hr | ⟨id, j, _, _, hr, hwf⟩ <;> rw [hr]
  · exact not_acceptedRouted hna
  · exact not_acceptedRouted (List.forall_mem_cons.2 ⟨hwf.not_accepted .., hna⟩)

/-- `parseJsonRpc` on an object with a "method" member, or with none of "method", "result", "error" -/
theorem parseJsonRpc_request (cfg : Config) (x : Ctx) (c : Nat) (p : Peer) (req : Json)
    (hp : findPeer x.st.peers c = some p)
    (hm : (req.getItem (k "method")).isSome = true ∨
      (req.getItem (k "result") = none ∧ req.getItem (k "error") = none)) :
    RequestSpec c req x (parseJsonRpc cfg x c req) := by
  have hc : p.conn = c := findPeer_conn hp
  unfold parseJsonRpc
  simp only [hp]
  split
  · rename_i m _
    have := sendResponse_spec (handleMethod_spec cfg x p req m)
    rw [hc] at this
    exact this
  · exact sendResponse_spec (res := (x, _)) (HandlerOK.refuse ..).methodSpec
  · rename_i hnone
    rcases hm with hm | ⟨h1, h2⟩
    · simp [hnone] at hm
    · simp only [h1, h2]
      exact sendResponse_spec (res := (x, _)) (HandlerOK.refuse ..).methodSpec

/-- `j`, sent to `d`, is the relay of the response object `m` for routing record `r` -/
def IsRelayOf (r : Route) (m : Json) (d : Nat) (j : Json) : Prop :=
  m.getItem (k "method") = none ∧ m.getItem (k "id") = some (.str r.rid) ∧ d = r.requester ∧
  ∃ oid typ payload, r.originId = some oid ∧ idOk oid = true ∧ (typ = "result" ∨ typ = "error") ∧
    m.getItem (k typ) = some payload ∧ j = .obj [(k "id", oid), (k typ, payload)]

theorem parseJsonRpc_response (cfg : Config) (x : Ctx) (c : Nat) (p : Peer) (req : Json)
    (hp : findPeer x.st.peers c = some p) (hm : req.getItem (k "method") = none)
    (hre : (req.getItem (k "result")).isSome = true ∨ (req.getItem (k "error")).isSome = true) :
    (parseJsonRpc cfg x c req).1 = x ∨
    ∃ r ∈ p.routes, (parseJsonRpc cfg x c req).1.st = { x.st with peers := removeRoute x.st.peers c r.rid } ∧
      ((parseJsonRpc cfg x c req).1.out = .timerDestroy r.timer :: x.out ∨
       ∃ j b, IsRelayOf r req r.requester j ∧
        (parseJsonRpc cfg x c req).1.out = .send r.requester j b :: .timerDestroy r.timer :: x.out) := by
  obtain ⟨typ, payload, htyp, hpay, heq⟩ : ∃ typ payload, (typ = "result" ∨ typ = "error") ∧
      req.getItem (k typ) = some payload ∧ parseJsonRpc cfg x c req = routingResponse x p req payload typ := by
    cases h1 : req.getItem (k "result") with
    | some res => exact ⟨_, res, .inl rfl, h1, parseJsonRpc_result hp hm h1⟩
    | none =>
      cases h2 : req.getItem (k "error") with
      | some err => exact ⟨_, err, .inr rfl, h2, parseJsonRpc_error hp hm h1 h2⟩
      | none => simp [h1, h2] at hre
  rw [heq]
  rcases routingResponse_cases x p req payload typ with h | h | ⟨rid, r, hid, hf, h⟩
  · exact .inl (by rw [h])
  · exact .inl (by rw [h])
  · obtain rfl : r.rid = rid := by simpa using List.find?_some hf
    refine .inr ⟨r, List.mem_of_find?_eq_some hf, ?_⟩
    rw [findPeer_conn hp] at h
    rcases h with h | ⟨oid, resp, ho, hresp, h⟩ <;> rw [h]
    · exact ⟨rfl, .inl rfl⟩
    · obtain ⟨rfl, hok⟩ := resultResponse_eq hresp
      exact ⟨send'_st .., .inr ⟨_, _, ⟨hm, hid, rfl, oid, typ, payload, ho, hok, htyp, hpay, rfl⟩, send'_out_eq ..⟩⟩

/-! ## a connection goes away, a timer fires -/

/-- the error response a requester gets when the owner of a routed request goes away -/
def shutdownAnswer (oid : Json) : Json :=
  .obj [(k "id", oid), (k "error", errorObject INTERNAL_ERROR "reason" (k "peer shuts down"))]

/-- the error response a requester gets when the owner does not reply in time -/
def timeoutAnswer (oid : Json) : Json :=
  .obj [(k "id", oid), (k "error", errorObject INTERNAL_ERROR "reason" (k "timeout for routed request"))]

/-- `o` is the shutdown answer for routing record `r` (owner side `c` leaving) -/
def IsShutdownOf (c : Nat) (r : Route) (o : Obs) : Prop :=
  r.requester ≠ c ∧ ∃ oid b, r.originId = some oid ∧ idOk oid = true ∧ o = .send r.requester (shutdownAnswer oid) b

theorem clearRoute_out (x : Ctx) (r : Route) (c : Nat) :
    ∃ new, (clearRoute x r c).out = new ++ x.out ∧ (∀ o ∈ new, IsNotif o ∨ IsShutdownOf c r o) ∧
      respCount new ≤ if routeAnswerable r = true then 1 else 0 := by
  rcases clearRoute_cases x r c with h | ⟨oid, resp, hne, ho, hresp, h⟩ <;> rw [h]
  · exact ⟨[_], rfl, List.forall_mem_singleton.2 (.inl rfl), Nat.zero_le _⟩
  · obtain ⟨rfl, hok⟩ := errorResponse_eq hresp
    refine ⟨[_, _], send'_out_eq .., List.forall_mem_cons.2 ⟨.inr ⟨hne, oid, _, ho, hok, rfl⟩,
      List.forall_mem_singleton.2 (.inl rfl)⟩, ?_⟩
    rw [if_pos (routeAnswerable_of ho hok)]
    exact respCount_send_le ..

theorem clearRoutes_out (l : List Route) (c : Nat) (x : Ctx) :
    ∃ new, (clearRoutes x l c).out = new ++ x.out ∧ (∀ o ∈ new, IsNotif o ∨ ∃ r ∈ l, IsShutdownOf c r o) ∧
      respCount new ≤ l.countP routeAnswerable := by
  induction l generalizing x with
  | nil => exact ⟨[], rfl, by simp, Nat.zero_le _⟩
  | cons r t ih =>
    obtain ⟨n1, ho1, hp1, hc1⟩ := clearRoute_out x r c
    obtain ⟨n2, ho2, hp2, hc2⟩ := ih (clearRoute x r c)
    refine ⟨n2 ++ n1, by rw [clearRoutes_cons, ho2, ho1, List.append_assoc], fun o ho => ?_, ?_⟩
    · rcases List.mem_append.1 ho with h | h
      · exact (hp2 o h).imp_right fun ⟨r', hr', hs⟩ => ⟨r', List.mem_cons_of_mem _ hr', hs⟩
      · exact (hp1 o h).imp_right fun hs => ⟨r, List.mem_cons_self .., hs⟩
    · rw [respCount_append, List.countP_cons]
      omega

/-! ## `freePeerResources`, phase by phase -/

/-- `y` comes from `x` in the course of tearing down connection `c`, whose table held `l`: what is
    sent is a notification or the shutdown answer for a record of `l`; every response object sent is
    paid for by a record that owed an answer and has left the tables; no record has entered one. -/
structure Teardown (c : Nat) (l : List Route) (x y : Ctx) : Prop where
  out : ∃ new, y.out = new ++ x.out ∧ (∀ o ∈ new, IsNotif o ∨ ∃ r ∈ l, IsShutdownOf c r o) ∧
    respCount new + pendingA y.st.peers ≤ pendingA x.st.peers
  owned : RoutesOwned x.st.peers → RoutesOwned y.st.peers

namespace Teardown

theorem refl (c : Nat) (l : List Route) (x : Ctx) : Teardown c l x x :=
  ⟨⟨[], rfl, List.forall_mem_nil _, Nat.le_of_eq (Nat.zero_add _)⟩, id⟩

theorem trans {c : Nat} {l : List Route} {x y z : Ctx} (h1 : Teardown c l x y) (h2 : Teardown c l y z) :
    Teardown c l x z := by
  obtain ⟨⟨n1, e1, p1, c1⟩, o1⟩ := h1
  obtain ⟨⟨n2, e2, p2, c2⟩, o2⟩ := h2
  refine ⟨⟨n2 ++ n1, by rw [e2, e1, List.append_assoc], fun o ho => ?_, ?_⟩, o2 ∘ o1⟩
  · exact (List.mem_append.1 ho).elim (p2 o) (p1 o)
  · rw [respCount_append]
    omega

theorem quiet {c : Nat} {l : List Route} {x y : Ctx} (h : OutExt IsNotif x y)
    (hle : pendingA y.st.peers ≤ pendingA x.st.peers) (hown : RoutesOwned x.st.peers → RoutesOwned y.st.peers) :
    Teardown c l x y := by
  obtain ⟨new, e, hp⟩ := h
  refine ⟨⟨new, e, fun o ho => .inl (hp o ho), ?_⟩, hown⟩
  rw [respCount_of_method fun o ho => obsNotif_obsMethod (hp o ho)]
  omega

theorem of_frame {c : Nat} {l : List Route} {x y : Ctx} (h : Frame IsNotif x y) : Teardown c l x y :=
  quiet h.out (Nat.le_of_eq (pendingA_of_routesMap h.routes)) (·.routeStep (.of_routesMap (c := c) h.routes))

end Teardown

theorem freeTable_teardown {x : Ctx} {c : Nat} {p : Peer} (hp : findPeer x.st.peers c = some p) :
    Teardown c p.routes x (freeTable x c p) := by
  obtain ⟨new, e, hcl, hcnt⟩ := clearRoutes_out p.routes c x
  refine ⟨⟨new, e, hcl, ?_⟩, fun h => ?_⟩ <;> rw [freeTable_st]
  · have := pendingA_map_sub (findPeer_mem hp) (fun q => if q.conn == c then { q with routes := [] } else q)
      (p.routes.countP routeAnswerable) (fun q => by split <;> simp) (by simp [findPeer_conn hp])
    exact Nat.le_trans (Nat.add_le_add_right hcnt _) (Nat.add_comm .. ▸ this)
  · exact h.routeStep (.updatePeer (c := c) _ _ _ fun _ _ => ⟨rfl, fun _ hr => nomatch hr⟩)

theorem freeRequests_teardown (x : Ctx) (c : Nat) (l : List Route) : Teardown c l x (freeRequests x c) := by
  obtain ⟨new, e, hcl, _⟩ := clearRoutes_out (requestsOf x.st.peers c) c x
  refine .quiet ⟨new, e, fun o ho => (hcl o ho).resolve_right ?_⟩ ?_ fun h => ?_
  · rintro ⟨r, hr, hne, _⟩
    obtain ⟨_, _, hq⟩ := List.mem_flatMap.1 hr
    exact hne (beq_iff_eq.1 (List.mem_filter.1 hq).2)
  · rw [freeRequests_st]
    exact pendingA_map_le _ _ fun _ => countP_filter_le ..
  · rw [freeRequests_st]
    exact h.routeStep (.map (c := c) _ _ fun _ => ⟨rfl, fun _ hr => .inl (List.mem_filter.1 hr).1⟩)

theorem removeElements_frame (x : Ctx) (c : Nat) (l : List Element) : Frame IsNotif x (removeElements x c l) :=
  removeElements_induct (P := Frame IsNotif x) c l (.refl x) fun _ _ _ _ _ _ h => h.trans (removeElement_frame ..)

theorem unsubscribe_frame (x : Ctx) (c : Nat) : Frame IsNotif x (unsubscribe x c) :=
  .setSt _ _ ((routesMap_updatePeer ..).trans (routesMap_mapElements ..))

theorem deletePeer_teardown (c : Nat) (l : List Route) (x : Ctx) : Teardown c l x (deletePeer x c) :=
  .quiet (.refl _) (pendingA_filter_le ..) fun h q hq => h q (List.mem_filter.1 hq).1

theorem freePeerResources_teardown {x : Ctx} {c : Nat} {p : Peer} (hp : findPeer x.st.peers c = some p) :
    Teardown c p.routes x (freePeerResources x c) := by
  rw [freePeerResources_phases hp]
  exact (freeTable_teardown hp).trans <| (freeRequests_teardown ..).trans <|
    (Teardown.of_frame (unsubscribe_frame ..)).trans <|
    (Teardown.of_frame (removeElements_frame ..)).trans (deletePeer_teardown ..)

theorem timeoutFired_spec (x : Ctx) (t : Nat) :
    timeoutFired x t = x ∨
    ∃ p ∈ x.st.peers, ∃ r ∈ p.routes, r.timer = t ∧
      (timeoutFired x t).st = { x.st with peers := removeRoute x.st.peers r.owner r.rid } ∧
      ((timeoutFired x t).out = .timerDestroy t :: x.out ∨
       ∃ oid b, r.originId = some oid ∧ idOk oid = true ∧
         (timeoutFired x t).out = .timerDestroy t :: .send r.requester (timeoutAnswer oid) b :: x.out) := by
  rcases timeoutFired_cases x t with h | ⟨r, hf, h⟩
  · exact .inl h
  · obtain ⟨p, hp, hr⟩ := List.mem_flatMap.1 (List.mem_of_find?_eq_some hf)
    refine .inr ⟨p, hp, r, hr, beq_iff_eq.1 (List.find?_some (p := fun r : Route => r.timer == t) hf), ?_⟩
    rcases h with h | ⟨oid, resp, ho, hresp, h⟩ <;> rw [h]
    · exact ⟨rfl, .inl rfl⟩
    · obtain ⟨rfl, hok⟩ := errorResponse_eq hresp
      exact ⟨by rw [emit_st, send'_st], .inr ⟨oid, _, ho, hok, by rw [emit_out, send'_out_eq]; rfl⟩⟩

/-! ## classification of what is sent -/

/-- the members a message consists of -/
def members : Option Json → List Json
  | some (.arr l) => l
  | some (.obj l) => [.obj l]
  | _ => []

/-- `m` is not a response object: it has a "method" member, or neither "result" nor "error" -/
def RequestLike (m : Json) : Prop :=
  (m.getItem (k "method")).isSome = true ∨ (m.getItem (k "result") = none ∧ m.getItem (k "error") = none)

/-- `j`, sent to `d`, is the immediate response to request-like object `m` -/
def IsImmediateOf (m : Json) (j : Json) : Prop :=
  RequestLike m ∧ ∃ id, m.getItem (k "id") = some id ∧ idOk id = true ∧ WellFormed id j

theorem requestLike_or_response (m : Json) :
    RequestLike m ∨ (m.getItem (k "method") = none ∧
      ((m.getItem (k "result")).isSome = true ∨ (m.getItem (k "error")).isSome = true)) := by
  unfold RequestLike
  cases m.getItem (k "method") with
  | some _ => exact .inl (.inl rfl)
  | none =>
    cases m.getItem (k "result") with
    | some _ => exact .inr ⟨rfl, .inl rfl⟩
    | none =>
      cases m.getItem (k "error") with
      | some _ => exact .inr ⟨rfl, .inr rfl⟩
      | none => exact .inl (.inr ⟨rfl, rfl⟩)

/-- how a send made while messages of connection `c` are processed is classified against the
    state `ps0` at the beginning of the operation -/
def SendClass (ps0 : List Peer) (c : Nat) (l : List Json) (d : Nat) (j : Json) : Prop :=
  hasMethod j = true ∨ (d = c ∧ ∃ m ∈ l, IsImmediateOf m j) ∨
  ∃ m ∈ l, ∃ r, IsRelayOf r m d j ∧
    ((∃ p0, findPeer ps0 c = some p0 ∧ r ∈ p0.routes) ∨ r.requester = c)

theorem parseJsonRpc_class (cfg : Config) (ps0 : List Peer) (x : Ctx) (c : Nat) {req : Json} {l : List Json}
    (hreq : req ∈ l) (h0 : RouteStep c ps0 x.st.peers) :
    ∃ new, (parseJsonRpc cfg x c req).1.out = new ++ x.out ∧
      RouteStep c ps0 (parseJsonRpc cfg x c req).1.st.peers ∧
      ∀ d j b, Obs.send d j b ∈ new → SendClass ps0 c l d j := by
  have hnil : ∀ d j b, Obs.send d j b ∈ [] → SendClass ps0 c l d j := fun _ _ _ h => (List.not_mem_nil h).elim
  cases hp : findPeer x.st.peers c with
  | none => rw [parseJsonRpc_noPeer hp]; exact ⟨[], rfl, h0, hnil⟩
  | some p =>
    rcases requestLike_or_response req with hrl | ⟨hm, hre⟩
    · obtain ⟨⟨pre, fin, hout, hpre, hfin, _⟩, hrt⟩ := parseJsonRpc_request cfg x c p req hp hrl
      refine ⟨fin ++ pre, hout, h0.trans hrt, fun d j b hmem => ?_⟩
      rcases List.mem_append.1 hmem with h | h
      · rcases hfin with ⟨rfl, _⟩ | ⟨id, resp, b', rfl, _, hid, hok, hwf, _⟩
        · cases h
        · obtain ⟨rfl, rfl, rfl⟩ := Obs.send.inj (List.mem_singleton.1 h)
          exact .inr (.inl ⟨rfl, req, hreq, hrl, id, hid, hok, hwf⟩)
      · exact .inl (hpre _ h)
    · rcases parseJsonRpc_response cfg x c p req hp hm hre with h | ⟨r, hr, hst, hout | ⟨j, b, hrel, hout⟩⟩
      · rw [h]; exact ⟨[], rfl, h0, hnil⟩
      · refine ⟨[_], hout, h0.trans (hst ▸ routeStep_removeRoute ..), fun _ _ _ h => ?_⟩
        cases List.mem_singleton.1 h
      · refine ⟨[_, _], hout, h0.trans (hst ▸ routeStep_removeRoute ..), fun d j' b' h => ?_⟩
        rcases List.mem_cons.1 h with h | h
        · obtain ⟨rfl, rfl, rfl⟩ := Obs.send.inj h
          refine .inr (.inr ⟨req, hreq, r, hrel, ?_⟩)
          -- the record was in `c`'s table when the operation began, or was made for `c` since
          obtain ⟨p0, hp0, hsub⟩ := h0.findPeer_some hp
          exact (hsub r hr).imp (fun h => ⟨p0, hp0, h⟩) (·.1)
        · cases List.mem_singleton.1 h

theorem parseJsonArray_class (cfg : Config) (ps0 : List Peer) (c : Nat) {l l' : List Json} (hl : ∀ m ∈ l, m ∈ l')
    (x : Ctx) (h0 : RouteStep c ps0 x.st.peers) :
    ∃ new, (parseJsonArray cfg x c l).1.out = new ++ x.out ∧
      RouteStep c ps0 (parseJsonArray cfg x c l).1.st.peers ∧
      ∀ d j b, Obs.send d j b ∈ new → SendClass ps0 c l' d j := by
  induction l generalizing x with
  | nil => exact ⟨[], rfl, h0, fun _ _ _ h => (List.not_mem_nil h).elim⟩
  | cons m rest ih =>
    cases m with
    | obj lm =>
      obtain ⟨n1, ho1, hr1, hc1⟩ := parseJsonRpc_class cfg ps0 x c (hl _ (List.mem_cons_self ..)) h0
      rw [parseJsonArray_cons_obj]
      split
      · obtain ⟨n2, ho2, hr2, hc2⟩ := ih (fun m hm => hl m (List.mem_cons_of_mem _ hm)) _ hr1
        refine ⟨n2 ++ n1, by rw [ho2, ho1, List.append_assoc], hr2, fun d j b hmem => ?_⟩
        exact (List.mem_append.1 hmem).elim (hc2 d j b) (hc1 d j b)
      · exact ⟨n1, ho1, hr1, hc1⟩
    | _ => exact ⟨[], rfl, h0, fun _ _ _ h => (List.not_mem_nil h).elim⟩

theorem parseMessage_class (cfg : Config) (ps0 : List Peer) (c : Nat) (msg : Option Json) (x : Ctx)
    (h0 : RouteStep c ps0 x.st.peers) :
    ∃ new, (parseMessage cfg x c msg).1.out = new ++ x.out ∧
      RouteStep c ps0 (parseMessage cfg x c msg).1.st.peers ∧
      ∀ d j b, Obs.send d j b ∈ new → SendClass ps0 c (members msg) d j := by
  unfold parseMessage
  split
  · exact parseJsonArray_class cfg ps0 c (fun _ h => h) x h0
  · exact parseJsonRpc_class cfg ps0 x c (List.mem_singleton.2 rfl) h0
  · exact ⟨[], rfl, h0, fun _ _ _ h => (List.not_mem_nil h).elim⟩

theorem parseMessage_routeStep (cfg : Config) (x : Ctx) (c : Nat) (msg : Option Json) :
    RouteStep c x.st.peers (parseMessage cfg x c msg).1.st.peers :=
  let ⟨_, _, h, _⟩ := parseMessage_class cfg _ c msg x (.refl ..)
  h

theorem parseJsonRpc_conns (cfg : Config) (x : Ctx) (c : Nat) (l : List (Bytes × Json)) :
    conns (parseJsonRpc cfg x c (.obj l)).1.st.peers = conns x.st.peers :=
  (parseMessage_routeStep cfg x c (some (.obj l))).conns

/-! ## whole operations -/

/-- what `closePeer` adds, seen from a state `ps0` that the current one descends from -/
theorem closePeer_class (ps0 : List Peer) (c : Nat) (x : Ctx) (h0 : RouteStep c ps0 x.st.peers) :
    ∃ new, (closePeer x c).out = .closed c :: new ++ x.out ∧
      (∀ q ∈ (closePeer x c).st.peers, q.conn ≠ c) ∧
      ∀ d j b, Obs.send d j b ∈ new → hasMethod j = true ∨
        ∃ p0 r, findPeer ps0 c = some p0 ∧ r ∈ p0.routes ∧ IsShutdownOf c r (.send d j b) := by
  cases hp : findPeer x.st.peers c with
  | none =>
    exact ⟨[], congrArg (fun y : Ctx => Obs.closed c :: y.out) (freePeerResources_none hp), freePeerResources_gone x c,
      fun _ _ _ h => (List.not_mem_nil h).elim⟩
  | some p =>
    obtain ⟨⟨new, hout, hcl, _⟩, _⟩ := freePeerResources_teardown hp
    refine ⟨new, congrArg (Obs.closed c :: ·) hout, freePeerResources_gone x c, fun d j b hmem => ?_⟩
    rcases hcl _ hmem with h | ⟨r, hr, hs⟩
    · exact .inl (isNotification_hasMethod h)
    -- the record was in `c`'s table when the operation began: one made for `c` since is not answered
    · obtain ⟨p0, hp0, hsub⟩ := h0.findPeer_some hp
      exact .inr ⟨p0, r, hp0, (hsub r hr).resolve_right fun h => hs.1 h.1, hs⟩
/-- Everything sent in a `.message c …` operation. -/
theorem step_message_class (cfg : Config) (s : State) (c : Nat) (msg : Option Json) (o : Oracle)
    (d : Nat) (j : Json) (b : Bool) (h : Obs.send d j b ∈ (step cfg s (.message c msg o)).2) :
    SendClass s.peers c (members msg) d j ∨
    (∃ p0 r, findPeer s.peers c = some p0 ∧ r ∈ p0.routes ∧ IsShutdownOf c r (.send d j b)) ∧
      Obs.closed c ∈ (step cfg s (.message c msg o)).2 ∧
      ∀ q ∈ (step cfg s (.message c msg o)).1.peers, q.conn ≠ c := by
  unfold step at h ⊢
  dsimp only at h ⊢
  split at h
  · simp at h
  · rename_i hlive
    simp only [hlive] at ⊢
    obtain ⟨new, hout, hrt, hcl⟩ := parseMessage_class cfg s.peers c msg (mkCtx s o) (RouteStep.refl ..)
    cases hok : (parseMessage cfg (mkCtx s o) c msg).2 with
    | true =>
      simp only [hok, if_true, List.mem_reverse] at h
      rw [hout] at h
      simp only [mkCtx, List.append_nil] at h
      exact Or.inl (hcl d j b h)
    | false =>
      simp only [hok, Bool.false_eq_true, if_false, List.mem_reverse] at h ⊢
      obtain ⟨new2, hout2, hgone, hcl2⟩ := closePeer_class s.peers c _ hrt
      rw [hout2, hout] at h
      simp only [mkCtx, List.append_nil, List.mem_cons, List.mem_append] at h
      rcases h with (h | h) | h
      · cases h
      · rcases hcl2 d j b h with h' | h'
        · exact Or.inl (Or.inl h')
        · exact Or.inr ⟨h', by rw [hout2]; exact List.mem_cons_self .., hgone⟩
      · exact Or.inl (hcl d j b h)

/-- Everything sent in a `.disconnect c` operation. -/
theorem step_disconnect_class (cfg : Config) (s : State) (c : Nat) (o : Oracle)
    (d : Nat) (j : Json) (b : Bool) (h : Obs.send d j b ∈ (step cfg s (.disconnect c o)).2) :
    hasMethod j = true ∨
    (∃ p0 r, findPeer s.peers c = some p0 ∧ r ∈ p0.routes ∧ IsShutdownOf c r (.send d j b)) ∧
      ∀ q ∈ (step cfg s (.disconnect c o)).1.peers, q.conn ≠ c := by
  unfold step at h ⊢
  dsimp only at h ⊢
  split at h
  · simp at h
  · rename_i hlive
    simp only [hlive] at ⊢
    obtain ⟨new2, hout2, hgone, hcl2⟩ := closePeer_class s.peers c (mkCtx s o) (RouteStep.refl ..)
    simp only [List.mem_reverse] at h
    rw [hout2] at h
    simp only [mkCtx, List.append_nil, List.mem_cons] at h
    rcases h with h | h
    · cases h
    · rcases hcl2 d j b h with h' | h'
      · exact Or.inl h'
      · exact Or.inr ⟨h', hgone⟩

end Cjet.Daemon.C02
