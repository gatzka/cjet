/-
  DaemonC07Run — the timer ledger lifted to `step` and `run` of the daemon model.

  Every operation of the daemon model is a sequence of router steps in which every stored entry
  names a CONNECTED owner (`Steps7`), provided the elements are owned (`EO`); the "no timer is lost"
  half of the ledger is proved on these steps.  `tlog os` is the timer log (newest first) of the
  observation lists `os` a run returned.  `LedgerU s tl` (unconditional) and `LedgerC s tl` (with
  distinct routed ids) are invariants of (state, log of the whole history).
-/
import Cjet.Lemmas.DaemonC03Step

namespace Cjet.Daemon.C07

open Cjet Cjet.Json Cjet.Daemon Cjet.Daemon.C03

/-! ## steps whose stored entries name a connected owner

  The second half of C03's simulation (`sim_step` in `DaemonC03Step`). -/

theorem noIssue_of_drop {l : Lbl} (h : ∃ o r, l = .drop o r) : NoIssue l := by
  obtain ⟨o, r, rfl⟩ := h; trivial

theorem sim7_step (cfg : Config) (s : State) (op : Op) (hw : (rsS s []).Wf) (he : EO s) (tl : List Obs) :
    ∃ ls, OpLbls cfg s op ls ∧
      Steps7 ls (rsS s tl) (rsS (step cfg s op).1 (tobs (step cfg s op).2.reverse ++ tl)) :=
  (sim_step cfg s op hw tl).imp fun _ h => ⟨h.1, h.2.live he⟩

/-! ## logs -/

/-- timer observations of the per-operation output lists of a run, newest first -/
def tlog (os : List (List Obs)) : List Obs := tobs os.flatten.reverse

@[simp] theorem tlog_nil : tlog [] = [] := rfl

theorem tlog_concat (os : List (List Obs)) (o : List Obs) : tlog (os ++ [o]) = tobs o.reverse ++ tlog os := by
  simp [tlog, tobs_append]

theorem armed_tobs (l : List Obs) : armed (tobs l) = armed l := by
  induction l with
  | nil => rfl
  | cons o t ih =>
    cases o with
    | send c j b => exact ih
    | closed c => exact ih
    | timerDestroy t' => exact ih
    | timerArm t' n => show t' :: armed (tobs t) = t' :: armed t; rw [ih]

theorem destroyed_reverse (l : List Obs) : destroyed l.reverse = (destroyed l).reverse := by
  simp [destroyed, List.filterMap_reverse]

theorem armed_reverse (l : List Obs) : armed l.reverse = (armed l).reverse := by
  simp [armed, List.filterMap_reverse]

theorem destroyed_tlog (os : List (List Obs)) : destroyed (tlog os) = (destroyed os.flatten).reverse := by
  rw [tlog, destroyed_tobs, destroyed_reverse]

theorem armed_tlog (os : List (List Obs)) : armed (tlog os) = (armed os.flatten).reverse := by
  rw [tlog, armed_tobs, armed_reverse]

theorem nodup_of_reverse {l : List Nat} (h : l.reverse.Nodup) : l.Nodup := by
  have := nodup_reverse h
  rwa [List.reverse_reverse] at this

theorem count_eq_one {l : List Nat} (hn : l.Nodup) {t : Nat} (ht : t ∈ l) : l.count t = 1 := by
  rw [hn.count]; simp [ht]

/-! ## the unconditional ledger -/

structure LedgerU (s : State) (tl : List Obs) : Prop where
  wf : RoutesWf s
  d : DInv (rsS s tl)
  a : AInv (rsS s tl)

theorem ledgerU_init (us : List User) : LedgerU { users := us } [] := by
  refine ⟨routesWf_init us, ⟨?_, ?_⟩, ⟨?_, ?_, ?_, ?_⟩⟩ <;> simp [rsS, vRoutes]

theorem ledgerU_step (cfg : Config) (s : State) (op : Op) (tl : List Obs) (h : LedgerU s tl) :
    LedgerU (step cfg s op).1 (tobs (step cfg s op).2.reverse ++ tl) := by
  obtain ⟨ls, _, hs⟩ := sim_step cfg s op h.wf tl
  exact ⟨routesWf_step cfg s op h.wf, dinv_steps hs.steps h.wf h.d, ainv_steps hs.steps h.a⟩

theorem ledgerU_run (cfg : Config) (ops : List Op) (s : State) (tl : List Obs) (h : LedgerU s tl) :
    LedgerU (run cfg s ops).1 (tlog (run cfg s ops).2 ++ tl) :=
  run_inv (I := fun s H => LedgerU s (tlog H ++ tl)) (H := []) cfg ops
    (fun s op H h => by rw [tlog_concat, List.append_assoc]; exact ledgerU_step cfg s op _ h) h

theorem ledgerU_of_run (cfg : Config) (us : List User) (ops : List Op) :
    LedgerU (run cfg { users := us } ops).1 (tlog (run cfg { users := us } ops).2) :=
  List.append_nil (tlog _) ▸ ledgerU_run cfg ops _ [] (ledgerU_init us)

/-! ## the ledger with distinct routed ids -/

structure LedgerC (s : State) (tl : List Obs) : Prop where
  u : LedgerU s tl
  eo : EO s
  rids : RidsWf s
  acct : Acct (rsS s tl)

theorem ledgerC_init (us : List User) : LedgerC { users := us } [] :=
  ⟨ledgerU_init us, eo_init us, ridsWf_init us, by intro t ht; simp [rsS] at ht⟩

theorem ledgerC_step (cfg : Config) (s : State) (op : Op) (tl : List Obs) (h : LedgerC s tl)
    (hok : OpOk op) (hb : s.uuid + opWeight op < 4294967296) :
    LedgerC (step cfg s op).1 (tobs (step cfg s op).2.reverse ++ tl) ∧
      (step cfg s op).1.uuid ≤ s.uuid + opWeight op := by
  obtain ⟨ls, hl, hs⟩ := sim7_step cfg s op h.u.wf h.eo tl
  obtain ⟨h1, h2⟩ := ridsWf_step cfg s op h.u.wf h.rids hok hb
  exact ⟨⟨ledgerU_step cfg s op tl h.u, eo_step cfg s op h.eo, h1,
    acct_steps hs (room_of_op hl h.u.wf h.rids hok hb tl) h.acct⟩, h2⟩

theorem ledgerC_run (cfg : Config) (ops : List Op) (s : State) (tl : List Obs) (h : LedgerC s tl)
    (hok : ∀ op ∈ ops, OpOk op) (hb : s.uuid + runWeight ops < 4294967296) :
    LedgerC (run cfg s ops).1 (tlog (run cfg s ops).2 ++ tl) ∧
      (run cfg s ops).1.uuid ≤ s.uuid + runWeight ops :=
  run_induct_bounded (I := fun s H => LedgerC s (tlog H ++ tl)) (H := []) cfg ops hok hb
    (fun s op H hop hb' h => by rw [tlog_concat, List.append_assoc]; exact ledgerC_step cfg s op _ h hop hb') h

/-! ## statements about the history, oldest first -/

/-- timer ids of all stored routing entries, table by table -/
def heldTimers (s : State) : List Nat := (s.peers.flatMap (·.routes)).map (·.timer)

theorem heldTimers_eq (s : State) (tl : List Obs) : heldTimers s = (vRoutes (rsS s tl).V).map (·.timer) := by
  simp [heldTimers, rsS, vRoutes_map_pview]

theorem mem_heldTimers {s : State} {t : Nat} (tl : List Obs) :
    t ∈ heldTimers s ↔ ∃ r ∈ vRoutes (rsS s tl).V, r.timer = t := by
  rw [heldTimers_eq s tl, List.mem_map]

end Cjet.Daemon.C07
