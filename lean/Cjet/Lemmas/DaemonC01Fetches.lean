/-
  C01 — the fetch-side primitives as transitions: dropping fetches (unfetch, disconnect of a
  subscriber), deleting a peer that owns nothing, changing the groups of a peer without fetches,
  installing a fetch.
-/
import Cjet.Lemmas.DaemonC01Elems

namespace Cjet.Daemon.C01

open Cjet Cjet.Json Cjet.Daemon

theorem alive_map {s s' : State} {h : Peer → Peer} (hs : s'.peers = s.peers.map h) {c pg : Nat} {f : Fetch} :
    Alive s' c pg f ↔ ∃ p ∈ s.peers, (h p).conn = c ∧ (h p).fetchGroups = pg ∧ f ∈ (h p).fetches := by
  simp only [Alive, hs, List.mem_map]
  constructor
  · rintro ⟨_, ⟨p, hp, rfl⟩, h⟩; exact ⟨p, hp, h⟩
  · rintro ⟨p, hp, h⟩; exact ⟨_, ⟨p, hp, rfl⟩, h⟩

theorem elemsOK_map {cfg : Config} {s s' : State} (inv : Inv cfg s) {h : Peer → Peer} {t : Element → Element}
    (hs : s'.peers = s.peers.map h) (hi : s'.index = s.index) (hconn : ∀ q, (h q).conn = q.conn)
    (hel : ∀ q, (h q).elements = q.elements.map t) (htv : ∀ e, eview (t e) = eview e)
    (hto : ∀ e, (t e).owner = e.owner) :
    ElemsOK s' ∧ allElems s' = (allElems s).map t ∧ (allElems s').map eview = (allElems s).map eview := by
  have hall : allElems s' = (allElems s).map t := by
    rw [allElems, hs, allElems, List.flatMap_map, List.map_flatMap]
    simp only [hel]
  refine ⟨inv.elems.mono hi fun p' hp' => ?_, hall, ?_⟩
  · rw [hs] at hp'
    obtain ⟨p, hp, rfl⟩ := List.mem_map.1 hp'
    refine Or.inr ⟨p, hp, (hconn p).symm, ?_⟩
    rw [hel, List.map_map]
    exact List.map_congr_left fun e _ => Prod.ext (congrArg (·.1) (htv e)) (hto e)
  · rw [hall, List.map_map]
    exact List.map_congr_left fun e _ => htv e

/-! ## dropping a set of fetches

`dropFetch` (unfetch) and `unsubscribe` (a subscriber closes) are both a `thinG F c G` over the
peers.  In both the fetches that go are those with a key in some `P`, all of connection `c`, and
`F` takes exactly those keys out of every fetcher table. -/

section drop

variable {cfg : Config} {s : State} {P : FetchKey → Bool} {F : Element → Element} {c : Nat}
  {G : List Fetch → List Fetch}

theorem thinG_fetches_filter (hP : ∀ fk, P fk = true → fk.peer = c)
    (hG : ∀ l, G l = l.filter (fun f => !P ⟨c, f.uid⟩)) (q : Peer) :
    (thinG F c G q).fetches = q.fetches.filter (fun f => !P ⟨q.conn, f.uid⟩) := by
  rw [thinG_fetches]
  split
  · next hc => rw [hG, beq_iff_eq.1 hc]
  · next hc =>
    refine (List.filter_eq_self.2 fun f _ => ?_).symm
    cases h : P ⟨q.conn, f.uid⟩
    · rfl
    · exact absurd (beq_iff_eq.2 (hP _ h)) hc

theorem alive_thin (hP : ∀ fk, P fk = true → fk.peer = c) (hG : ∀ l, G l = l.filter (fun f => !P ⟨c, f.uid⟩))
    {d pg : Nat} {f : Fetch} :
    Alive { s with peers := s.peers.map (thinG F c G) } d pg f ↔ Alive s d pg f ∧ P ⟨d, f.uid⟩ = false := by
  rw [alive_map (s := s) (h := thinG F c G) rfl]
  simp only [thinG_conn, thinG_fetchGroups, thinG_fetches_filter hP hG, List.mem_filter, Bool.not_eq_true', Alive]
  constructor
  · rintro ⟨p, hp, rfl, rfl, hf, hPf⟩; exact ⟨⟨p, hp, rfl, rfl, hf⟩, hPf⟩
  · rintro ⟨⟨p, hp, rfl, rfl, hf⟩, hPf⟩; exact ⟨p, hp, rfl, rfl, hf, hPf⟩

theorem trans_thin (inv : Inv cfg s) (hP : ∀ fk, P fk = true → fk.peer = c)
    (hG : ∀ l, G l = l.filter (fun f => !P ⟨c, f.uid⟩))
    (hk : ∀ e, keys (F e).fetchers = (keys e.fetchers).filter (fun fk => !P fk))
    (hv : ∀ e, eview (F e) = eview e) (ho : ∀ e, (F e).owner = e.owner) :
    TransN cfg s { s with peers := s.peers.map (thinG F c G) } [] := by
  obtain ⟨he, hall, himg⟩ := elemsOK_map (s' := { s with peers := s.peers.map (thinG F c G) }) inv rfl rfl
    (thinG_conn F c G) (thinG_elements F c G) hv ho
  have hal := @alive_thin s P F c G hP hG
  have hfo : FetchesOK { s with peers := s.peers.map (thinG F c G) } :=
    inv.fetches.mono (Nat.le_refl _) (by rw [conns_map (thinG_conn F c G)]; exact inv.fetches.connNodup)
      fun p' hp' => by
        obtain ⟨p, hp, rfl⟩ := List.mem_map.1 hp'
        exact Or.inr ⟨p, hp, (thinG_conn ..).symm, thinG_fetches_filter hP hG p ▸ List.filter_sublist⟩
  refine TransN.of_alive inv ⟨he, hfo, fun e' he' => ?_⟩ rfl (fun d pg f ha => (hal.1 ha).1)
    (fun d pg f _ _ => RStep.of_silent rfl fun a => by rw [imageOf_congr himg]) (fun _ hcn => by cases hcn)
  rw [hall] at he'
  obtain ⟨e, he, rfl⟩ := List.mem_map.1 he'
  have ok := inv.tbl e he
  refine ⟨by rw [hk]; exact ok.nodup.filter _, fun fk hfk => ?_, fun p' hp' f hf => ?_⟩
  · rw [hk, List.mem_filter] at hfk
    obtain ⟨p, hp, hc, f, hf, hu⟩ := ok.live fk hfk.1
    have hkey : (⟨p.conn, f.uid⟩ : FetchKey) = fk := by cases fk; cases hc; cases hu; rfl
    obtain ⟨p', hp', hc', _, hf'⟩ := hal.2 ⟨⟨p, hp, rfl, rfl, hf⟩, by simpa [hkey] using hfk.2⟩
    exact ⟨p', hp', hc'.trans hc, f, hf', hu⟩
  · obtain ⟨⟨p, hp, hc, hg, hf1⟩, hf2⟩ := hal.1 ⟨p', hp', rfl, rfl, hf⟩
    rw [hk, List.mem_filter, visible_congr (hv e), ← hc, ← hg, ← ok.char p hp f hf1, hc]
    simp [hf2]

end drop

/-! ### unfetch -/

theorem dropFetch_filter (fk : FetchKey) (l : List Fetch) :
    l.filter (·.uid != fk.uid) = l.filter (fun f => !((⟨fk.peer, f.uid⟩ : FetchKey) == fk)) :=
  List.filter_congr fun f _ => by
    cases fk
    rw [Bool.eq_iff_iff]
    simp

theorem alive_dropFetch {s : State} (fk : FetchKey) {c pg : Nat} {f : Fetch} :
    Alive { s with peers := dropFetch s.peers fk } c pg f ↔
      Alive s c pg f ∧ ((⟨c, f.uid⟩ : FetchKey) == fk) = false := by
  rw [dropFetch_eq]
  exact alive_thin (P := (· == fk)) (fun _ h => congrArg FetchKey.peer (beq_iff_eq.1 h)) (dropFetch_filter fk)

theorem trans_unfetch {cfg : Config} {s : State} (inv : Inv cfg s) (fk : FetchKey) :
    TransN cfg s { s with peers := dropFetch s.peers fk } [] := by
  rw [dropFetch_eq]
  exact trans_thin (P := (· == fk)) inv (fun _ h => congrArg FetchKey.peer (beq_iff_eq.1 h)) (dropFetch_filter fk)
    (fun e => keys_removeFetcher e.fetchers fk) (fun _ => rfl) (fun _ => rfl)

/-! ### all fetches of a closing peer -/

def unsubPeer (c : Nat) (q : Peer) : Peer :=
  if q.conn == c then
    { q with elements := q.elements.map (fun e => { e with fetchers := unsubTbl c e.fetchers }), fetches := [] }
  else { q with elements := q.elements.map (fun e => { e with fetchers := unsubTbl c e.fetchers }) }

theorem unsubPeer_eq (c : Nat) : unsubPeer c = thinG (freeSlots c) c (fun _ => []) := rfl

theorem unsub_eq (ps : List Peer) (c : Nat) :
    updatePeer (mapElements ps (fun e => { e with fetchers := e.fetchers.map (fun s =>
      match s with | some fk => if fk.peer == c then none else some fk | none => none) })) c
      (fun q => { q with fetches := [] }) = ps.map (unsubPeer c) :=
  thinG_eq ps (freeSlots c) c (fun _ => [])

theorem unsubscribe_st (x : Ctx) (c : Nat) :
    (unsubscribe x c).st = { x.st with peers := x.st.peers.map (unsubPeer c) } :=
  congrArg (fun ps => ({ x.st with peers := ps } : State)) (unsub_eq x.st.peers c)

theorem trans_unsub {cfg : Config} {x : Ctx} (inv : Inv cfg x.st) (c : Nat) :
    TransN cfg x.st (unsubscribe x c).st [] := by
  rw [unsubscribe_st]
  exact trans_thin (P := (·.peer == c)) inv (fun _ h => beq_iff_eq.1 h)
    (fun l => (List.filter_eq_nil_iff.2 fun _ _ => by simp).symm)
    (fun e => keys_unsubTbl c e.fetchers) (fun _ => rfl) (fun _ => rfl)

/-! ## deleting a peer that owns nothing and fetches nothing -/

theorem trans_delPeer {cfg : Config} {s : State} (inv : Inv cfg s) (c : Nat)
    (hemp : ∀ q ∈ s.peers, q.conn = c → q.elements = [] ∧ q.fetches = []) :
    TransN cfg s { s with peers := s.peers.filter (·.conn != c) } [] := by
  refine TransN.of_carried inv ((List.filter_sublist.map _).nodup inv.fetches.connNodup) rfl rfl
    (fun p hp => ?_) (fun p hp => Or.inr ⟨p, (List.mem_filter.1 hp).1, rfl, rfl, rfl, Or.inr rfl⟩)
  by_cases hc : p.conn = c
  · exact Or.inl (hemp p hp hc)
  · exact Or.inr ⟨p, List.mem_filter.2 ⟨hp, bne_iff_ne.2 hc⟩, rfl, rfl, rfl, Or.inr rfl⟩

/-! ## changing a peer that has no fetches (authenticate) -/

theorem trans_regroup {cfg : Config} {s : State} (inv : Inv cfg s) {p : Peer} (hp : p ∈ s.peers)
    (hnf : p.fetches = []) (g : Peer → Peer)
    (hconn : ∀ q, (g q).conn = q.conn) (hfet : ∀ q, (g q).fetches = q.fetches)
    (hel : ∀ q, (g q).elements = q.elements) :
    TransN cfg s { s with peers := updatePeer s.peers p.conn g } [] := by
  have key : ∀ q ∈ s.peers, (if q.conn == p.conn then g q else q).conn = q.conn ∧
      (if q.conn == p.conn then g q else q).elements = q.elements ∧
      (if q.conn == p.conn then g q else q).fetches = q.fetches ∧
      (q.fetches = [] ∨ (if q.conn == p.conn then g q else q).fetchGroups = q.fetchGroups) := by
    intro q hq
    split
    · next hc =>
      cases findPeer_unique inv.fetches.connNodup hq hp (beq_iff_eq.1 hc)
      exact ⟨hconn _, hel _, hfet _, Or.inl hnf⟩
    · exact ⟨rfl, rfl, rfl, Or.inr rfl⟩
  refine TransN.of_carried inv ?_ rfl rfl (fun q hq => Or.inr ⟨_, mem_updatePeer.2 ⟨q, hq, rfl⟩, key q hq⟩)
    (fun q' hq' => ?_)
  · show ((updatePeer s.peers p.conn g).map (·.conn)).Nodup
    rw [map_updatePeer (g := (·.conn)) hconn]
    exact inv.fetches.connNodup
  · obtain ⟨q, hq, rfl⟩ := mem_updatePeer.1 hq'
    obtain ⟨h1, h2, h3, h4⟩ := key q hq
    exact Or.inr ⟨q, hq, h1.symm, h2.symm, h3.symm, h4.imp (h3.trans ·) Eq.symm⟩

/-! ## installing a fetch -/

/-- the state after `process_fetch` -/
def fetchPeer (cfg : Config) (c pg : Nat) (f : Fetch) (q : Peer) : Peer :=
  offerPeer cfg c pg f (if q.conn == c then { q with fetches := q.fetches ++ [f] } else q)

def fetchState (cfg : Config) (s : State) (p : Peer) (f : Fetch) : State :=
  { s with nextUid := s.nextUid + 1, peers := s.peers.map (fetchPeer cfg p.conn p.fetchGroups f) }

def fetchNotifs (cfg : Config) (s : State) (p : Peer) (f : Fetch) : List (Nat × Notif) :=
  (allElems s).filterMap (addNotif cfg p.conn p.fetchGroups f)

theorem allElems_paths_nodup {cfg : Config} {s : State} (inv : Inv cfg s) :
    ((allElems s).map (·.path)).Nodup := by
  rw [List.Nodup, List.pairwise_map, allElems, List.pairwise_flatMap]
  refine ⟨fun q hq => List.pairwise_map.1 (inv.elems.pathNodup q hq), ?_⟩
  refine (List.pairwise_map.1 inv.fetches.connNodup).imp_of_mem fun hq hq' hne x hx y hy hp => ?_
  exact hne (congrArg (·.conn) (path_unique inv.elems inv.fetches hq hx hq' hy hp).1)

theorem image_paths_nodup {cfg : Config} {s : State} (inv : Inv cfg s) (pg : Nat) (rule : Rule) :
    ((imageOf cfg s pg rule).map (·.1)).Nodup := by
  unfold imageOf
  rw [List.map_map]
  exact List.Nodup.sublist (List.filter_sublist.map _) (allElems_paths_nodup inv)

theorem replay_adds (fid : Json) : ∀ (l : List Element) (r : Replica),
    (r.map (·.1) ++ l.map (·.path)).Nodup →
    replayFrom r (l.map (fun e => { fid := fid, path := e.path, event := .add, value := e.value })) =
      some (r ++ l.map (fun e => (e.path, e.value)))
  | [], r, _ => by simp
  | e :: t, r, h => by
    have hnp : hasPath r e.path = false := Bool.eq_false_iff.2 fun hq =>
      (List.nodup_append.1 h).2.2 e.path (hasPath_iff.1 hq) e.path (by simp) rfl
    simp only [List.map_cons, replayFrom, applyNotif, hnp, Bool.false_eq_true, if_false, Option.bind_some]
    rw [replay_adds fid t (r ++ [(e.path, e.value)])]
    · simp
    · simpa [List.append_assoc] using h

structure FetchTrans (cfg : Config) (s : State) (p : Peer) (f : Fetch) : Prop where
  inv : Inv cfg (fetchState cfg s p f)
  keep : ∀ c pg g, Alive s c pg g → Alive (fetchState cfg s p f) c pg g
  fresh : ∀ c g, HasFetch (fetchState cfg s p f) c g → HasFetch s c g ∨ (c = p.conn ∧ g = f)
  installed : Alive (fetchState cfg s p f) p.conn p.fetchGroups f
  rstep : ∀ c pg g, Alive s c pg g →
    RStep cfg s (fetchState cfg s p f) (fetchNotifs cfg s p f) c g.fid pg g.rule
  install : replayFrom [] (pick p.conn f.fid (fetchNotifs cfg s p f)) =
    some (imageOf cfg (fetchState cfg s p f) p.fetchGroups f.rule)
  origin : ∀ cn ∈ fetchNotifs cfg s p f, cn.1 = p.conn ∧ cn.2.fid = f.fid

section install

variable {cfg : Config} {s : State} {p : Peer} {f : Fetch}

theorem fetchPeer_conn (c pg : Nat) (q : Peer) : (fetchPeer cfg c pg f q).conn = q.conn := by
  unfold fetchPeer offerPeer; split <;> rfl

theorem fetchPeer_fetchGroups (c pg : Nat) (q : Peer) : (fetchPeer cfg c pg f q).fetchGroups = q.fetchGroups := by
  unfold fetchPeer offerPeer; split <;> rfl

theorem fetchPeer_elements (c pg : Nat) (q : Peer) :
    (fetchPeer cfg c pg f q).elements = q.elements.map (offer1 cfg c pg f) := by
  unfold fetchPeer offerPeer; split <;> rfl

theorem fetchPeer_fetches (c pg : Nat) (q : Peer) :
    (fetchPeer cfg c pg f q).fetches = if q.conn == c then q.fetches ++ [f] else q.fetches := by
  unfold fetchPeer offerPeer; split <;> rfl

theorem fetchPeer_fetches_cases (hn : (s.peers.map (·.conn)).Nodup) (hp : p ∈ s.peers) {q : Peer} (hq : q ∈ s.peers) :
    (fetchPeer cfg p.conn p.fetchGroups f q).fetches = q.fetches ∨
      (q = p ∧ (fetchPeer cfg p.conn p.fetchGroups f q).fetches = q.fetches ++ [f]) := by
  rw [fetchPeer_fetches]
  split
  · next hc => exact Or.inr ⟨findPeer_unique hn hq hp (beq_iff_eq.1 hc), rfl⟩
  · exact Or.inl rfl

theorem alive_fetchState (hn : (s.peers.map (·.conn)).Nodup) (hp : p ∈ s.peers) {c pg : Nat} {g : Fetch} :
    Alive (fetchState cfg s p f) c pg g ↔ Alive s c pg g ∨ (c = p.conn ∧ pg = p.fetchGroups ∧ g = f) := by
  rw [alive_map (h := fetchPeer cfg p.conn p.fetchGroups f) rfl]
  simp only [fetchPeer_conn, fetchPeer_fetchGroups]
  constructor
  · rintro ⟨q, hq, rfl, rfl, hg⟩
    rcases fetchPeer_fetches_cases (cfg := cfg) (f := f) hn hp hq with h | ⟨rfl, h⟩ <;> rw [h] at hg
    · exact Or.inl ⟨q, hq, rfl, rfl, hg⟩
    · exact (List.mem_append.1 hg).imp (fun hg => ⟨q, hq, rfl, rfl, hg⟩)
        fun hg => ⟨rfl, rfl, List.mem_singleton.1 hg⟩
  · rintro (⟨q, hq, rfl, rfl, hg⟩ | ⟨rfl, rfl, rfl⟩)
    · refine ⟨q, hq, rfl, rfl, ?_⟩
      rcases fetchPeer_fetches_cases (cfg := cfg) (f := f) hn hp hq with h | ⟨_, h⟩ <;> rw [h]
      · exact hg
      · exact List.mem_append_left _ hg
    · exact ⟨p, hp, rfl, rfl, by rw [fetchPeer_fetches, if_pos (beq_self_eq_true _)]; simp⟩

theorem uid_ne_next (ok : FetchesOK s) (huid : f.uid = s.nextUid) : ∀ q ∈ s.peers, ∀ g ∈ q.fetches, g.uid ≠ f.uid :=
  fun q hq g hg h => Nat.lt_irrefl _ (huid ▸ h ▸ ok.uidLt q hq g hg)

theorem fetchesOK_fetchState (ok : FetchesOK s) (hp : p ∈ s.peers) (huid : f.uid = s.nextUid)
    (hok : idsEqual f.fid f.fid = true) (hnew : ∀ g ∈ p.fetches, idsEqual g.fid f.fid = false) :
    FetchesOK (fetchState cfg s p f) := by
  have hal := @alive_fetchState cfg s p f ok.connNodup hp
  have hlt := uid_ne_next ok huid
  refine ⟨?_, ?_, ?_, ?_, ?_, ?_⟩
  · show ((s.peers.map (fetchPeer cfg p.conn p.fetchGroups f)).map (·.conn)).Nodup
    rw [conns_map (fetchPeer_conn _ _)]
    exact ok.connNodup
  · intro p' hp' g hg
    show g.uid < s.nextUid + 1
    rcases hal.1 ⟨p', hp', rfl, rfl, hg⟩ with ⟨q, hq, _, _, h⟩ | ⟨_, _, rfl⟩
    · exact Nat.lt_succ_of_lt (ok.uidLt q hq g h)
    · omega
  · intro p' hp'
    obtain ⟨q, hq, rfl⟩ := List.mem_map.1 hp'
    rcases fetchPeer_fetches_cases (cfg := cfg) (f := f) ok.connNodup hp hq with h | ⟨rfl, h⟩ <;> rw [h]
    · exact ok.uidNodup q hq
    · rw [List.map_append, List.nodup_append]
      refine ⟨ok.uidNodup q hq, List.pairwise_singleton _ _, fun a ha b hb hab => ?_⟩
      obtain ⟨g, hg, rfl⟩ := List.mem_map.1 ha
      exact hlt q hq g hg (hab.trans (List.mem_singleton.1 hb))
  · intro p' hp' q' hq' g1 hg1 g2 hg2 hu
    rcases hal.1 ⟨p', hp', rfl, rfl, hg1⟩ with ⟨q1, hq1, hc1, _, h1⟩ | ⟨hc1, _, rfl⟩ <;>
      rcases hal.1 ⟨q', hq', rfl, rfl, hg2⟩ with ⟨q2, hq2, hc2, _, h2⟩ | ⟨hc2, _, rfl⟩
    · rw [← hc1, ← hc2]
      exact ok.uidGlobal q1 hq1 q2 hq2 g1 h1 g2 h2 hu
    · exact absurd hu (hlt q1 hq1 g1 h1)
    · exact absurd hu.symm (hlt q2 hq2 g2 h2)
    · rw [hc1, hc2]
  · intro p' hp' g hg
    rcases hal.1 ⟨p', hp', rfl, rfl, hg⟩ with ⟨q, hq, _, _, h⟩ | ⟨_, _, rfl⟩
    · exact ok.fidOk q hq g h
    · exact hok
  · intro p' hp'
    obtain ⟨q, hq, rfl⟩ := List.mem_map.1 hp'
    rcases fetchPeer_fetches_cases (cfg := cfg) (f := f) ok.connNodup hp hq with h | ⟨rfl, h⟩ <;> rw [h]
    · exact ok.fidDistinct q hq
    · rw [List.pairwise_append]
      exact ⟨ok.fidDistinct q hq, List.pairwise_singleton _ _, fun a ha b hb => List.mem_singleton.1 hb ▸ hnew a ha⟩

theorem tblOK_offer1 (inv : Inv cfg s) (hp : p ∈ s.peers) (huid : f.uid = s.nextUid) {e : Element}
    (he : e ∈ allElems s) : TblOK cfg (fetchState cfg s p f).peers (offer1 cfg p.conn p.fetchGroups f e) := by
  have hal := @alive_fetchState cfg s p f inv.fetches.connNodup hp
  have ok := inv.tbl e he
  -- the key of `f` is new: every key in a table names a fetch with a smaller uid
  have hlt := uid_ne_next inv.fetches huid
  have hKnot : (⟨p.conn, f.uid⟩ : FetchKey) ∉ keys e.fetchers := fun hk =>
    let ⟨q, hq, _, g, hg, hu⟩ := ok.live _ hk
    hlt q hq g hg hu
  refine ⟨?_, fun fk hfk => ?_, fun p' hp' g hg => ?_⟩
  · rw [(keys_offer1 cfg p.conn p.fetchGroups f e).nodup_iff]
    split
    · exact List.nodup_cons.2 ⟨hKnot, ok.nodup⟩
    · exact ok.nodup
  · have live : ∀ {c pg g}, Alive (fetchState cfg s p f) c pg g → g.uid = fk.uid → c = fk.peer →
        ∃ p' ∈ (fetchState cfg s p f).peers, p'.conn = fk.peer ∧ ∃ g ∈ p'.fetches, g.uid = fk.uid :=
      fun ⟨p', hp', hc, _, hg⟩ hu hcc => ⟨p', hp', hc.trans hcc, _, hg, hu⟩
    rcases mem_keys_offer1.1 hfk with ⟨_, rfl⟩ | h
    · exact live (hal.2 (Or.inr ⟨rfl, rfl, rfl⟩)) rfl rfl
    · obtain ⟨q, hq, hc, g, hg, hu⟩ := ok.live fk h
      exact live (hal.2 (Or.inl ⟨q, hq, rfl, rfl, hg⟩)) hu hc
  · rw [visible_offer1, mem_keys_offer1]
    rcases hal.1 ⟨p', hp', rfl, rfl, hg⟩ with ⟨q, hq, hc, hgr, h⟩ | ⟨hc, hgr, rfl⟩
    · rw [← hc, ← hgr, ← ok.char q hq g h]
      exact ⟨fun h' => h'.resolve_left fun ⟨_, heq⟩ => hlt q hq g h (congrArg FetchKey.uid heq), Or.inr⟩
    · rw [hc, hgr]
      exact ⟨fun h' => h'.elim And.left fun h' => absurd h' hKnot, fun hv => Or.inl ⟨hv, rfl⟩⟩

theorem fetchNotifs_origin : ∀ cn ∈ fetchNotifs cfg s p f, cn.1 = p.conn ∧ cn.2.fid = f.fid :=
  fun _ hcn => let ⟨_, _, h⟩ := List.mem_filterMap.1 hcn; addNotif_some h

theorem pick_fetchNotifs (hok : idsEqual f.fid f.fid = true) :
    pick p.conn f.fid (fetchNotifs cfg s p f) =
      ((allElems s).filter (visible cfg p.fetchGroups f.rule)).map
        (fun e => { fid := f.fid, path := e.path, event := .add, value := e.value }) := by
  rw [pick, fetchNotifs, List.filterMap_filterMap, ← List.filterMap_eq_map', List.filterMap_filter]
  refine filterMap_congr fun e _ => ?_
  simp only [addNotif]
  split <;> simp [hok]

theorem trans_fetch (inv : Inv cfg s) (hp : p ∈ s.peers) (huid : f.uid = s.nextUid)
    (hok : idsEqual f.fid f.fid = true) (hnew : ∀ g ∈ p.fetches, idsEqual g.fid f.fid = false) :
    FetchTrans cfg s p f := by
  have hal := @alive_fetchState cfg s p f inv.fetches.connNodup hp
  obtain ⟨hEl, hall, himg⟩ := elemsOK_map (s' := fetchState cfg s p f) inv rfl rfl (fetchPeer_conn _ _)
    (fetchPeer_elements _ _) (fun e => offer1_eview ..) (fun e => offer1_owner ..)
  have hinv : Inv cfg (fetchState cfg s p f) := by
    refine ⟨hEl, fetchesOK_fetchState inv.fetches hp huid hok hnew, fun e' he' => ?_⟩
    rw [hall] at he'
    obtain ⟨e, he, rfl⟩ := List.mem_map.1 he'
    exact tblOK_offer1 inv hp huid he
  refine ⟨hinv, fun c pg g ha => hal.2 (Or.inl ha), fun c g hg => ?_, hal.2 (Or.inr ⟨rfl, rfl, rfl⟩),
    fun c pg g ha => ?_, ?_, fetchNotifs_origin⟩
  · obtain ⟨pg, ha⟩ := hg.alive
    exact (hal.1 ha).imp Alive.hasFetch fun ⟨h1, _, h2⟩ => ⟨h1, h2⟩
  · -- the "add"s carry `f`'s id, which no other fetch of `p` has
    refine RStep.of_silent (pick_eq_nil fun cn hcn hc => ?_) fun a => by rw [imageOf_congr himg]
    obtain ⟨q, hq, hqc, _, hg⟩ := ha
    obtain ⟨h1, h2⟩ := fetchNotifs_origin cn hcn
    cases findPeer_unique inv.fetches.connNodup hq hp (hqc.trans (hc.symm.trans h1))
    rw [h2, idsEqual_symm]
    exact hnew g hg
  · rw [pick_fetchNotifs hok, replay_adds f.fid _ [], imageOf_congr himg]
    · simp [imageOf]
    · simpa using List.Nodup.sublist (List.filter_sublist.map _) (allElems_paths_nodup inv)

end install

end Cjet.Daemon.C01
