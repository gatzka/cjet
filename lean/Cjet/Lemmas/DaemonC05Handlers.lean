/-
  Cjet.Lemmas.DaemonC05Handlers — `Ok x x'` (handler code leads from the context `x` to `x'`): for
  the context primitives, along folds, for notifications and offers; then for every request handler,
  for `parseMessage`, and for the timer handler, each along the case lemma `DaemonCore` has for it;
  set_or_call along `C03.setOrCall_cases` and `C03.routeCore_cases`.
-/
import Cjet.Lemmas.DaemonC05Inv
import Cjet.Lemmas.DaemonC03SetCall

namespace Cjet.Daemon.C05

open Cjet Cjet.Json Cjet.Daemon

/-! ## context primitives and folds -/

/-- every send in `d` addresses a member of `cs`, and no connection is reported closed -/
def Live (cs : List Nat) (d : List Obs) : Prop :=
  (∀ c j b, Obs.send c j b ∈ d → c ∈ cs) ∧ (∀ c, Obs.closed c ∉ d)

theorem Live.nil (cs : List Nat) : Live cs [] := ⟨(by intro c j b h; cases h), (by intro c h; cases h)⟩
theorem Live.append {cs : List Nat} {a b : List Obs} (ha : Live cs a) (hb : Live cs b) : Live cs (a ++ b) := by
  constructor
  · intro c j ok h
    rcases List.mem_append.1 h with h | h
    · exact ha.1 c j ok h
    · exact hb.1 c j ok h
  · intro c h
    rcases List.mem_append.1 h with h | h
    · exact ha.2 c h
    · exact hb.2 c h

/-- timer observations -/
def isTimer : Obs → Prop
  | .timerArm _ _ => True
  | .timerDestroy _ => True
  | _ => False

/-- `x'` is reached from `x` by handler code: the invariant holds again, the same connections
    exist, the output was only extended, and every new send addresses a live connection. -/
def Ok (x x' : Ctx) : Prop :=
  Inv x'.st ∧ conns x'.st.peers = conns x.st.peers ∧
    ∃ d, x'.out = d ++ x.out ∧ Live (conns x.st.peers) d

theorem Ok.refl {x : Ctx} (h : Inv x.st) : Ok x x := ⟨h, rfl, [], rfl, Live.nil _⟩

theorem Ok.inv {x x' : Ctx} (h : Ok x x') : Inv x'.st := h.1

theorem Ok.grows {x x' : Ctx} (h : Ok x x') : ∃ D, x'.out = D ++ x.out := h.2.2.imp fun _ hd => hd.1

theorem Ok.trans {x y z : Ctx} (h1 : Ok x y) (h2 : Ok y z) : Ok x z := by
  obtain ⟨_, c1, d1, o1, l1⟩ := h1
  obtain ⟨i2, c2, d2, o2, l2⟩ := h2
  refine ⟨i2, c2.trans c1, d2 ++ d1, by rw [o2, o1, List.append_assoc], ?_⟩
  rw [c1] at l2
  exact l2.append l1

theorem Ok.setSt {x : Ctx} {s' : State} (hI : Inv s') (hc : conns s'.peers = conns x.st.peers) :
    Ok x { x with st := s' } := ⟨hI, hc, [], rfl, Live.nil _⟩

theorem Ok.send {x : Ctx} (h : Inv x.st) {c : Nat} (hc : c ∈ conns x.st.peers) (j : Json) :
    Ok x (send x c j).1 := by
  refine ⟨by simpa using h, by simp, [Obs.send c j (Daemon.send x c j).2], send_out_snd x c j, ?_, ?_⟩
  · intro c' j' b' hm
    simp only [List.mem_singleton] at hm
    cases hm; exact hc
  · intro c' hm
    simp only [List.mem_singleton] at hm
    cases hm

theorem Ok.send' {x : Ctx} (h : Inv x.st) {c : Nat} (hc : c ∈ conns x.st.peers) (j : Json) :
    Ok x (send' x c j) := Ok.send h hc j

theorem Ok.emit {x : Ctx} (h : Inv x.st) (o : Obs) (ho : isTimer o) : Ok x (emit x o) := by
  refine ⟨h, rfl, [o], rfl, ?_, ?_⟩
  · intro c j b hm
    simp only [List.mem_singleton] at hm
    subst hm; exact ho.elim
  · intro c hm
    simp only [List.mem_singleton] at hm
    subst hm; exact ho.elim

theorem foldl_ok {α : Type} (Q : Ctx → Prop) (f : Ctx → α → Ctx) (l : List α) (x : Ctx) (h : Inv x.st) (hq : Q x)
    (hf : ∀ y a, a ∈ l → Inv y.st → Q y → Ok y (f y a) ∧ Q (f y a)) : Ok x (l.foldl f x) ∧ Q (l.foldl f x) := by
  induction l generalizing x with
  | nil => exact ⟨Ok.refl h, hq⟩
  | cons a l ih =>
    have h1 := hf x a List.mem_cons_self h hq
    have h2 := ih _ h1.1.inv h1.2 (fun y b hb hy => hf y b (List.mem_cons_of_mem _ hb) hy)
    exact ⟨h1.1.trans h2.1, h2.2⟩

/-! ## notifications -/

theorem notifyFetchers_ok {x : Ctx} (h : Inv x.st) (e : Element) (ev : String) :
    Ok x (notifyFetchers x e ev) :=
  notifyFetchers_induct (P := Ok x) e ev (Ok.refl h) fun _ _ _ hst _ hf hy =>
    hy.trans (Ok.send' hy.inv (hst.symm ▸ findFetch_peer_mem hf) _)

/-! ## fetcher tables -/

theorem offerElement_spec (cfg : Config) {x : Ctx} (h : Inv x.st) (e : Element) (fp : Peer) (f : Fetch)
    (hfp : fp.conn ∈ conns x.st.peers) :
    Ok x (offerElement cfg x e fp f).1 ∧
    ∀ fk, some fk ∈ (offerElement cfg x e fp f).2.fetchers → some fk ∈ e.fetchers ∨ fk = ⟨fp.conn, f.uid⟩ := by
  rcases offerElement_cases cfg x e fp f with hc | ⟨_, hc⟩ <;> rw [hc]
  · exact ⟨Ok.refl h, fun _ hfk => .inl hfk⟩
  · exact ⟨Ok.send' h hfp _, fun _ hfk => addFetcher_mem hfk⟩

theorem findFetchersForElement_spec (cfg : Config) {x : Ctx} (h : Inv x.st) (e : Element) :
    Ok x (findFetchersForElement cfg x e).1 ∧
    ∀ fk, some fk ∈ (findFetchersForElement cfg x e).2.fetchers → some fk ∈ e.fetchers ∨ fk ∈ fetchKeys x.st.peers := by
  refine findFetchersForElement_induct (Q := fun acc => Ok x acc.1 ∧
    ∀ fk, some fk ∈ acc.2.fetchers → some fk ∈ e.fetchers ∨ fk ∈ fetchKeys x.st.peers) cfg x e
    ⟨Ok.refl h, fun _ hfk => .inl hfk⟩ fun acc fp f hfp hf ⟨a1, a2⟩ => ?_
  obtain ⟨b1, b2⟩ := offerElement_spec cfg a1.inv acc.2 fp f (a1.2.1 ▸ mem_conns.2 ⟨fp, hfp, rfl⟩)
  refine ⟨a1.trans b1, fun fk hfk => (b2 fk hfk).elim (a2 fk) fun h' => .inr ?_⟩
  exact h' ▸ mem_fetchKeys.2 ⟨fp, hfp, rfl, f, hf, rfl⟩

/-! ## request handlers -/

open Cjet.Daemon.C03

theorem changeState_ok {x : Ctx} (h : Inv x.st) (p : Peer) (req : Json) :
    Ok x (changeState x p req).1 := by
  rcases changeState_cases x p req with ⟨_, _, hr⟩ | ⟨_, path, v, e, _, _, he, hown, _, hc⟩
  · rw [hr]; exact Ok.refl h
  · rw [hc]
    obtain ⟨q, hq, heq, hpath⟩ := findElement_mem he
    have hI' := h.updatePeer_elements p.conn
      (fun el => if el.path == path then { e with value := some v } else el) fun q' hq' hq'c el hel => by
        split
        · next hpe =>
          -- the replaced element has the path of `e`, hence its owner and its fetchers
          have hpe : el.path = path := by simpa using hpe
          refine ⟨hpath.trans hpe.symm, ?_, fun fk hfk => .inr (h.fetchers q hq e heq fk hfk)⟩
          exact hown.trans (hq'c.symm.trans (h.owner q' hq' el hel).symm)
        · exact ⟨rfl, rfl, fun fk hfk => .inl hfk⟩
    exact (Ok.setSt hI' (conns_updatePeer fun _ => rfl)).trans (notifyFetchers_ok hI' _ _)

theorem removeElement_ok {x : Ctx} (h : Inv x.st) {p : Peer} (hp : p ∈ x.st.peers) {e : Element}
    (he : e ∈ p.elements) : Ok x (removeElement x e) := by
  unfold removeElement
  have h1 := notifyFetchers_ok h e "remove"
  refine h1.trans (Ok.setSt ?_ (conns_updatePeer fun _ => rfl))
  exact h1.inv.removeElement (p := p) (by simpa using hp) he

theorem removeElementReq_ok {x : Ctx} (h : Inv x.st) {p : Peer} (hp : p ∈ x.st.peers) (req : Json) :
    Ok x (removeElementReq x p req).1 := by
  rcases removeElementReq_cases x p req with ⟨_, _, hr⟩ | ⟨_, _, e, _, he, hc⟩
  · rw [hr]; exact Ok.refl h
  · rw [hc]; exact removeElement_ok h hp (List.mem_of_find?_eq_some he)

theorem addCore_ok (cfg : Config) {x : Ctx} (h : Inv x.st) {p : Peer} (hp : p ∈ x.st.peers) (req : Json)
    {e : Element} (ho : e.owner = p.conn) (hnew : lookupIndex x.st.index e.path = none)
    (hfk : ∀ fk, some fk ∉ e.fetchers) : Ok x (addCore cfg x p req e).1 := by
  obtain ⟨a1, a7⟩ := findFetchersForElement_spec cfg h e
  have a2 := findFetchersForElement_st cfg x e
  have a5 : (findFetchersForElement cfg x e).2.path = e.path := by rw [findFetchersForElement_snd]
  have a6 : (findFetchersForElement cfg x e).2.owner = e.owner := by rw [findFetchersForElement_snd]
  unfold addCore
  dsimp only
  split
  · -- refused by the table
    have n1 := notifyFetchers_ok a1.inv (findFetchersForElement cfg x e).2 "remove"
    exact (a1.trans n1).trans (Ok.setSt n1.inv rfl)
  · refine a1.trans (Ok.setSt ?_ (conns_updatePeer fun _ => rfl))
    rw [← a5]
    refine a1.inv.addElement (c := p.conn) ?_ _ (a6.trans ho) ?_ fun fk hfk' => ?_
    · rw [a2]; exact mem_conns.2 ⟨p, hp, rfl⟩
    · rw [a2, a5]; exact hnew
    · rw [a2]; exact (a7 fk hfk').resolve_left (hfk fk)

theorem addElement_ok (cfg : Config) {x : Ctx} (h : Inv x.st) {p : Peer} (hp : p ∈ x.st.peers) (req : Json) :
    Ok x (addElement cfg x p req).1 := by
  rw [addElement_eq]
  split
  · exact Ok.refl h
  · next e he =>
    obtain ⟨_, _, hnew, ho, _, _, _, hf, _⟩ := addChecks_ok he
    exact addCore_ok cfg h hp req ho hnew fun fk hfk => by simp [hf] at hfk

/-! ## set / call -/

theorem conns_removeRoute (ps : List Peer) (o : Nat) (rid : Bytes) : conns (removeRoute ps o rid) = conns ps :=
  conns_updatePeer fun _ => rfl

theorem routeCore_ok (cfg : Config) {x : Ctx} (h : Inv x.st) {p : Peer} (hp : p ∈ x.st.peers) (req : Json)
    (isState : Bool) (params : Json) (path : Bytes) {e : Element} (he : e.owner ∈ conns x.st.peers) :
    Ok x (routeCore cfg x p req isState params path e).1 := by
  have h0 : Ok x (ticked x) := Ok.setSt (h.frame rfl rfl (Nat.le_refl _)) rfl
  have h1 : Inv (timed x).st := h.frame rfl rfl (Nat.le_succ _)
  rcases routeCore_cases cfg x p req isState params path e with
    ⟨_, _, hr⟩ | ⟨_, _, hr⟩ | ⟨tns, _, ⟨_, hr⟩ | ⟨_, hsent⟩⟩
  · rw [hr]; exact h0
  · rw [hr]; exact h0
  · rw [hr]
    exact (Ok.setSt h1 rfl).trans ((Ok.emit h1 (.timerDestroy x.st.nextTimer) trivial).trans (Ok.setSt h1 rfl))
  · -- the entry is stored, the timer armed and the request sent to the owner
    have h2 := h1.addRoute e.owner (newRoute x p req e) rfl (mem_conns.2 ⟨p, hp, rfl⟩) (Nat.lt_succ_self _)
    have hc : conns (stored x (newRoute x p req e) tns).st.peers = conns x.st.peers := conns_updatePeer fun _ => rfl
    have o1 := ((Ok.setSt (x := x) h2 hc).trans (Ok.emit h2 (.timerArm x.st.nextTimer tns) trivial)).trans
      (Ok.send h2 (hc ▸ he) (routedMessage (newRoute x p req e).rid path isState (reqValue isState params)))
    rcases hsent with ⟨_, hr⟩ | ⟨_, hr⟩ <;> rw [hr]
    · exact o1
    · -- the send failed: the entry is taken out again
      have h3 := o1.inv.removeRoute e.owner (newRoute x p req e).rid
      exact o1.trans ((Ok.setSt h3 (conns_removeRoute _ _ _)).trans (Ok.emit h3 (.timerDestroy x.st.nextTimer) trivial))

theorem setOrCall_ok (cfg : Config) {x : Ctx} (h : Inv x.st) {p : Peer} (hp : p ∈ x.st.peers) (req : Json)
    (isState : Bool) : Ok x (setOrCall cfg x p req isState).1 := by
  rcases setOrCall_cases cfg x p req isState with hr | ⟨params, path, e, hchk⟩
  · rw [hr]; exact Ok.refl h
  · rw [setOrCall_of_checks hchk]
    obtain ⟨q, hq, hqe, _⟩ := findElement_mem hchk.el
    exact routeCore_ok cfg h hp req isState params path (mem_conns.2 ⟨q, hq, (h.owner q hq e hqe).symm⟩)

/-! ## routed replies and expiry -/

theorem routingResponse_ok {x : Ctx} (h : Inv x.st) {p : Peer} (hp : p ∈ x.st.peers) (msg payload : Json)
    (typ : String) : Ok x (routingResponse x p msg payload typ).1 := by
  rcases routingResponse_cases x p msg payload typ with hr | hr | ⟨rid, r, _, hfind, hr⟩
  · rw [hr]; exact Ok.refl h
  · rw [hr]; exact Ok.refl h
  · have h1 := h.removeRoute p.conn rid
    have o1 := (Ok.setSt (x := x) h1 (conns_removeRoute _ _ _)).trans (Ok.emit h1 (.timerDestroy r.timer) trivial)
    rcases hr with hr | ⟨_, resp, _, _, hr⟩
    · rw [hr]; exact o1
    · rw [hr]
      exact o1.trans (Ok.send' o1.inv (o1.2.1 ▸ (h.routes p hp r (List.mem_of_find?_eq_some hfind)).2.1) resp)

theorem timeoutFired_ok {x : Ctx} (h : Inv x.st) (t : Nat) : Ok x (timeoutFired x t) := by
  rcases timeoutFired_cases x t with hr | ⟨r, hfind, hr⟩
  · rw [hr]; exact Ok.refl h
  · obtain ⟨q, hq, hrq⟩ := List.mem_flatMap.1 (List.mem_of_find?_eq_some hfind)
    have h1 := h.removeRoute r.owner r.rid
    have o1 := Ok.setSt (x := x) h1 (conns_removeRoute _ _ _)
    rcases hr with hr | ⟨_, resp, _, _, hr⟩
    · rw [hr]; exact o1.trans (Ok.emit h1 _ trivial)
    · rw [hr]
      have o2 := o1.trans (Ok.send' o1.inv (o1.2.1 ▸ (h.routes q hq r hrq).2.1) resp)
      exact o2.trans (Ok.emit o2.inv _ trivial)

/-! ## fetch / unfetch / get -/

theorem mem_conns_of_fetchKeys {ps : List Peer} {fk : FetchKey} (h : fk ∈ fetchKeys ps) : fk.peer ∈ conns ps :=
  let ⟨p, hp, hc, _⟩ := mem_fetchKeys.1 h
  mem_conns.2 ⟨p, hp, hc⟩

theorem writeBack_ok (cfg : Config) (fp : Peer) (f : Fetch) (oc : Nat) {x : Ctx} (h : Inv x.st) (e : Element)
    (hq : (⟨fp.conn, f.uid⟩ : FetchKey) ∈ fetchKeys x.st.peers)
    (hfound : ∀ q ∈ x.st.peers, q.conn = oc → ∀ el ∈ q.elements, el.path = e.path → e ∈ q.elements) :
    Ok x (writeBack oc (offerElement cfg x e fp f)) ∧
      (⟨fp.conn, f.uid⟩ : FetchKey) ∈ fetchKeys (writeBack oc (offerElement cfg x e fp f)).st.peers := by
  obtain ⟨b1, b7⟩ := offerElement_spec cfg h e fp f (mem_conns_of_fetchKeys hq)
  have b2 := offerElement_st cfg x e fp f
  have b5 : (offerElement cfg x e fp f).2.path = e.path := by rw [offerElement_snd]
  have b6 : (offerElement cfg x e fp f).2.owner = e.owner := by rw [offerElement_snd]
  have hI' := b1.inv.updatePeer_elements oc
    (fun el => if el.path == (offerElement cfg x e fp f).2.path then (offerElement cfg x e fp f).2 else el) (by
      rw [b2]
      intro q hqm hqc el hel
      split
      · next hpe =>
        have hpe : el.path = e.path := by rw [← b5]; simpa using hpe
        have he := hfound q hqm hqc el hel hpe
        refine ⟨by rw [b5, hpe], ?_, fun fk hfk' => .inr ?_⟩
        · rw [b6, h.owner q hqm e he, h.owner q hqm el hel]
        · rcases b7 fk hfk' with h' | h'
          · exact h.fetchers q hqm e he fk h'
          · rw [h']; exact hq
      · exact ⟨rfl, rfl, fun fk hfk' => Or.inl hfk'⟩)
  refine ⟨b1.trans (Ok.setSt hI' (conns_updatePeer fun _ => rfl)), ?_⟩
  show _ ∈ fetchKeys (updatePeer _ _ _)
  rw [fetchKeys_updatePeer (by intro; rfl) (by intro; rfl), b2]
  exact hq

theorem offerStep_ok (cfg : Config) (fp : Peer) (f : Fetch) (oc : Nat) {x : Ctx} (h : Inv x.st) (e0 : Element)
    (hq : (⟨fp.conn, f.uid⟩ : FetchKey) ∈ fetchKeys x.st.peers) :
    Ok x (offerStep cfg fp f oc x e0) ∧
      (⟨fp.conn, f.uid⟩ : FetchKey) ∈ fetchKeys (offerStep cfg fp f oc x e0).st.peers := by
  rw [offerStep_eq, readBack]
  -- the element read back is e0's namesake in the list of `oc`, or `e0` if there is none
  cases hrb : (findPeer x.st.peers oc).bind (·.elements.find? (·.path == e0.path)) with
  | none =>
    refine writeBack_ok cfg fp f oc h e0 hq fun q hqm hqc el hel hpe => ?_
    rw [← hqc, findPeer_of_mem h.nodup hqm] at hrb
    simpa [hpe] using List.find?_eq_none.1 hrb el hel
  | some e =>
    refine writeBack_ok cfg fp f oc h e hq fun q hqm hqc _ _ _ => ?_
    rw [← hqc, findPeer_of_mem h.nodup hqm] at hrb
    exact List.mem_of_find?_eq_some hrb

theorem offerAllElements_ok (cfg : Config) {x : Ctx} (h : Inv x.st) (fp : Peer) (f : Fetch)
    (hq : (⟨fp.conn, f.uid⟩ : FetchKey) ∈ fetchKeys x.st.peers) : Ok x (offerAllElements cfg x fp f) := by
  rw [offerAllElements_eq]
  refine (foldl_ok (fun y => (⟨fp.conn, f.uid⟩ : FetchKey) ∈ fetchKeys y.st.peers) _ _ x h hq ?_).1
  intro y owner _ hy hqy
  exact foldl_ok (fun y => (⟨fp.conn, f.uid⟩ : FetchKey) ∈ fetchKeys y.st.peers)
    _ _ y hy hqy (fun z e0 _ hz hqz => offerStep_ok cfg fp f owner.conn hz e0 hqz)

theorem fp_conn (ps : List Peer) (p : Peer) :
    (match findPeer ps p.conn with | some q => q | none => p).conn = p.conn := by
  split
  · next q hq => exact findPeer_conn hq
  · rfl

theorem fetchReq_ok (cfg : Config) {x : Ctx} (h : Inv x.st) {p : Peer} (hp : p ∈ x.st.peers) (req : Json) :
    Ok x (fetchReq cfg x p req).1 := by
  rcases fetchReq_cases cfg x p req with ⟨_, _, _, hr⟩ | ⟨_, fid, rule, _, _, _, hc⟩
  · rw [hr]; exact Ok.refl h
  · rw [show fetchReq cfg x p req = _ from hc]
    have h1 := h.addFetch p.conn (⟨x.st.nextUid, fid, rule⟩ : Fetch) (x.st.nextUid + 1)
    refine (Ok.setSt h1 (conns_updatePeer fun _ => rfl)).trans (offerAllElements_ok cfg h1 _ _ ?_)
    erw [fp_conn]
    exact mem_fetchKeys.2 ⟨_, mem_updatePeer.2 ⟨p, hp, rfl⟩, by simp, (⟨x.st.nextUid, fid, rule⟩ : Fetch), by simp, rfl⟩

theorem unfetchReq_ok {x : Ctx} (h : Inv x.st) (p : Peer) (req : Json) : Ok x (unfetchReq x p req).1 := by
  rcases unfetchReq_cases x p req with ⟨_, hr⟩ | ⟨_, _, f, _, _, hc⟩
  · rw [hr]; exact Ok.refl h
  · rw [hc]
    exact Ok.setSt (h.dropFetch _) ((conns_updatePeer (by intro; rfl)).trans (conns_map (by intro; rfl)))

theorem getReq_ok (cfg : Config) {x : Ctx} (h : Inv x.st) (p : Peer) (req : Json) : Ok x (getReq cfg x p req).1 := by
  rw [getReq_fst]; exact Ok.refl h

/-! ## config, authenticate, passwd -/

theorem configReq_ok {x : Ctx} (h : Inv x.st) (p : Peer) (req : Json) : Ok x (configReq x p req).1 := by
  rcases configReq_cases x p req with ⟨_, hr⟩ | hr | ⟨n, hr⟩ <;> rw [hr]
  · exact Ok.refl h
  · exact Ok.refl h
  · refine Ok.setSt ?_ (conns_updatePeer (fun _ => rfl))
    exact h.updatePeer_frame p.conn (fun q => { q with name := some n }) rfl rfl (Nat.le_refl _)
      (fun _ => rfl) (fun _ => rfl) (fun _ => rfl) (fun _ => rfl)

theorem authenticateReq_ok (cfg : Config) {x : Ctx} (h : Inv x.st) (p : Peer) (req : Json) :
    Ok x (authenticateReq cfg x p req).1 := by
  rcases authenticateReq_cases cfg x p req with ⟨_, _, hr⟩ | ⟨_, _, _, _, _, _, _, _, _, hr⟩ <;> rw [hr]
  · exact Ok.refl h
  · refine Ok.setSt ?_ (conns_updatePeer (fun _ => rfl))
    exact h.updatePeer_frame p.conn _ rfl rfl (Nat.le_refl _)
      (fun _ => rfl) (fun _ => rfl) (fun _ => rfl) (fun _ => rfl)

theorem passwdReq_ok {x : Ctx} (h : Inv x.st) (p : Peer) (req : Json) : Ok x (passwdReq x p req).1 := by
  rcases passwdReq_cases x p req with ⟨_, hr⟩ | ⟨_, _, _, _, _, _, _, _, _, hr⟩ <;> rw [hr]
  · exact Ok.refl h
  · exact Ok.setSt (h.frame rfl rfl (Nat.le_refl _)) rfl

/-! ## parse.c -/

theorem handleMethod_ok (cfg : Config) {x : Ctx} (h : Inv x.st) {p : Peer} (hp : p ∈ x.st.peers) (req : Json)
    (method : Bytes) : Ok x (handleMethod cfg x p req method).1 :=
  handleMethod_induct (P := fun r => Ok x r.1) cfg x p req method
    (fun _ => changeState_ok h p req) (fun _ => setOrCall_ok cfg h hp req true)
    (fun _ => setOrCall_ok cfg h hp req false) (fun _ => addElement_ok cfg h hp req)
    (fun _ => removeElementReq_ok h hp req) (fun _ => fetchReq_ok cfg h hp req) (fun _ => unfetchReq_ok h p req)
    (fun _ => getReq_ok cfg h p req) (fun _ => configReq_ok h p req) (fun _ => Ok.refl h)
    (fun _ => authenticateReq_ok cfg h p req) (fun _ => passwdReq_ok h p req) (Ok.refl h)

theorem sendResponse_ok {x : Ctx} (h : Inv x.st) {c : Nat} (hc : c ∈ conns x.st.peers) (resp : Option Json) :
    Ok x (sendResponse x c resp).1 := by
  cases resp with
  | none => exact Ok.refl h
  | some r => exact Ok.send h hc r

theorem parseJsonRpc_ok (cfg : Config) {x : Ctx} (h : Inv x.st) (c : Nat) (req : Json) :
    Ok x (parseJsonRpc cfg x c req).1 := by
  unfold parseJsonRpc
  split
  · exact Ok.refl h
  · next p hp =>
    have hpm := findPeer_mem hp
    have hc : c ∈ conns x.st.peers := mem_conns.2 ⟨p, hpm, findPeer_conn hp⟩
    split
    · next m _ =>
      have h1 := handleMethod_ok cfg h hpm req m
      exact h1.trans (sendResponse_ok h1.inv (by rw [h1.2.1]; exact hc) _)
    · exact sendResponse_ok h hc _
    · split
      · exact routingResponse_ok h hpm _ _ _
      · split
        · exact routingResponse_ok h hpm _ _ _
        · exact sendResponse_ok h hc _

theorem parseJsonArray_ok (cfg : Config) {x : Ctx} (h : Inv x.st) (c : Nat) (l : List Json) :
    Ok x (parseJsonArray cfg x c l).1 := by
  induction l generalizing x with
  | nil => exact Ok.refl h
  | cons j rest ih =>
    cases j with
    | obj l' =>
      have h1 := parseJsonRpc_ok cfg h c (.obj l')
      rw [parseJsonArray_cons_obj]
      split
      · exact h1.trans (ih h1.inv)
      · exact h1
    | _ => exact Ok.refl h

theorem parseMessage_ok (cfg : Config) {x : Ctx} (h : Inv x.st) (c : Nat) (msg : Option Json) :
    Ok x (parseMessage cfg x c msg).1 := by
  unfold parseMessage
  split
  · exact parseJsonArray_ok cfg h c _
  · exact parseJsonRpc_ok cfg h c _
  · exact Ok.refl h

end Cjet.Daemon.C05
