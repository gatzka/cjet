/-
  DaemonC08Inv — vocabulary and invariants of the access-control proofs (C08).

  * `KeepsA` / `Keeps`: peer updates that leave the authentication fields (and the fetch list)
              alone; `OutExt`: output extension; `idFirst` (answer / routed request) and
              `isNotif` (fetch notification): the shape of the JSON values the daemon sends.
  * `FInv`  : connection numbers are unique and every occupied fetcher-table slot `⟨c, uid⟩` of
              every element `e` refers to a live peer `c` that owns a fetch `uid` and has
              `hasAccess e.fetchGroups p.fetchGroups`.
  * `AuthInv`: the authentication fields of every peer are either all unset or derived from a
              record of the credential table.
  * `J`     : what may be sent while one request / close / timer expiry is processed in a state
              `s0`: values that start with "id" (answers, routed requests), and notifications for
              an element the receiver has access to.
  * `Ok`    : what holds of the context at every point inside such a unit, with one lemma for each
              kind of step a handler takes (send, emit, notify, offer, update of the peer list).
-/
import Cjet.Lemmas.DaemonC03SetCall

namespace Cjet.Daemon.C08

open Cjet Cjet.Json Cjet.Daemon

theorem findPeer_nil (c : Nat) : findPeer [] c = none := rfl

theorem findPeer_filter_self (ps : List Peer) (c : Nat) :
    findPeer (ps.filter (fun q => q.conn != c)) c = none := Daemon.findPeer_filter_self ps c

/-! ## peer updates that leave the authentication fields alone -/

/-- `g` leaves the connection number and the authentication fields of every peer alone -/
def KeepsA (g : Peer → Peer) : Prop :=
  ∀ q, (g q).conn = q.conn ∧ (g q).user = q.user ∧ (g q).fetchGroups = q.fetchGroups ∧
    (g q).setGroups = q.setGroups ∧ (g q).callGroups = q.callGroups

/-- … and its fetch list -/
def Keeps (g : Peer → Peer) : Prop := KeepsA g ∧ ∀ q, (g q).fetches = q.fetches

theorem KeepsA.id : KeepsA (fun q => q) := fun _ => ⟨rfl, rfl, rfl, rfl, rfl⟩
theorem Keeps.id : Keeps (fun q => q) := ⟨KeepsA.id, fun _ => rfl⟩

theorem KeepsA.comp {g h : Peer → Peer} (hg : KeepsA g) (hh : KeepsA h) : KeepsA (fun q => h (g q)) := by
  intro q
  obtain ⟨a1, a2, a3, a4, a5⟩ := hg q
  obtain ⟨b1, b2, b3, b4, b5⟩ := hh (g q)
  exact ⟨b1.trans a1, b2.trans a2, b3.trans a3, b4.trans a4, b5.trans a5⟩

theorem Keeps.comp {g h : Peer → Peer} (hg : Keeps g) (hh : Keeps h) : Keeps (fun q => h (g q)) :=
  ⟨hg.1.comp hh.1, fun q => (hh.2 (g q)).trans (hg.2 q)⟩

/-- `updatePeer` applies its function to the peers of one connection -/
theorem KeepsA.ite {f : Peer → Peer} (c : Nat) (hf : KeepsA f) :
    KeepsA (fun p => if p.conn == c then f p else p) := by
  intro q
  dsimp only
  split
  · exact hf q
  · exact ⟨rfl, rfl, rfl, rfl, rfl⟩

theorem Keeps.ite {f : Peer → Peer} (c : Nat) (hf : Keeps f) :
    Keeps (fun p => if p.conn == c then f p else p) := by
  refine ⟨hf.1.ite c, fun q => ?_⟩
  dsimp only
  split
  · exact hf.2 q
  · rfl

theorem Keeps.conn {g : Peer → Peer} (hg : Keeps g) (q : Peer) : (g q).conn = q.conn := (hg.1 q).1
theorem KeepsA.conn {g : Peer → Peer} (hg : KeepsA g) (q : Peer) : (g q).conn = q.conn := (hg q).1

/-- updates of the element list / routing table / name only -/
theorem keeps_elements (f : Peer → List Element) : Keeps (fun q => { q with elements := f q }) :=
  ⟨fun _ => ⟨rfl, rfl, rfl, rfl, rfl⟩, fun _ => rfl⟩

theorem keeps_routes (f : Peer → List Route) : Keeps (fun q => { q with routes := f q }) :=
  ⟨fun _ => ⟨rfl, rfl, rfl, rfl, rfl⟩, fun _ => rfl⟩

theorem keeps_name (n : Option Bytes) : Keeps (fun q => { q with name := n }) :=
  ⟨fun _ => ⟨rfl, rfl, rfl, rfl, rfl⟩, fun _ => rfl⟩

theorem keepsA_fetches (f : Peer → List Fetch) : KeepsA (fun q => { q with fetches := f q }) :=
  fun _ => ⟨rfl, rfl, rfl, rfl, rfl⟩

/-! ## send, send', emit -/

theorem emit_st (x : Ctx) (o : Obs) : (emit x o).st = x.st := rfl
theorem emit_out (x : Ctx) (o : Obs) : (emit x o).out = o :: x.out := rfl

theorem send'_out (x : Ctx) (c : Nat) (j : Json) : ∃ ok, (send' x c j).out = Obs.send c j ok :: x.out :=
  ⟨_, send'_out_eq x c j⟩

/-! ## output extension -/

/-- `x'` has the outputs of `x` plus new ones (newest first), each satisfying `Q` -/
def OutExt (Q : Obs → Prop) (x x' : Ctx) : Prop :=
  ∃ new, x'.out = new ++ x.out ∧ ∀ o ∈ new, Q o

theorem OutExt.refl (Q : Obs → Prop) (x : Ctx) : OutExt Q x x := ⟨[], rfl, by simp⟩

theorem OutExt.of_out_eq {Q : Obs → Prop} {x x' : Ctx} (h : x'.out = x.out) : OutExt Q x x' :=
  ⟨[], by simpa using h, by simp⟩

theorem OutExt.trans {Q : Obs → Prop} {x y z : Ctx} (h1 : OutExt Q x y) (h2 : OutExt Q y z) : OutExt Q x z := by
  obtain ⟨n1, e1, q1⟩ := h1
  obtain ⟨n2, e2, q2⟩ := h2
  refine ⟨n2 ++ n1, by rw [e2, e1, List.append_assoc], ?_⟩
  intro o ho
  rcases List.mem_append.mp ho with h | h
  · exact q2 o h
  · exact q1 o h

theorem OutExt.mono {Q Q' : Obs → Prop} {x y : Ctx} (h : OutExt Q x y) (hq : ∀ o, Q o → Q' o) : OutExt Q' x y := by
  obtain ⟨n, e, q⟩ := h
  exact ⟨n, e, fun o ho => hq o (q o ho)⟩

theorem OutExt.emit {Q : Obs → Prop} (x : Ctx) (o : Obs) (h : Q o) : OutExt Q x (emit x o) :=
  ⟨[o], rfl, fun _ ho => List.mem_singleton.1 ho ▸ h⟩

theorem OutExt.send {Q : Obs → Prop} (x : Ctx) (c : Nat) (j : Json) (h : ∀ ok, Q (Obs.send c j ok)) :
    OutExt Q x (send x c j).1 :=
  ⟨[_], send_out_eq x c j, fun _ ho => List.mem_singleton.1 ho ▸ h _⟩

theorem OutExt.send' {Q : Obs → Prop} (x : Ctx) (c : Nat) (j : Json) (h : ∀ ok, Q (Obs.send c j ok)) :
    OutExt Q x (send' x c j) := OutExt.send x c j h

theorem OutExt.congr_right {Q : Obs → Prop} {x y y' : Ctx} (h : OutExt Q x y) (e : y'.out = y.out) : OutExt Q x y' := by
  obtain ⟨n, e1, q⟩ := h
  exact ⟨n, by rw [e, e1], q⟩

/-! ## shapes of the values the daemon sends -/

/-- answers (result / error) and routed requests start with the member "id" -/
def idFirst : Json → Bool
  | .obj ((key, _) :: _) => key == k "id"
  | _ => false

/-- fetch notifications start with the member "method" -/
def isNotif : Json → Bool
  | .obj ((key, _) :: _) => key == k "method"
  | _ => false

theorem k_id_ne_method : (k "id" == k "method") = false := by decide +kernel

theorem not_isNotif_of_idFirst {j : Json} (h : idFirst j = true) : isNotif j = false := by
  unfold idFirst at h
  unfold isNotif
  split at h
  · rename_i key _ _
    have : key = k "id" := by simpa using h
    subst this
    exact k_id_ne_method
  · cases h

theorem isNotif_notification (e : Element) (fid : Json) (ev : String) : isNotif (notification e fid ev) = true :=
  beq_self_eq_true _

/-! Every answer is the object `{"id": …, …}` (`DaemonCore`), and a routed request is built that way. -/

theorem idFirst_errorResponse {id : Json} {code : Int} {tag : String} {reason : Bytes} {j : Json}
    (h : errorResponse id code tag reason = some j) : idFirst j = true :=
  errorResponse_some h ▸ beq_self_eq_true _

theorem idFirst_resultResponse {id result : Json} {typ : String} {j : Json}
    (h : resultResponse id result typ = some j) : idFirst j = true :=
  resultResponse_some h ▸ beq_self_eq_true _

theorem idFirst_errorFromRequest {req : Json} {code : Int} {tag : String} {reason : Bytes} {j : Json}
    (h : errorFromRequest req code tag reason = some j) : idFirst j = true :=
  let ⟨_, _, e⟩ := errorFromRequest_some h
  e ▸ beq_self_eq_true _

theorem idFirst_resultFromRequest {req result : Json} {j : Json}
    (h : resultFromRequest req result = some j) : idFirst j = true :=
  let ⟨_, _, e⟩ := resultFromRequest_some h
  e ▸ beq_self_eq_true _

theorem idFirst_successFromRequest {req : Json} {j : Json}
    (h : successFromRequest req = some j) : idFirst j = true := idFirst_resultFromRequest h

theorem idFirst_routedMessage (rid path : Bytes) (isState : Bool) (v : Option Json) :
    idFirst (routedMessage rid path isState v) = true := beq_self_eq_true _

/-! ## fetcher tables -/

def fuids (p : Peer) : List Nat := p.fetches.map (·.uid)

/-- slot `fk` of an element with fetch groups `fg` is legitimate in the peer list `ps` -/
def PeerOK (cfg : Config) (ps : List Peer) (fg : Nat) (fk : FetchKey) : Prop :=
  ∃ p, findPeer ps fk.peer = some p ∧ fk.uid ∈ fuids p ∧ hasAccess cfg fg p.fetchGroups = true

def ElemOK (cfg : Config) (ps : List Peer) (e : Element) : Prop :=
  ∀ fk, some fk ∈ e.fetchers → PeerOK cfg ps e.fetchGroups fk

structure FInv (cfg : Config) (s : State) : Prop where
  nodup : (s.peers.map (·.conn)).Nodup
  fetchers : ∀ o ∈ s.peers, ∀ e ∈ o.elements, ElemOK cfg s.peers e

theorem PeerOK.transfer {cfg : Config} {ps ps' : List Peer} {fg : Nat} {fk : FetchKey} (h : PeerOK cfg ps fg fk)
    (ht : ∀ p, findPeer ps fk.peer = some p → fk.uid ∈ fuids p →
      ∃ p', findPeer ps' fk.peer = some p' ∧ fk.uid ∈ fuids p' ∧ p'.fetchGroups = p.fetchGroups) :
    PeerOK cfg ps' fg fk := by
  obtain ⟨p, h1, h2, h3⟩ := h
  obtain ⟨p', t1, t2, t3⟩ := ht p h1 h2
  exact ⟨p', t1, t2, t3 ▸ h3⟩

theorem Keeps.fuids_eq {g : Peer → Peer} (hg : Keeps g) (p : Peer) : fuids (g p) = fuids p :=
  congrArg (List.map Fetch.uid) (hg.2 p)

theorem PeerOK.map {cfg : Config} {g : Peer → Peer} (hg : Keeps g) {ps : List Peer} {fg : Nat} {fk : FetchKey}
    (h : PeerOK cfg ps fg fk) : PeerOK cfg (ps.map g) fg fk :=
  h.transfer fun p hf hu => ⟨g p, by rw [findPeer_map hg.conn, hf]; rfl, hg.fuids_eq p ▸ hu, (hg.1 p).2.2.1⟩

theorem PeerOK.of_map {cfg : Config} {g : Peer → Peer} (hg : Keeps g) {ps : List Peer} {fg : Nat} {fk : FetchKey}
    (h : PeerOK cfg (ps.map g) fg fk) : PeerOK cfg ps fg fk := by
  obtain ⟨p', hf, hu, ha⟩ := h
  rw [findPeer_map hg.conn] at hf
  obtain ⟨p, hp, rfl⟩ := Option.map_eq_some_iff.1 hf
  exact ⟨p, hp, hg.fuids_eq p ▸ hu, (hg.1 p).2.2.1 ▸ ha⟩

theorem ElemOK.map {cfg : Config} {g : Peer → Peer} (hg : Keeps g) {ps : List Peer} {e : Element}
    (h : ElemOK cfg ps e) : ElemOK cfg (ps.map g) e := fun fk hfk => (h fk hfk).map hg

/-- an element that differs in value / fetcher subset only -/
theorem ElemOK.sub {cfg : Config} {ps : List Peer} {e e' : Element} (h : ElemOK cfg ps e)
    (hg : e'.fetchGroups = e.fetchGroups) (hs : ∀ fk, some fk ∈ e'.fetchers → some fk ∈ e.fetchers) :
    ElemOK cfg ps e' := by
  intro fk hfk
  rw [hg]
  exact h fk (hs fk hfk)

/-- the workhorse: a `Keeps` map of the peer list whose new element lists contain only
    elements that were fine before -/
theorem FInv.map {cfg : Config} {s : State} (h : FInv cfg s) {g : Peer → Peer} (hg : Keeps g)
    (hel : ∀ q ∈ s.peers, ∀ e ∈ (g q).elements, ElemOK cfg s.peers e) {s' : State}
    (hs : s'.peers = s.peers.map g) : FInv cfg s' := by
  constructor
  · rw [hs, conns_map hg.conn]; exact h.nodup
  · intro o ho e he
    rw [hs] at ho ⊢
    obtain ⟨q, hq, rfl⟩ := List.mem_map.mp ho
    exact (hel q hq e he).map hg

/-- `g` keeps identity and groups of every peer; the elements it leaves are old ones that lost at
    most slots, and no slot that is left loses the fetch it names (fetch, unfetch, the unsubscribing
    phase of a close) -/
structure Thins (ps : List Peer) (g : Peer → Peer) : Prop where
  keeps : KeepsA g
  elems : ∀ o ∈ ps, ∀ e' ∈ (g o).elements, ∃ e ∈ o.elements, e'.path = e.path ∧ e'.fetchGroups = e.fetchGroups ∧
    ∀ fk, some fk ∈ e'.fetchers → some fk ∈ e.fetchers ∧
      ∀ q, findPeer ps fk.peer = some q → fk.uid ∈ fuids q → fk.uid ∈ fuids (g q)

theorem FInv.thin {cfg : Config} {s s' : State} (h : FInv cfg s) {g : Peer → Peer} (hg : Thins s.peers g)
    (hs : s'.peers = s.peers.map g) : FInv cfg s' := by
  refine ⟨by rw [hs, conns_map hg.keeps.conn]; exact h.nodup, fun o' ho' e' he' fk hfk => ?_⟩
  rw [hs] at ho' ⊢
  obtain ⟨o, ho, rfl⟩ := List.mem_map.1 ho'
  obtain ⟨e, he, _, hfg, hsl⟩ := hg.elems o ho e' he'
  rw [hfg]
  exact (h.fetchers o ho e he fk (hsl fk hfk).1).transfer fun q hq hu =>
    ⟨g q, by rw [findPeer_map hg.keeps.conn, hq]; rfl, (hsl fk hfk).2 q hq hu, (hg.keeps q).2.2.1⟩

theorem thins_thinG (ps : List Peer) {F : Element → Element} {c : Nat} {G : List Fetch → List Fetch}
    (hF : ∀ e, (F e).path = e.path ∧ (F e).fetchGroups = e.fetchGroups)
    (hsl : ∀ e fk, some fk ∈ (F e).fetchers → some fk ∈ e.fetchers ∧
      (fk.peer = c → ∀ fs : List Fetch, fk.uid ∈ fs.map (·.uid) → fk.uid ∈ (G fs).map (·.uid))) :
    Thins ps (thinG F c G) := by
  refine ⟨fun q => by unfold thinG; split <;> exact ⟨rfl, rfl, rfl, rfl, rfl⟩, fun o _ e' he' => ?_⟩
  have hm : e' ∈ o.elements.map F := by unfold thinG at he'; split at he' <;> exact he'
  obtain ⟨e, he, rfl⟩ := List.mem_map.1 hm
  refine ⟨e, he, (hF e).1, (hF e).2, fun fk hfk => ⟨(hsl e fk hfk).1, fun q hq hu => ?_⟩⟩
  unfold thinG
  split
  · next hc => exact (hsl e fk hfk).2 ((findPeer_conn hq).symm.trans (beq_iff_eq.1 hc)) _ hu
  · exact hu

theorem FInv.of_peers_eq {cfg : Config} {s s' : State} (h : FInv cfg s) (hs : s'.peers = s.peers) : FInv cfg s' := by
  constructor
  · rw [hs]; exact h.nodup
  · rw [hs]; exact h.fetchers

/-! ## what may be sent -/

/-- an element with this path and these fetch groups is registered in `s` -/
def ElemIn (s : State) (path : Bytes) (fg : Nat) : Prop :=
  ∃ o ∈ s.peers, ∃ e ∈ o.elements, e.path = path ∧ e.fetchGroups = fg

/-- provenance of the element of a notification: registered in `s0`, or the element declared
    by the `add` request being processed (`d` = its path and fetch groups) -/
def Prov (s0 : State) (d : Option (Bytes × Nat)) (e : Element) : Prop :=
  ElemIn s0 e.path e.fetchGroups ∨ d = some (e.path, e.fetchGroups)

def NotifOK (cfg : Config) (s0 : State) (d : Option (Bytes × Nat)) (c : Nat) (j : Json) : Prop :=
  ∃ e fid ev p, j = notification e fid ev ∧ findPeer s0.peers c = some p ∧
    hasAccess cfg e.fetchGroups p.fetchGroups = true ∧ Prov s0 d e

def J (cfg : Config) (s0 : State) (d : Option (Bytes × Nat)) : Obs → Prop
  | .send c j _ => idFirst j = true ∨ NotifOK cfg s0 d c j
  | _ => True

theorem J.weaken {cfg : Config} {s0 : State} {d : Option (Bytes × Nat)} {o : Obs} (h : J cfg s0 none o) : J cfg s0 d o := by
  cases o with
  | send c j ok =>
    rcases h with h | ⟨e, fid, ev, p, h1, h2, h3, h4⟩
    · exact Or.inl h
    · refine Or.inr ⟨e, fid, ev, p, h1, h2, h3, ?_⟩
      rcases h4 with h4 | h4
      · exact Or.inl h4
      · cases h4
  | _ => trivial

/-! ## notifyFetchers, offerElement -/

theorem notifyFetchers_out {cfg : Config} {s0 : State} {d : Option (Bytes × Nat)} (x : Ctx) (e : Element) (ev : String)
    (hok : ∀ fk, some fk ∈ e.fetchers →
      ∃ p, findPeer s0.peers fk.peer = some p ∧ hasAccess cfg e.fetchGroups p.fetchGroups = true)
    (hprov : Prov s0 d e) : OutExt (J cfg s0 d) x (notifyFetchers x e ev) :=
  notifyFetchers_induct (P := OutExt (J cfg s0 d) x) e ev (OutExt.refl _ _) fun y fk f _ hfk _ hy =>
    let ⟨p, hp, ha⟩ := hok fk hfk
    hy.trans (OutExt.send' y _ _ fun _ => Or.inr ⟨e, f.fid, ev, p, rfl, hp, ha, hprov⟩)

/-! ## authentication fields -/

/-- identity and authentication fields of a peer -/
def AV (p : Peer) : Nat × Option Bytes × Nat × Nat × Nat :=
  (p.conn, p.user, p.fetchGroups, p.setGroups, p.callGroups)

theorem AV_of_keepsA {g : Peer → Peer} (hg : KeepsA g) (q : Peer) : AV (g q) = AV q := by
  obtain ⟨a, b, c, d, e⟩ := hg q
  simp [AV, a, b, c, d, e]

/-- the credential table is untouched and every peer of `s'` is a peer of `s` as far as its
    authentication fields go -/
def AuthSame (s s' : State) : Prop :=
  s'.users = s.users ∧ ∀ p' ∈ s'.peers, ∃ p ∈ s.peers, AV p' = AV p

theorem AuthSame.refl (s : State) : AuthSame s s := ⟨rfl, fun p hp => ⟨p, hp, rfl⟩⟩

theorem AuthSame.trans {s t u : State} (h1 : AuthSame s t) (h2 : AuthSame t u) : AuthSame s u := by
  refine ⟨h2.1.trans h1.1, fun p hp => ?_⟩
  obtain ⟨q, hq, e1⟩ := h2.2 p hp
  obtain ⟨r, hr, e2⟩ := h1.2 q hq
  exact ⟨r, hr, e1.trans e2⟩

theorem AuthSame.of_map {s s' : State} {g : Peer → Peer} (hg : KeepsA g) (hu : s'.users = s.users)
    (hp : s'.peers = s.peers.map g) : AuthSame s s' := by
  refine ⟨hu, fun p' hp' => ?_⟩
  rw [hp] at hp'
  obtain ⟨q, hq, rfl⟩ := List.mem_map.mp hp'
  exact ⟨q, hq, AV_of_keepsA hg q⟩

theorem AuthSame.of_eq {s s' : State} (hu : s'.users = s.users) (hp : s'.peers = s.peers) : AuthSame s s' := by
  refine ⟨hu, fun p' hp' => ⟨p', hp ▸ hp', rfl⟩⟩

/-- the authentication fields of `p` are unset, or those of a credential record -/
def PeerAuth (cfg : Config) (us : List User) (p : Peer) : Prop :=
  (p.user = none ∧ p.fetchGroups = 0 ∧ p.setGroups = 0 ∧ p.callGroups = 0) ∨
  (∃ u usr auth, p.user = some u ∧ findUser us u = some usr ∧ usr.auth = some auth ∧
    p.fetchGroups = getGroups cfg (auth.getItem (k "fetchGroups")) ∧
    p.setGroups = getGroups cfg (auth.getItem (k "setGroups")) ∧
    p.callGroups = getGroups cfg (auth.getItem (k "callGroups")))

def AuthInv (cfg : Config) (s : State) : Prop := ∀ p ∈ s.peers, PeerAuth cfg s.users p

theorem PeerAuth.of_no_user {cfg : Config} {us : List User} {p : Peer} (h : PeerAuth cfg us p) (hn : p.user = none) :
    p.fetchGroups = 0 ∧ p.setGroups = 0 ∧ p.callGroups = 0 :=
  h.elim And.right fun ⟨_, _, _, hu, _⟩ => nomatch hn.symm.trans hu

theorem PeerAuth.of_AV {cfg : Config} {us : List User} {p p' : Peer} (h : PeerAuth cfg us p) (e : AV p' = AV p) :
    PeerAuth cfg us p' := by
  simp only [AV, Prod.mk.injEq] at e
  obtain ⟨_, e2, e3, e4, e5⟩ := e
  unfold PeerAuth
  rw [e2, e3, e4, e5]
  exact h

theorem AuthInv.of_same {cfg : Config} {s s' : State} (h : AuthInv cfg s) (hs : AuthSame s s') : AuthInv cfg s' := by
  intro p' hp'
  obtain ⟨p, hp, e⟩ := hs.2 p' hp'
  rw [hs.1]
  exact (h p hp).of_AV e

/-- a password change: names, auth objects and the order of the records stay -/
def setPassword (us : List User) (name pw : Bytes) : List User :=
  us.map (fun usr => if usr.name == name then { usr with password := pw } else usr)

theorem findUser_setPassword (us : List User) (name pw u : Bytes) :
    findUser (setPassword us name pw) u =
      (findUser us u).map (fun usr => if usr.name == name then { usr with password := pw } else usr) := by
  unfold findUser setPassword
  induction us with
  | nil => rfl
  | cons a rest ih =>
    simp only [List.map_cons, List.find?_cons]
    have : (if a.name == name then { a with password := pw } else a).name = a.name := by
      split <;> rfl
    rw [this]
    split
    · rfl
    · exact ih

theorem PeerAuth.setPassword {cfg : Config} {us : List User} {p : Peer} (h : PeerAuth cfg us p) (name pw : Bytes) :
    PeerAuth cfg (setPassword us name pw) p := by
  rcases h with h | ⟨u, usr, auth, h1, h2, h3, h4⟩
  · exact Or.inl h
  · refine Or.inr ⟨u, (if usr.name == name then { usr with password := pw } else usr), auth, h1, ?_, ?_, h4⟩
    · rw [findUser_setPassword, h2]; rfl
    · split <;> exact h3

/-- the assignment a successful `authenticate` makes to the peer -/
def authUpd (cfg : Config) (auth : Json) (u : Bytes) (q : Peer) : Peer :=
  { q with fetchGroups := getGroups cfg (auth.getItem (k "fetchGroups")),
           setGroups := getGroups cfg (auth.getItem (k "setGroups")),
           callGroups := getGroups cfg (auth.getItem (k "callGroups")), user := some u }

/-- what one request does to the authentication data -/
def AuthEff (cfg : Config) (s : State) (c : Nat) (req : Json) (s' : State) : Prop :=
  AuthSame s s' ∨
  (∃ u pw usr auth, getCredentials req = .ok u pw ∧ findUser s.users u = some usr ∧ usr.password = pw ∧
      usr.auth = some auth ∧ s'.users = s.users ∧
      s'.peers = updatePeer s.peers c (authUpd cfg auth u)) ∨
  (∃ name pw, s'.peers = s.peers ∧ s'.users = setPassword s.users name pw)

theorem AuthInv.of_eff {cfg : Config} {s s' : State} {c : Nat} {req : Json} (h : AuthInv cfg s)
    (he : AuthEff cfg s c req s') : AuthInv cfg s' := by
  rcases he with he | ⟨u, pw, usr, auth, _, hf, _, ha, hu, hp⟩ | ⟨name, pw, hp, hu⟩
  · exact h.of_same he
  · intro p' hp'
    rw [hp, updatePeer_eq_map] at hp'
    obtain ⟨q, hq, rfl⟩ := List.mem_map.mp hp'
    rw [hu]
    split
    · exact Or.inr ⟨u, usr, auth, rfl, hf, ha, rfl, rfl, rfl⟩
    · exact h q hq
  · intro p' hp'
    rw [hp] at hp'
    rw [hu]
    exact (h p' hp').setPassword name pw

/-! ## inside one unit -/

section
variable {cfg : Config} {s0 : State} {d : Option (Bytes × Nat)} {x0 x y : Ctx}

/-- `x` continues `x0` inside a unit that started in state `s0`: only justified outputs were
    added, the fetcher tables are in order, every element stems from `s0` (or is the declared one)
    and the authentication data are those of `s0`.  The lemmas below are the steps the handlers
    are made of; what a step produces is implicit in them, so that a chain of steps is elaborated
    from the goal inwards. -/
structure Ok (cfg : Config) (s0 : State) (d : Option (Bytes × Nat)) (x0 x : Ctx) : Prop where
  nodup0 : (s0.peers.map (·.conn)).Nodup
  inv : FInv cfg x.st
  prov : ∀ o ∈ x.st.peers, ∀ e ∈ o.elements, Prov s0 d e
  out : OutExt (J cfg s0 d) x0 x
  auth : AuthSame s0 x.st

theorem Ok.refl (h : FInv cfg x.st) : Ok cfg x.st d x x :=
  ⟨h.nodup, h, fun o ho e he => Or.inl ⟨o, ho, e, he, rfl, rfl⟩, OutExt.refl _ _, AuthSame.refl _⟩

theorem Ok.peer0 {c : Nat} {p' : Peer} (h : Ok cfg s0 d x0 x) (hf : findPeer x.st.peers c = some p') :
    ∃ p, findPeer s0.peers c = some p ∧ p.fetchGroups = p'.fetchGroups := by
  obtain ⟨p, hp, e⟩ := h.auth.2 p' (findPeer_mem hf)
  have hc : p.conn = c := (congrArg Prod.fst e).symm.trans (findPeer_conn hf)
  exact ⟨p, hc ▸ findPeer_of_mem h.nodup0 hp, (congrArg (·.2.2.1) e).symm⟩

theorem Ok.outputs (h : Ok cfg s0 d x0 x) (hst : y.st = x.st) (ho : OutExt (J cfg s0 d) x y) : Ok cfg s0 d x0 y :=
  ⟨h.nodup0, hst ▸ h.inv, hst ▸ h.prov, h.out.trans ho, hst ▸ h.auth⟩

theorem Ok.send {c : Nat} {j : Json} (h : Ok cfg s0 d x0 x) (hj : idFirst j = true) : Ok cfg s0 d x0 (send x c j).1 :=
  h.outputs (send_st ..) (OutExt.send _ _ _ fun _ => Or.inl hj)

theorem Ok.send' {c : Nat} {j : Json} (h : Ok cfg s0 d x0 x) (hj : idFirst j = true) : Ok cfg s0 d x0 (send' x c j) :=
  h.send hj

theorem Ok.emit {o : Obs} (h : Ok cfg s0 d x0 x) (ho : J cfg s0 d o) : Ok cfg s0 d x0 (emit x o) :=
  h.outputs rfl (OutExt.emit _ _ ho)

theorem Ok.notify {e : Element} {ev : String} (h : Ok cfg s0 d x0 x) (hok : ElemOK cfg x.st.peers e) (hprov : Prov s0 d e) :
    Ok cfg s0 d x0 (notifyFetchers x e ev) :=
  h.outputs (notifyFetchers_st ..) <| notifyFetchers_out x e ev (hprov := hprov) fun fk hfk =>
    let ⟨_, hf, _, ha⟩ := hok fk hfk
    let ⟨p, hp, hg⟩ := h.peer0 hf
    ⟨p, hp, hg ▸ ha⟩

theorem Ok.offer {e : Element} {fp : Peer} {f : Fetch} (h : Ok cfg s0 d x0 x)
    (hfp : ∃ q, findPeer x.st.peers fp.conn = some q ∧ q.fetchGroups = fp.fetchGroups) (hprov : Prov s0 d e) :
    Ok cfg s0 d x0 (offerElement cfg x e fp f).1 := by
  rcases offerElement_cases cfg x e fp f with h' | ⟨hacc, h'⟩ <;> rw [h']
  · exact h
  · obtain ⟨q, hq, hg⟩ := hfp
    obtain ⟨p, hp, hg'⟩ := h.peer0 hq
    exact h.outputs (send'_st ..) (OutExt.send' _ _ _ fun _ =>
      Or.inr ⟨_, f.fid, "add", p, rfl, hp, (hg'.trans hg) ▸ (Bool.and_eq_true _ _ ▸ hacc).1, hprov⟩)

theorem Ok.peers {g : Peer → Peer} (h : Ok cfg s0 d x0 x) (hg : Keeps g)
    (hel : ∀ q ∈ x.st.peers, ∀ e ∈ (g q).elements, ElemOK cfg x.st.peers e ∧ Prov s0 d e)
    (hp : y.st.peers = x.st.peers.map g) (hu : y.st.users = x.st.users) (ho : y.out = x.out) : Ok cfg s0 d x0 y := by
  refine ⟨h.nodup0, h.inv.map hg (fun q hq e he => (hel q hq e he).1) hp, ?_, h.out.congr_right ho,
    h.auth.trans (AuthSame.of_map hg.1 hu hp)⟩
  intro o ho e he
  rw [hp] at ho
  obtain ⟨q, hq, rfl⟩ := List.mem_map.1 ho
  exact (hel q hq e he).2

theorem Ok.elem {o : Peer} {e : Element} (h : Ok cfg s0 d x0 x) (ho : o ∈ x.st.peers) (he : e ∈ o.elements) :
    ElemOK cfg x.st.peers e ∧ Prov s0 d e := ⟨h.inv.fetchers o ho e he, h.prov o ho e he⟩

theorem Ok.elements (h : Ok cfg s0 d x0 x) (c : Nat) (f : Peer → List Element)
    (hel : ∀ q ∈ x.st.peers, q.conn = c → ∀ e ∈ f q, e ∈ q.elements ∨ (ElemOK cfg x.st.peers e ∧ Prov s0 d e))
    (hp : y.st.peers = updatePeer x.st.peers c (fun q => { q with elements := f q })) (hu : y.st.users = x.st.users)
    (ho : y.out = x.out) : Ok cfg s0 d x0 y := by
  refine h.peers (Keeps.ite c (keeps_elements f)) (fun q hq e he => ?_) hp hu ho
  split at he
  · exact (hel q hq (beq_iff_eq.1 ‹_›) e he).elim (h.elem hq) id
  · exact h.elem hq he

theorem Ok.fields {g : Peer → Peer} (h : Ok cfg s0 d x0 x) (hg : Keeps g) (he : ∀ q, (g q).elements = q.elements)
    (hp : y.st.peers = x.st.peers.map g) (hu : y.st.users = x.st.users) (ho : y.out = x.out) : Ok cfg s0 d x0 y :=
  h.peers hg (fun _ hq _ h' => h.elem hq (he _ ▸ h')) hp hu ho

theorem Ok.routes (h : Ok cfg s0 d x0 x) (c : Nat) (f : Peer → List Route)
    (hp : y.st.peers = updatePeer x.st.peers c (fun q => { q with routes := f q })) (hu : y.st.users = x.st.users)
    (ho : y.out = x.out) : Ok cfg s0 d x0 y :=
  h.fields (Keeps.ite c (keeps_routes f)) (elements_ite c fun _ => rfl) hp hu ho

theorem Ok.thin {g : Peer → Peer} (h : Ok cfg s0 d x0 x) (hg : Thins x.st.peers g)
    (hp : y.st.peers = x.st.peers.map g) (hu : y.st.users = x.st.users) (ho : y.out = x.out) : Ok cfg s0 d x0 y := by
  refine ⟨h.nodup0, h.inv.thin hg hp, fun o' ho' e' he' => ?_, h.out.congr_right ho,
    h.auth.trans (AuthSame.of_map hg.keeps hu hp)⟩
  rw [hp] at ho'
  obtain ⟨o, ho, rfl⟩ := List.mem_map.1 ho'
  obtain ⟨e, he, hpath, hfg, _⟩ := hg.elems o ho e' he'
  have := h.prov o ho e he
  rw [Prov, ← hpath, ← hfg] at this
  exact this

theorem Ok.frame (h : Ok cfg s0 d x0 x) (hp : y.st.peers = x.st.peers) (hu : y.st.users = x.st.users)
    (ho : y.out = x.out) : Ok cfg s0 d x0 y :=
  ⟨h.nodup0, h.inv.of_peers_eq hp, hp ▸ h.prov, h.out.congr_right ho, h.auth.trans (AuthSame.of_eq hu hp)⟩

theorem Ok.removeElement {o : Peer} {e : Element} (h : Ok cfg s0 d x0 x) (ho : o ∈ x.st.peers) (he : e ∈ o.elements) :
    Ok cfg s0 d x0 (removeElement x e) := by
  have hn := h.notify (ev := "remove") (h.elem ho he).1 (h.elem ho he).2
  rw [removeElement_eq]
  exact hn.elements e.owner _ (fun q _ _ el hel => Or.inl (List.mem_filter.1 hel).1)
    (by rw [notifyFetchers_st]) (by rw [notifyFetchers_st]) rfl

end

end Cjet.Daemon.C08
