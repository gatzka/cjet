/-
  C01 — what `notifyFetchers`, `offerElement`, `findFetchersForElement` emit and compute, and
  `offerAllElements` (add_fetch_to_states): every element of every peer is offered to the new
  fetch exactly once; the result is a plain map over the state.
-/
import Cjet.Lemmas.DaemonC01Base

namespace Cjet.Daemon.C01

open Cjet Cjet.Json Cjet.Daemon

section

variable {cfg : Config}

/-! ## findFetch -/

theorem findFetch_of_mem {s : State} (ok : FetchesOK s) {p : Peer} (hp : p ∈ s.peers) {f : Fetch}
    (hf : f ∈ p.fetches) : findFetch s.peers ⟨p.conn, f.uid⟩ = some f := by
  unfold findFetch
  simp only [findPeer_of_mem ok.connNodup hp]
  exact find?_of_nodup_map (·.uid) (ok.uidNodup p hp) hf

theorem fetch_unique {p : Peer} (hd : p.fetches.Pairwise (fun a b => idsEqual a.fid b.fid = false))
    {f g : Fetch} (hf : f ∈ p.fetches) (hg : g ∈ p.fetches) (h : idsEqual g.fid f.fid = true) : g = f :=
  Classical.byContradiction fun hne => by
    have := pairwise_of_mem (R := fun a b : Fetch => idsEqual a.fid b.fid = false)
      (fun a b hab => by rw [idsEqual_symm]; exact hab) hd hg hf hne
    rw [h] at this
    cases this

theorem flatMap_toList {α β : Type} (ψ : α → Option β) (l : List α) :
    l.flatMap (fun a => (ψ a).toList) = l.filterMap ψ := by
  induction l with
  | nil => rfl
  | cons a t ih =>
    rw [List.flatMap_cons, List.filterMap_cons, ih]
    cases ψ a <;> rfl

/-! ## notifyFetchers -/

def evNotif (e : Element) (ev : Event) (ps : List Peer) (fk : FetchKey) : Option (Nat × Notif) :=
  (findFetch ps fk).map (fun f => (fk.peer, { fid := f.fid, path := e.path, event := ev, value := e.value }))

theorem notifyFetchers_emits (x : Ctx) (e : Element) (ev : Event) :
    Emits x (notifyFetchers x e (evName ev)) ((keys e.fetchers).filterMap (evNotif e ev x.st.peers)) := by
  have h := (Emits.foldl (fun y : Ctx => y) (I := fun y => y.st = x.st)
    (step := fun y s => match s with | some fk => notifyOne y e fk (evName ev) | none => y)
    (φ := fun s => (s.bind (evNotif e ev x.st.peers)).toList) ?_ e.fetchers x rfl).2
  · rwa [flatMap_toList, ← List.filterMap_filterMap] at h
  · intro y s hy
    cases s with
    | none => exact ⟨hy, Emits.refl y⟩
    | some fk =>
      simp only [notifyOne, hy, evNotif, Option.bind_some]
      cases findFetch x.st.peers fk with
      | none => exact ⟨hy, Emits.refl y⟩
      | some f => exact ⟨(send'_st ..).trans hy, emits_send'_notification y fk.peer e f.fid ev⟩

/-- every notification of `notifyFetchers` goes to a peer that has a fetch with that id -/
theorem evNotifs_origin {ps : List Peer} (e : Element) (ev : Event) (l : List FetchKey) :
    ∀ cn ∈ l.filterMap (evNotif e ev ps),
      ∃ p ∈ ps, p.conn = cn.1 ∧ ∃ g ∈ p.fetches, g.fid = cn.2.fid := by
  intro cn hcn
  obtain ⟨fk, _, hfk⟩ := List.mem_filterMap.1 hcn
  obtain ⟨g, hff, rfl⟩ := Option.map_eq_some_iff.1 hfk
  obtain ⟨p', hp', hg, _⟩ := findFetch_some hff
  exact ⟨p', findPeer_mem hp', findPeer_conn hp', g, hg, rfl⟩

theorem pick_eq_nil_of_origin {ps : List Peer} {c : Nat} {fid : Json} {ns : List (Nat × Notif)}
    (ho : ∀ cn ∈ ns, ∃ p ∈ ps, p.conn = cn.1 ∧ ∃ g ∈ p.fetches, g.fid = cn.2.fid)
    (hno : ∀ p ∈ ps, p.conn = c → ∀ g ∈ p.fetches, idsEqual g.fid fid = false) : pick c fid ns = [] :=
  pick_eq_nil fun cn hcn hc =>
    let ⟨p, hp, hpc, g, hg, hfid⟩ := ho cn hcn
    hfid ▸ hno p hp (hpc.trans hc) g hg

theorem pick_evNotifs_none {ps : List Peer} {c : Nat} {fid : Json}
    (hno : ∀ p ∈ ps, p.conn = c → ∀ g ∈ p.fetches, idsEqual g.fid fid = false)
    (e : Element) (ev : Event) (l : List FetchKey) :
    pick c fid (l.filterMap (evNotif e ev ps)) = [] :=
  pick_eq_nil_of_origin (evNotifs_origin e ev l) hno

theorem pick_evNotifs {s : State} (ok : FetchesOK s) {c pg : Nat} {f : Fetch} (ha : Alive s c pg f)
    (e : Element) (ev : Event) {l : List FetchKey} (hl : l.Nodup) :
    pick c f.fid (l.filterMap (evNotif e ev s.peers)) =
      if (⟨c, f.uid⟩ : FetchKey) ∈ l then
        [{ fid := f.fid, path := e.path, event := ev, value := e.value }] else [] := by
  obtain ⟨p, hp, rfl, -, hf⟩ := ha
  rw [pick, List.filterMap_filterMap, filterMap_unique hl (a₀ := ⟨p.conn, f.uid⟩)]
  · simp [evNotif, findFetch_of_mem ok hp hf, ok.fidOk p hp f hf]
  · -- a key whose notification is picked names a fetch of `p` with an id equal to `f`'s: it is `f`
    intro fk _ hs
    cases hff : findFetch s.peers fk with
    | none => simp [evNotif, hff] at hs
    | some g =>
      obtain ⟨p', hfp, hg, hgu⟩ := findFetch_some hff
      have hp' := findPeer_mem hfp
      have hc' := findPeer_conn hfp
      simp only [evNotif, hff, Option.map_some, Option.bind_some] at hs
      split at hs
      · next hc =>
        simp only [Bool.and_eq_true, beq_iff_eq] at hc
        cases findPeer_unique ok.connNodup hp hp' (hc'.trans hc.1).symm
        cases fetch_unique (ok.fidDistinct p hp) hf hg hc.2
        cases fk
        cases hc'
        cases hgu
        rfl
      · cases hs

/-! ## offerElement -/

/-- the element after `add_fetch_to_state_and_notify` -/
def offer1 (cfg : Config) (c pg : Nat) (f : Fetch) (e : Element) : Element :=
  if visible cfg pg f.rule e then { e with fetchers := addFetcher cfg e.fetchers ⟨c, f.uid⟩ } else e

def addNotif (cfg : Config) (c pg : Nat) (f : Fetch) (e : Element) : Option (Nat × Notif) :=
  if visible cfg pg f.rule e then some (c, { fid := f.fid, path := e.path, event := .add, value := e.value })
  else none

theorem offerElement_spec (cfg : Config) (x : Ctx) (e : Element) (fp : Peer) (f : Fetch) :
    (offerElement cfg x e fp f).2 = offer1 cfg fp.conn fp.fetchGroups f e ∧
    Emits x (offerElement cfg x e fp f).1 (addNotif cfg fp.conn fp.fetchGroups f e).toList := by
  unfold offerElement offer1 addNotif visible
  cases hasAccess cfg e.fetchGroups fp.fetchGroups
  · exact ⟨rfl, Emits.refl x⟩
  · cases ruleMatches f.rule e.path
    · exact ⟨rfl, Emits.refl x⟩
    · exact ⟨rfl, emits_send'_notification x fp.conn _ f.fid .add⟩

@[simp] theorem offer1_eview (cfg : Config) (c pg : Nat) (f : Fetch) (e : Element) :
    eview (offer1 cfg c pg f e) = eview e := by unfold offer1; split <;> rfl
@[simp] theorem offer1_path (cfg : Config) (c pg : Nat) (f : Fetch) (e : Element) :
    (offer1 cfg c pg f e).path = e.path := congrArg (·.1) (offer1_eview ..)
@[simp] theorem offer1_owner (cfg : Config) (c pg : Nat) (f : Fetch) (e : Element) :
    (offer1 cfg c pg f e).owner = e.owner := by unfold offer1; split <;> rfl

@[simp] theorem visible_offer1 (cfg : Config) (c pg : Nat) (f : Fetch) (e : Element) (pg' : Nat) (r : Rule) :
    visible cfg pg' r (offer1 cfg c pg f e) = visible cfg pg' r e := visible_congr (offer1_eview ..)

theorem addNotif_some {c pg : Nat} {f : Fetch} {e : Element} {cn : Nat × Notif}
    (h : addNotif cfg c pg f e = some cn) : cn.1 = c ∧ cn.2.fid = f.fid := by
  unfold addNotif at h
  split at h <;> cases h
  exact ⟨rfl, rfl⟩

theorem addNotif_congr {c pg : Nat} {f : Fetch} {e e' : Element} (h : eview e' = eview e) :
    addNotif cfg c pg f e' = addNotif cfg c pg f e := by
  have hv := visible_congr (cfg := cfg) (pg := pg) (rule := f.rule) h
  simp only [eview, Prod.mk.injEq] at h
  simp only [addNotif, hv, h.1, h.2.1]

theorem keys_offer1 (cfg : Config) (c pg : Nat) (f : Fetch) (e : Element) :
    (keys (offer1 cfg c pg f e).fetchers).Perm
      ((if visible cfg pg f.rule e then [(⟨c, f.uid⟩ : FetchKey)] else []) ++ keys e.fetchers) := by
  unfold offer1
  split
  · exact keys_addFetcher_perm cfg e.fetchers ⟨c, f.uid⟩
  · exact List.Perm.refl _

theorem mem_keys_offer1 {c pg : Nat} {f : Fetch} {e : Element} {g : FetchKey} :
    g ∈ keys (offer1 cfg c pg f e).fetchers ↔
      (visible cfg pg f.rule e = true ∧ g = ⟨c, f.uid⟩) ∨ g ∈ keys e.fetchers := by
  unfold offer1
  split
  · next hv => simp only [mem_keys_addFetcher, hv, true_and]
  · next hv => simp only [hv, Bool.false_eq_true, false_and, false_or]

/-! ## findFetchersForElement -/

/-- all (peer, fetch) pairs, peer-list / fetch-list order -/
def pairs (ps : List Peer) : List (Peer × Fetch) := ps.flatMap (fun fp => fp.fetches.map (fun f => (fp, f)))

def pairKey (pf : Peer × Fetch) : FetchKey := ⟨pf.1.conn, pf.2.uid⟩

theorem mem_pairs {ps : List Peer} {pf : Peer × Fetch} : pf ∈ pairs ps ↔ pf.1 ∈ ps ∧ pf.2 ∈ pf.1.fetches := by
  simp only [pairs, List.mem_flatMap, List.mem_map]
  constructor
  · rintro ⟨fp, hfp, f, hf, rfl⟩; exact ⟨hfp, hf⟩
  · rintro ⟨h1, h2⟩; exact ⟨pf.1, h1, pf.2, h2, rfl⟩

theorem pairKeys_nodup {ps : List Peer} (hn : (ps.map (·.conn)).Nodup)
    (hu : ∀ p ∈ ps, (p.fetches.map (·.uid)).Nodup) : ((pairs ps).map pairKey).Nodup := by
  rw [List.Nodup, List.pairwise_map, pairs, List.pairwise_flatMap]
  refine ⟨fun q hq => ?_, (List.pairwise_map.1 hn).imp fun hne x hx y hy h => ?_⟩
  · rw [List.pairwise_map]
    exact (List.pairwise_map.1 (hu q hq)).imp fun hne h => hne (congrArg FetchKey.uid h)
  · obtain ⟨_, _, rfl⟩ := List.mem_map.1 hx
    obtain ⟨_, _, rfl⟩ := List.mem_map.1 hy
    exact hne (congrArg FetchKey.peer h)

theorem findFetchersForElement_eq (cfg : Config) (x : Ctx) (e : Element) :
    findFetchersForElement cfg x e =
      (pairs x.st.peers).foldl (fun acc pf => offerElement cfg acc.1 acc.2 pf.1 pf.2) (x, e) := by
  unfold findFetchersForElement pairs
  rw [List.foldl_flatMap]
  congr
  funext acc fp
  rw [List.foldl_map]

/-- the keys `find_fetchers_for_element` enters for element `e` -/
def newKeys (cfg : Config) (ps : List Peer) (e : Element) : List FetchKey :=
  ((pairs ps).filter (fun pf => visible cfg pf.1.fetchGroups pf.2.rule e)).map pairKey

/-- and the notifications it sends -/
def addNotifs (cfg : Config) (ps : List Peer) (e : Element) : List (Nat × Notif) :=
  (pairs ps).filterMap (fun pf => addNotif cfg pf.1.conn pf.1.fetchGroups pf.2 e)

theorem offerFold_spec (cfg : Config) (e₀ : Element) : ∀ (l : List (Peer × Fetch)) (acc : Ctx × Element),
    eview acc.2 = eview e₀ →
    let r := l.foldl (fun acc pf => offerElement cfg acc.1 acc.2 pf.1 pf.2) acc
    (keys r.2.fetchers).Perm
      ((l.filter (fun pf => visible cfg pf.1.fetchGroups pf.2.rule e₀)).map pairKey ++ keys acc.2.fetchers) ∧
    Emits acc.1 r.1 (l.filterMap (fun pf => addNotif cfg pf.1.conn pf.1.fetchGroups pf.2 e₀))
  | [], acc, _ => ⟨by simp, Emits.refl acc.1⟩
  | pf :: t, acc, hv => by
    obtain ⟨h1, h3⟩ := offerElement_spec cfg acc.1 acc.2 pf.1 pf.2
    obtain ⟨i3, i4⟩ := offerFold_spec cfg e₀ t (offerElement cfg acc.1 acc.2 pf.1 pf.2)
      (by rw [h1, offer1_eview, hv])
    have hk := keys_offer1 cfg pf.1.conn pf.1.fetchGroups pf.2 acc.2
    rw [h1] at i3
    rw [addNotif_congr hv] at h3
    rw [visible_congr hv] at hk
    simp only [List.foldl_cons]
    constructor
    · refine (i3.trans (List.Perm.append_left _ hk)).trans ?_
      rw [List.filter_cons]
      split
      · exact List.perm_middle
      · exact List.Perm.refl _
    · exact h3.filterMap_cons (φ := fun pf : Peer × Fetch => addNotif cfg pf.1.conn pf.1.fetchGroups pf.2 e₀) i4

theorem newKeys_congr {ps : List Peer} {e e' : Element} (h : eview e' = eview e) :
    newKeys cfg ps e' = newKeys cfg ps e := by
  simp only [newKeys, visible_congr h]

theorem addNotifs_congr {ps : List Peer} {e e' : Element} (h : eview e' = eview e) :
    addNotifs cfg ps e' = addNotifs cfg ps e := by
  simp only [addNotifs, addNotif_congr h]

/-- the right-hand sides speak of the returned element `e'`, which is `e` but for its table -/
theorem findFetchersForElement_spec (cfg : Config) (x : Ctx) (e : Element) :
    let e' := (findFetchersForElement cfg x e).2
    (findFetchersForElement cfg x e).1.st = x.st ∧ e' = { e with fetchers := e'.fetchers } ∧
    (keys e'.fetchers).Perm (newKeys cfg x.st.peers e' ++ keys e.fetchers) ∧
    Emits x (findFetchersForElement cfg x e).1 (addNotifs cfg x.st.peers e') := by
  intro e'
  have h2 : e' = { e with fetchers := e'.fetchers } := findFetchersForElement_snd cfg x e
  have hv : eview e' = eview e := by rw [h2]; rfl
  refine ⟨findFetchersForElement_st cfg x e, h2, ?_⟩
  rw [newKeys_congr hv, addNotifs_congr hv]
  show (keys (findFetchersForElement cfg x e).2.fetchers).Perm _ ∧ _
  rw [findFetchersForElement_eq]
  exact offerFold_spec cfg e (pairs x.st.peers) (x, e) rfl

theorem mem_newKeys {ps : List Peer} {e : Element} {fk : FetchKey} :
    fk ∈ newKeys cfg ps e ↔
      ∃ p ∈ ps, ∃ f ∈ p.fetches, visible cfg p.fetchGroups f.rule e = true ∧ fk = ⟨p.conn, f.uid⟩ := by
  simp only [newKeys, List.mem_map, List.mem_filter, mem_pairs]
  constructor
  · rintro ⟨pf, ⟨⟨h1, h2⟩, h3⟩, rfl⟩; exact ⟨pf.1, h1, pf.2, h2, h3, rfl⟩
  · rintro ⟨p, hp, f, hf, hv, rfl⟩; exact ⟨(p, f), ⟨⟨hp, hf⟩, hv⟩, rfl⟩

theorem newKeys_nodup {s : State} (ok : FetchesOK s) (e : Element) :
    (newKeys cfg s.peers e).Nodup :=
  List.Nodup.sublist (List.filter_sublist.map pairKey) (pairKeys_nodup ok.connNodup ok.uidNodup)

theorem mem_newKeys_alive {s : State} (ok : FetchesOK s) {c pg : Nat} {f : Fetch}
    (ha : Alive s c pg f) (e : Element) :
    (⟨c, f.uid⟩ : FetchKey) ∈ newKeys cfg s.peers e ↔ visible cfg pg f.rule e = true := by
  obtain ⟨p, hp, rfl, rfl, hf⟩ := ha
  rw [mem_newKeys]
  constructor
  · rintro ⟨p2, hp2, f2, hf2, hv, heq⟩
    simp only [FetchKey.mk.injEq] at heq
    cases findPeer_unique ok.connNodup hp hp2 heq.1
    cases nodup_map_inj (ok.uidNodup p hp) hf hf2 heq.2
    exact hv
  · exact fun hv => ⟨p, hp, f, hf, hv, rfl⟩

theorem addNotifs_eq {s : State} (ok : FetchesOK s) (e : Element) :
    addNotifs cfg s.peers e = (newKeys cfg s.peers e).filterMap (evNotif e .add s.peers) := by
  rw [addNotifs, newKeys, List.filterMap_map, List.filterMap_filter]
  apply filterMap_congr
  intro pf hpf
  obtain ⟨h1, h2⟩ := mem_pairs.1 hpf
  simp only [addNotif, Function.comp, evNotif, pairKey, findFetch_of_mem ok h1 h2, Option.map_some]

theorem addNotifs_origin {ps : List Peer} (e : Element) :
    ∀ cn ∈ addNotifs cfg ps e, ∃ p ∈ ps, p.conn = cn.1 ∧ ∃ g ∈ p.fetches, g.fid = cn.2.fid := by
  intro cn hcn
  obtain ⟨pf, hpf, h⟩ := List.mem_filterMap.1 hcn
  obtain ⟨h1, h2⟩ := mem_pairs.1 hpf
  obtain ⟨hc, hf⟩ := addNotif_some h
  exact ⟨pf.1, h1, hc.symm, pf.2, h2, hf.symm⟩

theorem pick_addNotifs_none {cfg : Config} {ps : List Peer} {c : Nat} {fid : Json}
    (hno : ∀ p ∈ ps, p.conn = c → ∀ g ∈ p.fetches, idsEqual g.fid fid = false) (e : Element) :
    pick c fid (addNotifs cfg ps e) = [] :=
  pick_eq_nil_of_origin (addNotifs_origin e) hno

theorem pick_addNotifs {s : State} (ok : FetchesOK s) {c pg : Nat} {f : Fetch}
    (ha : Alive s c pg f) (e : Element) :
    pick c f.fid (addNotifs cfg s.peers e) =
      if visible cfg pg f.rule e then
        [{ fid := f.fid, path := e.path, event := .add, value := e.value }] else [] := by
  rw [addNotifs_eq ok, pick_evNotifs ok ha e .add (newKeys_nodup ok e)]
  simp only [mem_newKeys_alive ok ha]

end

/-! ## offerAllElements -/

theorem find?_append_cons {α : Type} {P : α → Bool} {A B : List α} {q : α} (hA : ∀ a ∈ A, P a = false)
    (hq : P q = true) : (A ++ q :: B).find? P = some q := by
  rw [List.find?_append, List.find?_eq_none.2 (by simpa using hA), List.find?_cons_of_pos hq]
  rfl

theorem map_ite_append_cons {α : Type} {P : α → Bool} (h : α → α) {A B : List α} {q : α}
    (hA : ∀ a ∈ A, P a = false) (hB : ∀ b ∈ B, P b = false) (hq : P q = true) :
    (A ++ q :: B).map (fun p => if P p then h p else p) = A ++ h q :: B := by
  have id_on : ∀ l : List α, (∀ a ∈ l, P a = false) → l.map (fun p => if P p then h p else p) = l :=
    fun l hl => (List.map_congr_left fun a ha => by simp [hl a ha]).trans (List.map_id' l)
  rw [List.map_append, List.map_cons, if_pos hq, id_on A hA, id_on B hB]

theorem nodup_paths_split {dn es : List Element} {e0 : Element}
    (h : ((dn ++ e0 :: es).map (·.path)).Nodup) :
    (∀ d ∈ dn, (d.path == e0.path) = false) ∧ (∀ d ∈ es, (d.path == e0.path) = false) := by
  rw [List.map_append, List.map_cons, List.nodup_append, List.nodup_cons] at h
  obtain ⟨_, ⟨h2, _⟩, h3⟩ := h
  constructor
  · intro d hd
    simpa using h3 d.path (List.mem_map_of_mem (f := (·.path)) hd) e0.path List.mem_cons_self
  · intro d hd
    simpa using fun heq : d.path = e0.path => h2 (heq ▸ List.mem_map_of_mem (f := (·.path)) hd)

theorem offerStep_spec (cfg : Config) (fp : Peer) (f : Fetch) (y : Ctx) (q : Peer) (A B : List Peer)
    (dn es : List Element) (e0 : Element)
    (hps : y.st.peers = A ++ q :: B) (hA : ∀ a ∈ A, (a.conn == q.conn) = false)
    (hB : ∀ b ∈ B, (b.conn == q.conn) = false)
    (hq : q.elements = dn ++ e0 :: es) (hn : ((dn ++ e0 :: es).map (·.path)).Nodup) :
    (offerStep cfg fp f q.conn y e0).st =
      { y.st with peers := A ++ { q with elements := dn ++ offer1 cfg fp.conn fp.fetchGroups f e0 :: es } :: B } ∧
    Emits y (offerStep cfg fp f q.conn y e0) (addNotif cfg fp.conn fp.fetchGroups f e0).toList := by
  obtain ⟨hd, hes⟩ := nodup_paths_split hn
  have hback : (findPeer y.st.peers q.conn).bind (·.elements.find? (·.path == e0.path)) = some e0 := by
    rw [hps, findPeer, find?_append_cons hA (beq_self_eq_true _), Option.bind_some, hq,
      find?_append_cons hd (beq_self_eq_true _)]
  obtain ⟨h1, h3⟩ := offerElement_spec cfg y e0 fp f
  unfold offerStep
  simp only [hback]
  refine ⟨?_, h3.congr rfl rfl⟩
  simp only [offerElement_st, h1, offer1_path]
  rw [hps, updatePeer, map_ite_append_cons _ hA hB (beq_self_eq_true _)]
  simp only [hq]
  rw [map_ite_append_cons _ hd hes (beq_self_eq_true _)]

theorem offerInner_spec (cfg : Config) (fp : Peer) (f : Fetch) :
    ∀ (es dn : List Element) (y : Ctx) (q : Peer) (A B : List Peer),
    y.st.peers = A ++ q :: B → (∀ a ∈ A, (a.conn == q.conn) = false) → (∀ b ∈ B, (b.conn == q.conn) = false) →
    q.elements = dn ++ es → ((dn ++ es).map (·.path)).Nodup →
    (es.foldl (offerStep cfg fp f q.conn) y).st =
      { y.st with peers := A ++ { q with elements := dn ++ es.map (offer1 cfg fp.conn fp.fetchGroups f) } :: B } ∧
    Emits y (es.foldl (offerStep cfg fp f q.conn) y) (es.filterMap (addNotif cfg fp.conn fp.fetchGroups f))
  | [], dn, y, q, A, B, hps, _, _, hq, _ => by
    refine ⟨?_, Emits.refl y⟩
    rw [List.foldl_nil, List.map_nil, ← hq, ← hps]
  | e0 :: es, dn, y, q, A, B, hps, hA, hB, hq, hn => by
    obtain ⟨s1, s2⟩ := offerStep_spec cfg fp f y q A B dn es e0 hps hA hB hq hn
    obtain ⟨i1, i2⟩ := offerInner_spec cfg fp f es (dn ++ [offer1 cfg fp.conn fp.fetchGroups f e0])
      (offerStep cfg fp f q.conn y e0)
      { q with elements := dn ++ offer1 cfg fp.conn fp.fetchGroups f e0 :: es } A B
      (by rw [s1]) hA hB (by simp) (by simpa using hn)
    rw [List.foldl_cons]
    constructor
    · rw [i1, s1]
      simp
    · exact s2.filterMap_cons i2

/-- every element of the peer offered to the fetch -/
def offerPeer (cfg : Config) (c pg : Nat) (f : Fetch) (q : Peer) : Peer :=
  { q with elements := q.elements.map (offer1 cfg c pg f) }

theorem offerOuter_spec (cfg : Config) (fp : Peer) (f : Fetch) :
    ∀ (suf pre : List Peer) (y : Ctx),
    y.st.peers = pre.map (offerPeer cfg fp.conn fp.fetchGroups f) ++ suf →
    ((pre ++ suf).map (·.conn)).Nodup → (∀ q ∈ suf, (q.elements.map (·.path)).Nodup) →
    (suf.foldl (fun x owner => owner.elements.foldl (offerStep cfg fp f owner.conn) x) y).st =
      { y.st with peers := (pre ++ suf).map (offerPeer cfg fp.conn fp.fetchGroups f) } ∧
    Emits y (suf.foldl (fun x owner => owner.elements.foldl (offerStep cfg fp f owner.conn) x) y)
      (suf.flatMap (fun q => q.elements.filterMap (addNotif cfg fp.conn fp.fetchGroups f)))
  | [], pre, y, hps, _, _ => by
    refine ⟨?_, Emits.refl y⟩
    rw [List.foldl_nil, List.append_nil, ← List.append_nil (List.map _ pre), ← hps]
  | q :: suf, pre, y, hps, hn, hp => by
    have hn' := hn
    rw [List.map_append, List.map_cons, List.nodup_append, List.nodup_cons] at hn
    obtain ⟨_, ⟨hn2, _⟩, hn4⟩ := hn
    have hA : ∀ a ∈ pre.map (offerPeer cfg fp.conn fp.fetchGroups f), (a.conn == q.conn) = false := by
      intro a ha
      obtain ⟨a0, ha0, rfl⟩ := List.mem_map.1 ha
      simpa [offerPeer] using hn4 a0.conn (List.mem_map_of_mem (f := (·.conn)) ha0) q.conn List.mem_cons_self
    have hB : ∀ b ∈ suf, (b.conn == q.conn) = false := fun b hb => by
      simpa using fun heq : b.conn = q.conn => hn2 (heq ▸ List.mem_map_of_mem (f := (·.conn)) hb)
    obtain ⟨s1, s2⟩ := offerInner_spec cfg fp f q.elements [] y q _ suf hps hA hB rfl
      (hp q List.mem_cons_self)
    obtain ⟨i1, i2⟩ := offerOuter_spec cfg fp f suf (pre ++ [q]) (q.elements.foldl (offerStep cfg fp f q.conn) y)
      (by rw [s1]; simp [offerPeer]) (by simpa using hn') (fun q' hq' => hp q' (List.mem_cons_of_mem _ hq'))
    rw [List.foldl_cons, List.flatMap_cons]
    exact ⟨by rw [i1, s1]; simp, s2.trans i2⟩

theorem offerAllElements_spec (cfg : Config) (x : Ctx) (fp : Peer) (f : Fetch)
    (hn : (x.st.peers.map (·.conn)).Nodup) (hp : ∀ q ∈ x.st.peers, (q.elements.map (·.path)).Nodup) :
    (offerAllElements cfg x fp f).st =
      { x.st with peers := x.st.peers.map (offerPeer cfg fp.conn fp.fetchGroups f) } ∧
    Emits x (offerAllElements cfg x fp f)
      ((allElems x.st).filterMap (addNotif cfg fp.conn fp.fetchGroups f)) := by
  rw [allElems, List.filterMap_flatMap, offerAllElements_eq]
  exact offerOuter_spec cfg fp f x.st.peers [] x rfl hn hp

end Cjet.Daemon.C01
