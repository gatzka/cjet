/-
  C01 — tools for the invariant: what each part depends on, membership in `allElems`,
  composable transitions (`TransN`) and the ways to build one.
-/
import Cjet.Lemmas.DaemonC01Notify

namespace Cjet.Daemon.C01

open Cjet Cjet.Json Cjet.Daemon

variable {cfg : Config}

/-! ## the fetch side depends on `fcore` -/

/-- what the fetch side of a peer is -/
def fcore (p : Peer) : Nat × Nat × List Fetch := (p.conn, p.fetchGroups, p.fetches)

theorem map_map_congr {β : Type} (proj : Peer → β) (ps : List Peer) (g : Peer → Peer)
    (h : ∀ q, proj (g q) = proj q) : (ps.map g).map proj = ps.map proj := by
  rw [List.map_map]
  exact List.map_congr_left fun q _ => h q

theorem conns_of_fcore {ps ps' : List Peer} (h : ps'.map fcore = ps.map fcore) :
    ps'.map (·.conn) = ps.map (·.conn) := by
  have := congrArg (List.map (fun t : Nat × Nat × List Fetch => t.1)) h
  rwa [List.map_map, List.map_map] at this

theorem Alive.hasFetch {s : State} {c pg : Nat} {f : Fetch} (h : Alive s c pg f) : HasFetch s c f :=
  let ⟨p, hp, h1, _, h3⟩ := h
  ⟨p, hp, h1, h3⟩

theorem HasFetch.alive {s : State} {c : Nat} {f : Fetch} (h : HasFetch s c f) : ∃ pg, Alive s c pg f :=
  let ⟨p, hp, h1, h3⟩ := h
  ⟨p.fetchGroups, p, hp, h1, rfl, h3⟩

theorem alive_unique {s : State} (ok : FetchesOK s) {c pg pg' : Nat} {f g : Fetch}
    (h1 : Alive s c pg f) (h2 : Alive s c pg' g) : pg = pg' := by
  obtain ⟨p, hp, hc, hg, _⟩ := h1
  obtain ⟨p', hp', hc', hg', _⟩ := h2
  cases findPeer_unique ok.connNodup hp hp' (hc.trans hc'.symm)
  exact hg.symm.trans hg'

theorem alive_congr {s s' : State} (h : s'.peers.map fcore = s.peers.map fcore) {c pg : Nat} {f : Fetch} :
    Alive s' c pg f ↔ Alive s c pg f := by
  have key : ∀ {t t' : State}, t'.peers.map fcore = t.peers.map fcore → Alive t' c pg f → Alive t c pg f := by
    rintro t t' h ⟨p', hp', h1, h2, h3⟩
    obtain ⟨p, hp, e⟩ := exists_of_map_eq h hp'
    simp only [fcore, Prod.mk.injEq] at e
    exact ⟨p, hp, e.1.trans h1, e.2.1.trans h2, e.2.2 ▸ h3⟩
  exact ⟨key h, key h.symm⟩

theorem hasFid_iff {s : State} {c : Nat} {fid : Json} :
    HasFid s c fid ↔ ∃ pg g, Alive s c pg g ∧ idsEqual g.fid fid = true :=
  ⟨fun ⟨p, hp, hc, g, hg, hi⟩ => ⟨_, g, ⟨p, hp, hc, rfl, hg⟩, hi⟩,
   fun ⟨_, g, ⟨p, hp, hc, _, hg⟩, hi⟩ => ⟨p, hp, hc, g, hg, hi⟩⟩

theorem hasFid_congr {s s' : State} (h : s'.peers.map fcore = s.peers.map fcore) {c : Nat} {fid : Json} :
    HasFid s' c fid ↔ HasFid s c fid := by
  simp only [hasFid_iff, alive_congr h]

/-! ## monotonicity of the two list-shaped parts -/

theorem FetchesOK.mono {s s' : State} (ok : FetchesOK s) (hu : s.nextUid ≤ s'.nextUid)
    (hn : (s'.peers.map (·.conn)).Nodup)
    (h : ∀ p' ∈ s'.peers, p'.fetches = [] ∨
      ∃ p ∈ s.peers, p.conn = p'.conn ∧ p'.fetches.Sublist p.fetches) : FetchesOK s' := by
  have mem : ∀ p' ∈ s'.peers, ∀ f ∈ p'.fetches,
      ∃ p ∈ s.peers, p.conn = p'.conn ∧ p'.fetches.Sublist p.fetches := by
    intro p' hp' f hf
    rcases h p' hp' with e | h
    · rw [e] at hf; cases hf
    · exact h
  refine ⟨hn, ?_, ?_, ?_, ?_, ?_⟩
  · intro p' hp' f hf
    obtain ⟨p, hp, _, hs⟩ := mem p' hp' f hf
    exact Nat.lt_of_lt_of_le (ok.uidLt p hp f (hs.subset hf)) hu
  · intro p' hp'
    rcases h p' hp' with e | ⟨p, hp, _, hs⟩
    · rw [e]; exact List.nodup_nil
    · exact (hs.map _).nodup (ok.uidNodup p hp)
  · intro p' hp' q' hq' f hf g hg hfg
    obtain ⟨p, hp, hc, hs⟩ := mem p' hp' f hf
    obtain ⟨q, hq, hc', hs'⟩ := mem q' hq' g hg
    rw [← hc, ← hc']
    exact ok.uidGlobal p hp q hq f (hs.subset hf) g (hs'.subset hg) hfg
  · intro p' hp' f hf
    obtain ⟨p, hp, _, hs⟩ := mem p' hp' f hf
    exact ok.fidOk p hp f (hs.subset hf)
  · intro p' hp'
    rcases h p' hp' with e | ⟨p, hp, _, hs⟩
    · rw [e]; exact List.Pairwise.nil
    · exact (ok.fidDistinct p hp).sublist hs

theorem FetchesOK.congr {s s' : State} (h : s'.peers.map fcore = s.peers.map fcore)
    (hu : s.nextUid ≤ s'.nextUid) (ok : FetchesOK s) : FetchesOK s' :=
  ok.mono hu (conns_of_fcore h ▸ ok.connNodup) fun p' hp' =>
    let ⟨p, hp, e⟩ := exists_of_map_eq h hp'
    Or.inr ⟨p, hp, congrArg (·.1) e, (congrArg (·.2.2) e : p.fetches = p'.fetches) ▸ List.Sublist.refl _⟩

theorem ElemsOK.sub {s s' : State} (ok : ElemsOK s) (hi : s'.index.Sublist s.index)
    (h : ∀ p' ∈ s'.peers, p'.elements = [] ∨ ∃ p ∈ s.peers, p.conn = p'.conn ∧
      (p'.elements.map (fun e => (e.path, e.owner))).Sublist (p.elements.map (fun e => (e.path, e.owner))))
    (hx : ∀ p' ∈ s'.peers, ∀ e ∈ p'.elements, (e.path, p'.conn) ∈ s'.index) : ElemsOK s' := by
  refine ⟨fun p' hp' e' he' => ?_, fun p' hp' => ?_, (hi.map _).nodup ok.idxNodup, hx⟩
  · rcases h p' hp' with e | ⟨p, hp, hc, hs⟩
    · rw [e] at he'; cases he'
    · obtain ⟨e, he, hee⟩ := List.mem_map.1 (hs.subset (List.mem_map_of_mem (f := fun e => (e.path, e.owner)) he'))
      rw [← hc, ← (Prod.mk.inj hee).2]
      exact ok.owner p hp e he
  · rcases h p' hp' with e | ⟨p, hp, _, hs⟩
    · rw [e]; exact List.nodup_nil
    · have := (hs.map (fun t : Bytes × Nat => t.1)).nodup
      rw [List.map_map, List.map_map] at this
      exact this (ok.pathNodup p hp)

theorem ElemsOK.mono {s s' : State} (ok : ElemsOK s) (hi : s'.index = s.index)
    (h : ∀ p' ∈ s'.peers, p'.elements = [] ∨ ∃ p ∈ s.peers, p.conn = p'.conn ∧
      p'.elements.map (fun e => (e.path, e.owner)) = p.elements.map (fun e => (e.path, e.owner))) :
    ElemsOK s' := by
  refine ok.sub (hi ▸ List.Sublist.refl _)
    (fun p' hp' => (h p' hp').imp_right fun ⟨p, hp, hc, hm⟩ => ⟨p, hp, hc, hm ▸ List.Sublist.refl _⟩)
    fun p' hp' e' he' => ?_
  rcases h p' hp' with e | ⟨p, hp, hc, hm⟩
  · rw [e] at he'; cases he'
  · obtain ⟨e, he, hee⟩ := exists_of_map_eq hm he'
    rw [hi, ← hc, ← (Prod.mk.inj hee).1]
    exact ok.indexed p hp e he

theorem fcore_updatePeer_elems (ps : List Peer) (c : Nat) (F : Peer → List Element) :
    (updatePeer ps c (fun q => { q with elements := F q })).map fcore = ps.map fcore :=
  map_updatePeer (g := fcore) (f := fun q => { q with elements := F q }) (fun _ => rfl) ps c

theorem mem_updatePeer_elems {ps : List Peer} {c : Nat} {F : Peer → List Element} {p' : Peer}
    (h : p' ∈ updatePeer ps c (fun q => { q with elements := F q })) :
    ∃ p ∈ ps, p'.conn = p.conn ∧ p'.elements = if p.conn == c then F p else p.elements := by
  obtain ⟨p, hp, rfl⟩ := mem_updatePeer.1 h
  exact ⟨p, hp, by split <;> rfl, by split <;> rfl⟩

/-! ## the table invariant depends on the peers through `Alive` -/

theorem TblOK.congr_alive {s s' : State} {e : Element}
    (h : ∀ c pg f, Alive s' c pg f ↔ Alive s c pg f) (ok : TblOK cfg s.peers e) : TblOK cfg s'.peers e := by
  refine ⟨ok.nodup, fun fk hfk => ?_, fun p' hp' f hf => ?_⟩
  · obtain ⟨p, hp, hc, f, hf, hu⟩ := ok.live fk hfk
    obtain ⟨p', hp', hc', _, hf'⟩ := (h fk.peer p.fetchGroups f).2 ⟨p, hp, hc, rfl, hf⟩
    exact ⟨p', hp', hc', f, hf', hu⟩
  · obtain ⟨p, hp, hc, hg, hf'⟩ := (h _ _ f).1 ⟨p', hp', rfl, rfl, hf⟩
    rw [← hc, ← hg]
    exact ok.char p hp f hf'

theorem TblOK.congr_vis {ps : List Peer} {e e' : Element}
    (hk : (keys e'.fetchers).Perm (keys e.fetchers))
    (hv : ∀ pg r, visible cfg pg r e' = visible cfg pg r e) (ok : TblOK cfg ps e) : TblOK cfg ps e' := by
  refine ⟨hk.nodup_iff.2 ok.nodup, fun fk hfk => ok.live fk (hk.mem_iff.1 hfk), fun p hp f hf => ?_⟩
  rw [hk.mem_iff, hv]
  exact ok.char p hp f hf

theorem TblOK.congr_elem {cfg : Config} {ps : List Peer} {e e' : Element}
    (hk : (keys e'.fetchers).Perm (keys e.fetchers)) (hv : eview e' = eview e) (ok : TblOK cfg ps e) :
    TblOK cfg ps e' :=
  ok.congr_vis hk fun _ _ => visible_congr hv

/-! ## uniqueness of paths, membership in `allElems` -/

theorem path_unique {s : State} (he : ElemsOK s) (hf : FetchesOK s) {q q' : Peer} {e e' : Element}
    (hq : q ∈ s.peers) (hee : e ∈ q.elements) (hq' : q' ∈ s.peers) (hee' : e' ∈ q'.elements)
    (hp : e.path = e'.path) : q = q' ∧ e = e' := by
  have h1 := he.indexed q hq e hee
  rw [hp] at h1
  have hc : q.conn = q'.conn := by
    simpa using nodup_map_inj he.idxNodup h1 (he.indexed q' hq' e' hee') rfl
  cases findPeer_unique hf.connNodup hq hq' hc
  exact ⟨rfl, nodup_map_inj (he.pathNodup q hq) hee hee' hp⟩

theorem allElems_path_unique {s : State} (inv : Inv cfg s) {e e' : Element}
    (he : e ∈ allElems s) (he' : e' ∈ allElems s) (hp : e.path = e'.path) : e = e' := by
  obtain ⟨q, hq, hqe⟩ := mem_allElems.1 he
  obtain ⟨q', hq', hqe'⟩ := mem_allElems.1 he'
  exact (path_unique inv.elems inv.fetches hq hqe hq' hqe' hp).2

theorem mem_allElems_updatePeer {ps : List Peer} {c : Nat} {F : Peer → List Element} {e : Element} :
    e ∈ (updatePeer ps c (fun q => { q with elements := F q })).flatMap (·.elements) ↔
      ∃ q ∈ ps, e ∈ if q.conn == c then F q else q.elements := by
  simp only [List.mem_flatMap, mem_updatePeer]
  constructor
  · rintro ⟨_, ⟨q, hq, rfl⟩, he⟩
    exact ⟨q, hq, by split <;> simp_all⟩
  · rintro ⟨q, hq, he⟩
    exact ⟨_, ⟨q, hq, rfl⟩, by split <;> simp_all⟩

theorem allElems_eq_of_map_elements {s s' : State}
    (he : s'.peers.map (·.elements) = s.peers.map (·.elements)) : allElems s' = allElems s := by
  have h : ∀ ps : List Peer, ps.flatMap (·.elements) = (ps.map (·.elements)).flatMap id := fun ps => by
    rw [List.flatMap_map]; rfl
  rw [allElems, allElems, h, h, he]

/-! ## composable transitions that install no fetch -/

structure TransN (cfg : Config) (s s' : State) (ns : List (Nat × Notif)) : Prop where
  inv : Inv cfg s'
  uid : s'.nextUid = s.nextUid
  noNew : ∀ c f, HasFetch s' c f → HasFetch s c f
  stable : ∀ c pg f, Alive s c pg f → HasFetch s' c f → Alive s' c pg f
  rstep : ∀ c pg f, Alive s c pg f → Alive s' c pg f → RStep cfg s s' ns c f.fid pg f.rule
  origin : ∀ cn ∈ ns, HasFid s cn.1 cn.2.fid

theorem TransN.trans {s s' s'' : State} {a b : List (Nat × Notif)}
    (h1 : TransN cfg s s' a) (h2 : TransN cfg s' s'' b) : TransN cfg s s'' (a ++ b) := by
  refine ⟨h2.inv, h2.uid.trans h1.uid, ?_, ?_, ?_, ?_⟩
  · intro c f h
    exact h1.noNew c f (h2.noNew c f h)
  · intro c pg f ha hf
    exact h2.stable c pg f (h1.stable c pg f ha (h2.noNew c f hf)) hf
  · intro c pg f ha ha''
    have ha' : Alive s' c pg f := h1.stable c pg f ha (h2.noNew c f ha''.hasFetch)
    exact (h1.rstep c pg f ha ha').trans (h2.rstep c pg f ha' ha'')
  · intro cn hcn
    rcases List.mem_append.1 hcn with h | h
    · exact h1.origin cn h
    · obtain ⟨p, hp, hc, g, hg, hi⟩ := h2.origin cn h
      obtain ⟨p0, hp0, hc0, hg0⟩ := h1.noNew cn.1 g ⟨p, hp, hc, hg⟩
      exact ⟨p0, hp0, hc0, g, hg0, hi⟩

theorem TransN.of_alive {s s' : State} {ns : List (Nat × Notif)} (inv : Inv cfg s)
    (inv' : Inv cfg s') (hu : s'.nextUid = s.nextUid) (hal : ∀ c pg f, Alive s' c pg f → Alive s c pg f)
    (hr : ∀ c pg f, Alive s c pg f → Alive s' c pg f → RStep cfg s s' ns c f.fid pg f.rule)
    (ho : ∀ cn ∈ ns, HasFid s cn.1 cn.2.fid) : TransN cfg s s' ns := by
  refine ⟨inv', hu, fun c f h => ?_, fun c pg f ha h => ?_, hr, ho⟩
  · obtain ⟨pg, ha⟩ := h.alive
    exact (hal c pg f ha).hasFetch
  · obtain ⟨pg', ha'⟩ := h.alive
    cases alive_unique inv.fetches ha (hal c pg' f ha')
    exact ha'

theorem TransN.of_fcore {s s' : State} {ns : List (Nat × Notif)} (inv : Inv cfg s)
    (hf : s'.peers.map fcore = s.peers.map fcore) (hu : s'.nextUid = s.nextUid) (he : ElemsOK s')
    (htbl : ∀ e ∈ allElems s', TblOK cfg s.peers e)
    (hr : ∀ c pg f, Alive s c pg f → RStep cfg s s' ns c f.fid pg f.rule)
    (ho : ∀ cn ∈ ns, HasFid s cn.1 cn.2.fid) : TransN cfg s s' ns :=
  TransN.of_alive inv
    ⟨he, inv.fetches.congr hf (Nat.le_of_eq hu.symm), fun e h => (htbl e h).congr_alive fun _ _ _ => alive_congr hf⟩
    hu (fun _ _ _ => (alive_congr hf).1) (fun c pg f ha _ => hr c pg f ha) ho

def Carried (s s' : State) : Prop :=
  ∀ p ∈ s.peers, (p.elements = [] ∧ p.fetches = []) ∨
    ∃ p' ∈ s'.peers, p'.conn = p.conn ∧ p'.elements = p.elements ∧ p'.fetches = p.fetches ∧
      (p.fetches = [] ∨ p'.fetchGroups = p.fetchGroups)

theorem Carried.elems {s s' : State} (h : Carried s s') {e : Element} (he : e ∈ allElems s) : e ∈ allElems s' := by
  obtain ⟨p, hp, hpe⟩ := mem_allElems.1 he
  rcases h p hp with ⟨e0, _⟩ | ⟨p', hp', _, hel, _⟩
  · rw [e0] at hpe; cases hpe
  · exact mem_allElems.2 ⟨p', hp', hel ▸ hpe⟩

theorem Carried.alive {s s' : State} (h : Carried s s') {c pg : Nat} {f : Fetch} (ha : Alive s c pg f) :
    Alive s' c pg f := by
  obtain ⟨p, hp, hc, hg, hf⟩ := ha
  rcases h p hp with ⟨_, e0⟩ | ⟨p', hp', hc', _, hfe, hgr⟩
  · rw [e0] at hf; cases hf
  · rcases hgr with e0 | hgr
    · rw [e0] at hf; cases hf
    · exact ⟨p', hp', hc'.trans hc, hgr.trans hg, hfe ▸ hf⟩

/-- a transition that only adds, drops or regroups peers without fetches and keeps every element -/
theorem TransN.of_carried {s s' : State} (inv : Inv cfg s)
    (hn : (s'.peers.map (·.conn)).Nodup) (hi : s'.index = s.index) (hu : s'.nextUid = s.nextUid)
    (h : Carried s s') (h' : Carried s' s) : TransN cfg s s' [] := by
  have hall : ∀ e, e ∈ allElems s' ↔ e ∈ allElems s := fun e => ⟨h'.elems, h.elems⟩
  have he : ElemsOK s' := inv.elems.mono hi fun p' hp' =>
    (h' p' hp').imp And.left fun ⟨p, hp, hc, hel, _⟩ => ⟨p, hp, hc, by rw [hel]⟩
  have hf : FetchesOK s' := inv.fetches.mono (Nat.le_of_eq hu.symm) hn fun p' hp' =>
    (h' p' hp').imp And.right fun ⟨p, hp, hc, _, hfe, _⟩ => ⟨p, hp, hc, hfe ▸ List.Sublist.refl _⟩
  refine TransN.of_alive inv ⟨he, hf, fun e hes => ?_⟩ hu (fun _ _ _ => h'.alive)
    (fun c pg f _ _ => RStep.of_silent rfl fun a => by simp only [mem_imageOf, hall]) (fun _ hcn => by cases hcn)
  exact (inv.tbl e ((hall e).1 hes)).congr_alive fun _ _ _ => ⟨h'.alive, h.alive⟩

/-- a transition that leaves peers' connections, groups, elements and fetches alone -/
theorem TransN.of_sameCore {s s' : State} (inv : Inv cfg s)
    (hf : s'.peers.map fcore = s.peers.map fcore)
    (he : s'.peers.map (·.elements) = s.peers.map (·.elements))
    (hi : s'.index = s.index) (hu : s'.nextUid = s.nextUid) : TransN cfg s s' [] := by
  have hz := (List.zip_map' (f := fcore) (g := (·.elements)) (l := s'.peers)).symm
  rw [hf, he, List.zip_map'] at hz
  have key : ∀ {t t' : State}, t'.peers.map (fun p => (fcore p, p.elements)) =
      t.peers.map (fun p => (fcore p, p.elements)) → Carried t' t := by
    intro t t' hz p' hp'
    obtain ⟨p, hp, e⟩ := exists_of_map_eq hz hp'
    simp only [fcore, Prod.mk.injEq] at e
    exact Or.inr ⟨p, hp, e.1.1, e.2, e.1.2.2, Or.inr e.1.2.1⟩
  exact TransN.of_carried inv (conns_of_fcore hf ▸ inv.fetches.connNodup) hi hu (key hz.symm) (key hz)

theorem TransN.refl {s : State} (inv : Inv cfg s) : TransN cfg s s [] :=
  TransN.of_sameCore inv rfl rfl rfl rfl

end Cjet.Daemon.C01
