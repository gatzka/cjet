import Cjet.Deflate
/-! Helper lemmas for C19, part A: arithmetic of the reassembly buffer. -/
namespace Cjet.Deflate
open Cjet.Generated.Deflate

theorem growStep_cap (s : RState) : (growStep s).cap = s.cap * 2 := by
  simp [growStep, reasmGrow]

theorem growStep_avail (s : RState) : (growStep s).avail = s.avail + s.cap := by
  simp [growStep, reasmGrow]

theorem needsGrow_iff (s : RState) (L : Nat) : needsGrow s L = true ↔ s.avail ≤ L + 4 := by
  unfold needsGrow
  exact decide_eq_true_iff

theorem alloc_cap (L : Nat) : (alloc L).cap = L * 3 + 4 := by simp [alloc, reasmFactor, reasmHeader]
theorem alloc_avail (L : Nat) : (alloc L).avail = L * 3 := by simp [alloc, reasmFactor, reasmHeader]

/-- the last clause: the `while` loop stays below every bound `B` that holds for the buffer it started from and for twice
    (fill level + fragment + slack) -/
theorem growLoop_spec (fuel : Nat) (s : RState) (L : Nat)
    (hc : 0 < s.cap) (hf : L + 4 < fuel + s.avail) :
    (growLoop fuel s L).cap + s.avail = s.cap + (growLoop fuel s L).avail ∧
    L + 4 < (growLoop fuel s L).avail ∧
    s.cap ≤ (growLoop fuel s L).cap ∧
    ∀ B, s.cap ≤ B → 2 * (s.cap + L + 4) ≤ B + 2 * s.avail → (growLoop fuel s L).cap ≤ B := by
  induction fuel generalizing s with
  | zero => exact ⟨rfl, (by omega : L + 4 < s.avail), Nat.le_refl _, fun _ h _ => h⟩
  | succ n ih =>
    rw [growLoop]
    by_cases hg : needsGrow s L = true
    · rw [if_pos hg]
      have hle := (needsGrow_iff s L).1 hg
      have h1 := ih (growStep s) (by rw [growStep_cap]; omega) (by rw [growStep_avail]; omega)
      rw [growStep_cap, growStep_avail] at h1
      obtain ⟨e1, e2, e3, e4⟩ := h1
      exact ⟨by omega, e2, by omega, fun B _ h => e4 B (by omega) (by omega)⟩
    · rw [if_neg hg]
      have : ¬ s.avail ≤ L + 4 := fun h => hg ((needsGrow_iff s L).2 h)
      exact ⟨rfl, by omega, Nat.le_refl _, fun _ h _ => h⟩

theorem stepCopy_eq {loops : Bool} {s r : RState} {L : Nat}
    (h : grow loops (if (s.avail == 0) = true then alloc L else s) L = r) :
    stepCopy loops s L = (⟨r.cap - r.avail, L, r.cap, r.avail - L, s.avail == 0⟩, ⟨r.cap, r.avail - L⟩) := by
  subst h; rfl

/-- the capacity stays linear in the bytes stored; `avail = 0` exactly when nothing was stored yet;
    fill level = header + bytes of the message so far -/
def Good (s : RState) (T : Nat) : Prop :=
  s.cap ≤ 6 * T + 16 ∧ ((T = 0 ∧ s.avail = 0) ∨ (0 < T ∧ 4 < s.avail ∧ s.avail + 4 + T = s.cap))

theorem good_init : Good RState.init 0 := ⟨Nat.zero_le _, Or.inl ⟨rfl, rfl⟩⟩

theorem Good.avail_eq_zero_iff {s : RState} {T : Nat} (h : Good s T) : s.avail = 0 ↔ T = 0 := by
  rcases h.2 with ⟨h1, h2⟩ | ⟨h1, h2, _⟩
  · exact ⟨fun _ => h1, fun _ => h2⟩
  · exact ⟨fun h => by omega, fun h => by omega⟩

/-- one call of the fixed `reassemble` on a non-empty fragment (a buffer that exists is never made smaller) -/
theorem stepCopy_loop_good (s : RState) (T L : Nat) (hg : Good s T) (hL : 0 < L) :
    (stepCopy true s L).1.inBounds = true ∧
    (stepCopy true s L).1.off = 4 + T ∧
    (stepCopy true s L).1.len = L ∧
    ((stepCopy true s L).1.fresh = true ↔ T = 0) ∧
    (stepCopy true s L).1.cap = (stepCopy true s L).2.cap ∧
    Good (stepCopy true s L).2 (T + L) ∧
    (0 < T → s.cap ≤ (stepCopy true s L).2.cap) := by
  -- the state the growth loop starts from: a new buffer, or the one there is; in both the fill level is `4 + T`
  have hfr : (s.avail == 0) = true ↔ T = 0 := beq_iff_eq.trans hg.avail_eq_zero_iff
  have h1 : ∃ s1, (if (s.avail == 0) = true then alloc L else s) = s1 ∧
      s1.cap = s1.avail + 4 + T ∧ s1.cap ≤ 6 * (T + L) + 16 ∧ (0 < T → s.cap ≤ s1.cap) := by
    by_cases hT : T = 0
    · refine ⟨_, if_pos (hfr.2 hT), ?_⟩
      rw [alloc_cap, alloc_avail]; omega
    · rcases hg with ⟨hb, ⟨h, -⟩ | ⟨-, -, hcap⟩⟩
      · exact absurd h hT
      · exact ⟨_, if_neg (mt hfr.1 hT), by omega⟩
  obtain ⟨s1, hs1, p1, p2, p3⟩ := h1
  obtain ⟨e1, e2, e3, e4⟩ := growLoop_spec (L + reasmSlack + 1) s1 L (by omega) (by unfold reasmSlack; omega)
  generalize hr : growLoop (L + reasmSlack + 1) s1 L = r at e1 e2 e3 e4
  rw [stepCopy_eq (loops := true) (r := r) (by rw [hs1]; exact hr)]
  have hcap := e4 _ p2 (by omega)
  clear e4 hg hs1
  have : r.cap - r.avail + L ≤ r.cap ∧ r.cap - r.avail = 4 + T ∧ 0 < T + L ∧ 4 < r.avail - L ∧
      r.avail - L + 4 + (T + L) = r.cap := by omega
  exact ⟨decide_eq_true this.1, this.2.1, rfl, hfr, rfl, ⟨hcap, Or.inr ⟨this.2.2.1, this.2.2.2.1, this.2.2.2.2⟩⟩,
    fun h => Nat.le_trans (p3 h) e3⟩

theorem sum_cons (L : Nat) (rest : List Nat) : (L :: rest).sum = L + rest.sum := by simp

/-- the fixed code, any fragment list, from any good state -/
theorem run_loop_good (sizes : List Nat) (s : RState) (T : Nat) (hg : Good s T) :
    allInBounds (run true s sizes) = true ∧ contiguousFrom T (run true s sizes) = true ∧
    Good (stateAfter true s sizes) (T + sizes.sum) := by
  induction sizes generalizing s T with
  | nil => simp [run, allInBounds, contiguousFrom, stateAfter, hg]
  | cons L rest ih =>
    simp only [run, stateAfter, sum_cons]
    by_cases hL : L = 0
    · rw [if_pos hL, if_pos hL, hL, Nat.zero_add]; exact ih s T hg
    · obtain ⟨h1, h2, h3, -, -, h6, -⟩ := stepCopy_loop_good s T L hg (Nat.pos_of_ne_zero hL)
      obtain ⟨i1, i2, i3⟩ := ih _ _ h6
      rw [if_neg hL, if_neg hL, if_pos h1, ← Nat.add_assoc]
      exact ⟨by simpa [allInBounds, h1] using i1, by simpa [contiguousFrom, h2, h3, reasmHeader] using i2, i3⟩

/-! ### the single-doubling code -/

theorem growOnce_spec (s : RState) (L : Nat) (h : s.avail ≤ s.cap) :
    (growOnce s L).avail ≤ (growOnce s L).cap ∧ (L ≤ (growOnce s L).avail ↔ L ≤ s.avail + s.cap) := by
  unfold growOnce
  by_cases hg : needsGrow s L = true
  · rw [if_pos hg, growStep_cap, growStep_avail]; omega
  · have := mt (needsGrow_iff s L).2 hg
    rw [if_neg hg]; omega

/-- one call of the old `reassemble`: the copy is in bounds exactly when the fragment is at most
    free space + capacity (or there was no buffer) -/
theorem stepCopy_once_inBounds (s : RState) (L : Nat) (hw : s.avail ≤ s.cap) :
    ((stepCopy false s L).1.inBounds = true ↔ (s.avail = 0 ∨ L ≤ s.avail + s.cap)) ∧
    (stepCopy false s L).2.avail ≤ (stepCopy false s L).2.cap := by
  -- a new buffer has room for three fragments
  have h1 : ∃ s1, (if (s.avail == 0) = true then alloc L else s) = s1 ∧ s1.avail ≤ s1.cap ∧
      (L ≤ s1.avail + s1.cap ↔ s.avail = 0 ∨ L ≤ s.avail + s.cap) := by
    by_cases h0 : s.avail = 0
    · refine ⟨_, if_pos (by rw [h0]; rfl), ?_⟩
      rw [alloc_cap, alloc_avail]; omega
    · exact ⟨_, if_neg (by rwa [Nat.beq_eq_true_eq]), hw, by omega⟩
  obtain ⟨s1, hs1, p1, p2⟩ := h1
  obtain ⟨e1, e2⟩ := growOnce_spec s1 L p1
  generalize hr : growOnce s1 L = r at e1 e2
  rw [stepCopy_eq (loops := false) (r := r) (by rw [hs1]; exact hr), Copy.inBounds, decide_eq_true_eq]
  show (r.cap - r.avail + L ≤ r.cap ↔ _) ∧ r.avail - L ≤ r.cap
  omega

theorem run_once_iff (sizes : List Nat) (s : RState) (hw : s.avail ≤ s.cap) :
    allInBounds (run false s sizes) = true ↔ fitsOnce s sizes := by
  induction sizes generalizing s with
  | nil => simp [run, allInBounds, fitsOnce]
  | cons L rest ih =>
    simp only [run, fitsOnce]
    by_cases hL : L = 0
    · rw [if_pos hL, if_pos hL]; exact ih s hw
    · obtain ⟨h1, h2⟩ := stepCopy_once_inBounds s L hw
      rw [if_neg hL, if_neg hL, ← h1, ← ih _ h2]
      by_cases hb : (stepCopy false s L).1.inBounds = true
      · rw [if_pos hb]; simp [allInBounds, hb]
      · rw [if_neg hb]; simp [allInBounds, hb]

end Cjet.Deflate
