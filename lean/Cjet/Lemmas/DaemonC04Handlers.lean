/-
  C04 — what changes the element store.  The three ways a request of peer `c` can change it, on
  images (`Mut`): well-formedness is kept and nobody else's elements move.  The handlers add, remove
  and change: the exact new store on the success path, and the summary `Eff` used by the invariant
  and by `error_means_unchanged`.  `free_peer_resources`: exactly the leaving peer's elements vanish.
-/
import Cjet.Lemmas.DaemonC04Frame

namespace Cjet.Daemon.C04

open Cjet Cjet.Json Cjet.Daemon

/-! ## the three changes of a store -/

abbrev Store := Image × List (Bytes × Nat)

def addG (path : Bytes) (i : ElemInfo) : List Entry → List Entry := (· ++ [(path, i)])
def removeG (path : Bytes) : List Entry → List Entry := (·.filter (·.1 != path))
def changeG (path : Bytes) (i' : ElemInfo) : List Entry → List Entry :=
  (·.map (fun x => if x.1 == path then (path, i') else x))

def setValue (i : ElemInfo) (v : Json) : ElemInfo := { i with value := some v }

/-- the ways one request of peer `c` may change the element store -/
inductive Mut (c : Nat) : Store → Store → Prop
  | add (im idx path i) : (∀ o, (path, o) ∉ idx) → c ∈ im.map (·.1) → i.owner = c →
      Mut c (im, idx) (updImage im c (addG path i), idx ++ [(path, c)])
  | remove (im idx path l i) : (c, l) ∈ im → (path, i) ∈ l →
      Mut c (im, idx) (updImage im c (removeG path), removeIndex idx path)
  | change (im idx path l i v) : (c, l) ∈ im → (path, i) ∈ l →
      Mut c (im, idx) (updImage im c (changeG path (setValue i v)), idx)

/-! Each of the three is a point update by the owner (`ImUpd`), mirrored in the index. -/

theorem imUpd_add {im : Image} {idx} (h : WFP im idx) {c : Nat} {path : Bytes} (i : ElemInfo)
    (hfree : ∀ o, (path, o) ∉ idx) (hc : c ∈ im.map (·.1)) :
    ImUpd im c (addG path i) path (some i) ∧ Upd path (some c) idx (idx ++ [(path, c)]) := by
  have hfree' : ∀ o l j, (o, l) ∈ im → (path, j) ∉ l := fun o l j hl hj =>
    hfree o ((h.sync path o).2 ⟨l, hl, j, hj⟩)
  obtain ⟨⟨_, l0⟩, hl0, rfl⟩ := List.mem_map.1 hc
  exact ⟨⟨h.conns, ⟨l0, hl0, Upd.append fun j => hfree' _ l0 j hl0⟩, fun o l j hl hj => absurd hj (hfree' o l j hl)⟩,
    Upd.append hfree⟩

theorem imUpd_remove {im : Image} {idx} (h : WFP im idx) {c : Nat} {path : Bytes} {l0 : List Entry} {i0 : ElemInfo}
    (hl0 : (c, l0) ∈ im) (hi0 : (path, i0) ∈ l0) :
    ImUpd im c (removeG path) path none ∧ Upd path none idx (removeIndex idx path) :=
  ⟨⟨h.conns, ⟨l0, hl0, Upd.filter⟩, fun o l j hl hj => h.glob o l c l0 path j i0 hl hl0 hj hi0⟩, Upd.filter⟩

theorem imUpd_change {im : Image} {idx} (h : WFP im idx) {c : Nat} {path : Bytes} {l0 : List Entry} {i0 : ElemInfo}
    (i' : ElemInfo) (hl0 : (c, l0) ∈ im) (hi0 : (path, i0) ∈ l0) :
    ImUpd im c (changeG path i') path (some i') ∧ Upd path (some c) idx idx :=
  ⟨⟨h.conns, ⟨l0, hl0, Upd.map hi0⟩, fun o l j hl hj => h.glob o l c l0 path j i0 hl hl0 hj hi0⟩,
    Upd.same h.idxNodup ((h.sync path c).2 ⟨l0, hl0, i0, hi0⟩)⟩

theorem Mut.wfp {c : Nat} {st st' : Store} (h : Mut c st st') (hwf : WFP st.1 st.2) : WFP st'.1 st'.2 := by
  cases h with
  | add im idx path i hfree hc hi =>
    have hu := imUpd_add hwf i hfree hc
    exact wfp_upd hwf hu.1 hu.2 (by rintro _ ⟨⟩; exact hi)
  | remove im idx path l i hl hi =>
    have hu := imUpd_remove hwf hl hi
    exact wfp_upd hwf hu.1 hu.2 nofun
  | change im idx path l i v hl hi =>
    have hu := imUpd_change hwf (setValue i v) hl hi
    exact wfp_upd hwf hu.1 hu.2 (by rintro _ ⟨⟩; exact hwf.owner c l hl path i hi)

theorem updImage_filter_ne (im : Image) (c : Nat) (g) :
    (updImage im c g).filter (·.1 != c) = im.filter (·.1 != c) := by
  rw [updImage_eq, List.filter_map]
  refine (List.map_congr_left fun ol hol => ?_).trans (List.map_id _)
  rw [if_neg (bne_iff_ne.1 (List.mem_filter.1 hol).2)]
  rfl

theorem Mut.others {c : Nat} {st st' : Store} (h : Mut c st st') :
    st'.1.filter (·.1 != c) = st.1.filter (·.1 != c) := by
  cases h <;> exact updImage_filter_ne ..

theorem Mut.conns {c : Nat} {st st' : Store} (h : Mut c st st') : st'.1.map (·.1) = st.1.map (·.1) := by
  cases h <;> exact updImage_conns ..

/-! ## what a handler may do -/

/-- the output of `x'` extends that of `x` by observations that are not error responses -/
def QuietOut (x x' : Ctx) : Prop := ∃ new, x'.out = new ++ x.out ∧ ∀ o ∈ new, NoErr o

theorem Quiet.quietOut {x x' : Ctx} (h : Quiet x x') : QuietOut x x' := h.out

/-- What a call on behalf of peer `c` may do on the way from `x` to `x'`: the output only grows; and in
    a well-formed state the store is untouched, or it changed in one of the three ways, and then `P`
    holds and everything emitted on the way is free of error objects. -/
def Chg (c : Nat) (x x' : Ctx) (P : Prop) : Prop :=
  Ext x x' ∧ (WFS x.st → store x'.st = store x.st ∨ (Mut c (store x.st) (store x'.st) ∧ P ∧ QuietOut x x'))

/-- Summary of a handler call by peer `c`: if the store changed, the handler's answer is the success
    response. -/
def Eff (c : Nat) (x : Ctx) (req : Json) (r : Ctx × Option Json) : Prop :=
  Chg c x r.1 (r.2 = successFromRequest req)

theorem Frame.chg {c : Nat} {x x' : Ctx} {P : Prop} (h : Frame x x') : Chg c x x' P :=
  ⟨h.ext, fun _ => Or.inl h.store⟩

theorem FetchInv.chg {c : Nat} {x x' : Ctx} {P : Prop} (h : FetchInv x x') : Chg c x x' P :=
  ⟨h.1, fun hwf => Or.inl (h.2 hwf)⟩

theorem Eff.refused {c : Nat} {x : Ctx} {req : Json} (resp : Option Json) : Eff c x req (x, resp) :=
  (Frame.refl x).chg

theorem Eff.mut {c : Nat} {x : Ctx} {req : Json} {x' : Ctx} (hq : QuietOut x x')
    (hm : WFS x.st → Mut c (store x.st) (store x'.st)) : Eff c x req (x', successFromRequest req) :=
  ⟨hq.imp fun _ h => h.1, fun hwf => Or.inr ⟨hm hwf, rfl, hq⟩⟩

/-! ## add -/

def fetchOnlyOk : Option Json → Bool
  | some (.bool _) | none => true
  | some _ => false

theorem fetchOnlyOk_bool {o : Option Json} (h : fetchOnlyOk o = true) (j : Json) (hj : o = some j) :
    ∃ b, j = .bool b := by
  subst hj
  cases j <;> first | exact ⟨_, rfl⟩ | cases h

def fetchOnlyFlag (params : Json) : Bool :=
  match params.getItem (k "fetchOnly") with | some (.bool true) => true | _ => false

theorem image_append_element (ps : List Peer) (c : Nat) (e : Element) :
    image (updatePeer ps c (fun q => { q with elements := q.elements ++ [e] })) =
      updImage (image ps) c (addG e.path (info e)) := by
  apply image_updatePeer
  intro q _ _
  exact ⟨rfl, by simp only [peerAbs, List.map_append, List.map_cons, List.map_nil, addG, entry]⟩

theorem addCore_full (cfg : Config) {x : Ctx} (p : Peer) (req : Json) (e0 : Element) (h : x.indexFull = true) :
    (addCore cfg x p req e0).2 = errorFromRequest req INTERNAL_ERROR "reason" (k "element table full") ∧
    (addCore cfg x p req e0).1.st = x.st ∧ QuietOut x (addCore cfg x p req e0).1 := by
  rcases addCore_cases cfg x p req e0 with ⟨_, hc⟩ | ⟨hf, _⟩
  · rw [hc]
    have hq := (findFetchersForElement_spec cfg x e0).1.trans
      (quiet_notifyFetchers _ (findFetchersForElement cfg x e0).2 "remove")
    exact ⟨rfl, hq.st, hq.out⟩
  · rw [h] at hf; cases hf

theorem addCore_ok (cfg : Config) {x : Ctx} (p : Peer) (req : Json) (e0 : Element) (h : x.indexFull = false) :
    (addCore cfg x p req e0).2 = successFromRequest req ∧
    store (addCore cfg x p req e0).1.st =
      (updImage (image x.st.peers) p.conn (addG e0.path (info e0)), x.st.index ++ [(e0.path, p.conn)]) ∧
    QuietOut x (addCore cfg x p req e0).1 := by
  rcases addCore_cases cfg x p req e0 with ⟨hf, _⟩ | ⟨_, hc⟩
  · rw [h] at hf; cases hf
  · rw [hc]
    obtain ⟨hq, he⟩ := findFetchersForElement_spec cfg x e0
    refine ⟨rfl, ?_, hq.out⟩
    rw [store_def, image_append_element, (Prod.mk.inj he).1, (Prod.mk.inj he).2]

theorem addElement_eff {cfg : Config} {x : Ctx} {p : Peer} {c : Nat} {req : Json}
    (hp : findPeer x.st.peers c = some p) : Eff c x req (addElement cfg x p req) := by
  rw [addElement_eq]
  cases hck : addChecks cfg x.st p req with
  | error r => exact Eff.refused r
  | ok e0 =>
    obtain ⟨_, _, hfree, hown, _⟩ := addChecks_ok hck
    have hc := findPeer_conn hp
    cases hfull : x.indexFull with
    | true =>
      obtain ⟨_, hst, hq⟩ := addCore_full cfg p req e0 hfull
      exact ⟨hq.imp fun _ h => h.1, fun _ => Or.inl (congrArg store hst)⟩
    | false =>
      obtain ⟨hr, hst, hq⟩ := addCore_ok cfg p req e0 hfull
      show Eff c x req ((addCore cfg x p req e0).1, (addCore cfg x p req e0).2)
      rw [hr]
      refine Eff.mut hq fun _ => ?_
      rw [hst, hc]
      exact Mut.add _ _ _ _ (lookupIndex_none hfree)
        (by rw [image_conns]; exact List.mem_map.2 ⟨p, findPeer_mem hp, hc⟩) (hown.trans hc)

/-! ## remove -/

theorem removeElement_store (x : Ctx) (e : Element) :
    store (removeElement x e).st =
      (updImage (image x.st.peers) e.owner (removeG e.path), removeIndex x.st.index e.path) := by
  simp only [removeElement, store_def, notifyFetchers_st, Prod.mk.injEq, and_true]
  apply image_updatePeer
  intro q _ _
  refine ⟨rfl, ?_⟩
  simp only [peerAbs, removeG, List.filter_map]
  rfl

theorem removeElement_quietOut (x : Ctx) (e : Element) : QuietOut x (removeElement x e) :=
  (quiet_notifyFetchers x e "remove").out

theorem removeElement_mut {x : Ctx} {c : Nat} {p : Peer} {e : Element} (hp : findPeer x.st.peers c = some p)
    (he : e ∈ p.elements) (hwf : WFS x.st) : Mut c (store x.st) (store (removeElement x e).st) := by
  obtain ⟨hm, _, _⟩ := mem_image_of_findPeer hp
  have hent : (e.path, info e) ∈ peerAbs p := List.mem_map.2 ⟨e, he, rfl⟩
  have hown : e.owner = c := hwf.owner hp he
  rw [removeElement_store, hown]
  exact Mut.remove _ _ _ (peerAbs p) (info e) hm hent

theorem removeElementReq_eff {x : Ctx} {p : Peer} {c : Nat} {req : Json}
    (hp : findPeer x.st.peers c = some p) : Eff c x req (removeElementReq x p req) := by
  rcases removeElementReq_cases x p req with ⟨_, _, h⟩ | ⟨_, _, e, _, hf, h⟩ <;> rw [h]
  · exact Eff.refused _
  · exact Eff.mut (removeElement_quietOut x e) (removeElement_mut hp (List.mem_of_find?_eq_some hf))

/-! ## change -/

theorem image_change_element (ps : List Peer) (c : Nat) (path : Bytes) (e' : Element) (he' : e'.path = path) :
    image (updatePeer ps c (fun q =>
      { q with elements := q.elements.map (fun el => if el.path == path then e' else el) })) =
      updImage (image ps) c (changeG path (info e')) := by
  apply image_updatePeer
  intro q _ _
  refine ⟨rfl, ?_⟩
  simp only [peerAbs, changeG, List.map_map]
  refine List.map_congr_left fun el _ => ?_
  show entry (if el.path == path then e' else el) = if el.path == path then (path, info e') else entry el
  rw [apply_ite entry, ← he']
  rfl

theorem changedState_store {s : State} (hwf : WFS s) {c : Nat} {p : Peer} (hp : findPeer s.peers c = some p)
    {path : Bytes} {e : Element} (hfe : findElement s path = some e) (hown : e.owner = c) (v : Json) :
    store (changedState s c path e v) =
      (updImage (image s.peers) c (changeG path (setValue (info e) v)), s.index) ∧
    (c, peerAbs p) ∈ image s.peers ∧ (path, info e) ∈ peerAbs p := by
  obtain ⟨hm, _, _⟩ := mem_image_of_findPeer hp
  obtain ⟨o, q, _, hq, heq, hpath⟩ := findElement_some hfe
  have hoc : o = c := (hwf.owner hq heq).symm.trans hown
  subst hoc
  cases hp.symm.trans hq
  refine ⟨?_, hm, hpath ▸ List.mem_map.2 ⟨e, heq, rfl⟩⟩
  rw [store_def, changedState, image_change_element _ _ _ { e with value := some v } hpath]
  rfl

theorem changeState_eff {x : Ctx} {p : Peer} {c : Nat} {req : Json}
    (hp : findPeer x.st.peers c = some p) : Eff c x req (changeState x p req) := by
  rcases changeState_cases x p req with ⟨_, _, h⟩ | ⟨_, path, v, e, _, _, hfe, hown, _, h⟩ <;> rw [h]
  · exact Eff.refused _
  · have hc := findPeer_conn hp
    -- the context notified in has the output of `x`
    refine Eff.mut (x := x) (quiet_notifyFetchers _ _ "change").out fun hwf => ?_
    obtain ⟨hst, hml, hent⟩ := changedState_store hwf hp hfe (hown.trans hc) v
    rw [notifyFetchers_st]
    show Mut c _ (store (changedState x.st p.conn path e v))
    rw [hc, hst]
    exact Mut.change _ _ _ (peerAbs p) (info e) v hml hent

/-! ## a peer leaves -/

theorem unsubscribe_store (x : Ctx) (c : Nat) (p : Peer) :
    store (unsubscribe (freeRequests (freeTable x c p) c) c).st = store x.st := by
  have h1 : store (freeTable x c p).st = store x.st := by
    rw [freeTable_st]
    exact store_eq_iff.2 ⟨image_updatePeer_frame _ _ _ fun _ => ⟨rfl, rfl⟩, rfl⟩
  have h2 : ∀ y : Ctx, store (freeRequests y c).st = store y.st := fun y => by
    rw [freeRequests_st]
    exact store_eq_iff.2 ⟨image_map fun _ _ => ⟨rfl, rfl⟩, rfl⟩
  have h3 : ∀ y : Ctx, store (unsubscribe y c).st = store y.st := fun y => by
    refine store_eq_iff.2 ⟨(image_updatePeer_frame _ _ _ ?_).trans (image_mapElements ?_), rfl⟩ <;> intro _
    · exact ⟨rfl, rfl⟩
    · rfl
  exact (h3 _).trans ((h2 _).trans h1)

/-- one iteration of remove_all_elements_from_peer -/
def remStep (c : Nat) (x : Ctx) (e0 : Element) : Ctx :=
  match (findPeer x.st.peers c).bind (·.elements.find? (·.path == e0.path)) with
  | some e => removeElement x e
  | none => x

/-- invariant of the removal loop -/
structure RemInv (c : Nat) (im0 : Image) (rest : List Element) (s : State) : Prop where
  wfs : WFS s
  others : (image s.peers).filter (·.1 != c) = im0.filter (·.1 != c)
  left : ∀ l, (c, l) ∈ image s.peers → ∀ y ∈ l, y.1 ∈ rest.map (·.path)

theorem remStep_inv {c : Nat} {im0 : Image} {e0 : Element} {rest : List Element} {x : Ctx}
    (h : RemInv c im0 (e0 :: rest) x.st) : RemInv c im0 rest (remStep c x e0).st := by
  unfold remStep
  cases hfp : findPeer x.st.peers c with
  | none =>
    refine ⟨h.wfs, h.others, fun l hl => ?_⟩
    exact absurd (List.mem_map.2 ⟨(c, l), hl, rfl⟩) (image_conns _ ▸ findPeer_none_iff.1 hfp)
  | some q =>
    rw [Option.bind_some]
    obtain ⟨hm, _, _⟩ := mem_image_of_findPeer hfp
    cases hf : q.elements.find? (·.path == e0.path) with
    | none =>
      refine ⟨h.wfs, h.others, fun l hl y hy => ?_⟩
      cases WFP.list_unique h.wfs hl hm
      rcases List.mem_cons.1 (h.left _ hl y hy) with h1 | h1
      · obtain ⟨el, hel, rfl⟩ := List.mem_map.1 hy
        exact absurd (beq_iff_eq.2 h1) (List.find?_eq_none.1 hf el hel)
      · exact h1
    | some e =>
      have hpath : e.path = e0.path := beq_iff_eq.1 (List.find?_some (p := fun e : Element => e.path == e0.path) hf)
      have hmut := removeElement_mut (x := x) hfp (List.mem_of_find?_eq_some hf) h.wfs
      refine ⟨hmut.wfp h.wfs, hmut.others.trans h.others, fun l hl y hy => ?_⟩
      have hown : e.owner = c := h.wfs.owner hfp (List.mem_of_find?_eq_some hf)
      rw [(Prod.mk.inj (removeElement_store x e)).1, hown] at hl
      obtain ⟨l1, hl1, rfl⟩ := mem_updImage.1 hl
      rw [if_pos rfl, removeG, List.mem_filter, bne_iff_ne] at hy
      rcases List.mem_cons.1 (h.left l1 hl1 y hy.1) with h3 | h3
      · exact absurd (h3.trans hpath.symm) hy.2
      · exact h3

theorem removeElements_inv {c : Nat} {im0 : Image} (es : List Element) {x : Ctx}
    (h : RemInv c im0 es x.st) : RemInv c im0 [] (removeElements x c es).st := by
  induction es generalizing x with
  | nil => exact h
  | cons e0 rest ih => exact ih (remStep_inv h)

theorem filter_conn_of_gone {ps : List Peer} {c : Nat} (h : findPeer ps c = none) :
    (image ps).filter (·.1 != c) = image ps := by
  rw [List.filter_eq_self]
  rintro ⟨o, l⟩ hm
  rw [bne_iff_ne]
  rintro rfl
  exact findPeer_none_iff.1 h (image_conns _ ▸ List.mem_map.2 ⟨(o, l), hm, rfl⟩)

theorem freePeerResources_spec {x : Ctx} {c : Nat} (hwf : WFS x.st) :
    WFS (freePeerResources x c).st ∧
    image (freePeerResources x c).st.peers = (image x.st.peers).filter (·.1 != c) := by
  cases hfp : findPeer x.st.peers c with
  | none => rw [freePeerResources_none hfp, filter_conn_of_gone hfp]; exact ⟨hwf, rfl⟩
  | some p =>
    rw [freePeerResources_phases hfp]
    obtain ⟨hm, _, _⟩ := mem_image_of_findPeer hfp
    have hps := unsubscribe_store x c p
    have h0 : RemInv c (image x.st.peers) p.elements (unsubscribe (freeRequests (freeTable x c p) c) c).st := by
      refine ⟨wfs_of_store_eq hps hwf, by rw [(store_eq_iff.1 hps).1], fun l hl y hy => ?_⟩
      rw [(store_eq_iff.1 hps).1] at hl
      cases WFP.list_unique hwf hl hm
      obtain ⟨el, hel, rfl⟩ := List.mem_map.1 hy
      exact List.mem_map.2 ⟨el, hel, rfl⟩
    have h1 := removeElements_inv p.elements h0
    have hempty : ∀ l, (c, l) ∈ image (removeElements (unsubscribe (freeRequests (freeTable x c p) c) c) c
        p.elements).st.peers → l = [] := fun l hl =>
      List.eq_nil_iff_forall_not_mem.2 fun y hy => nomatch h1.left _ hl y hy
    show WFP (image (List.filter _ _)) _ ∧ image (List.filter _ _) = _
    rw [image_filter]
    exact ⟨wfp_delete h1.wfs hempty, h1.others⟩

theorem closePeer_st (x : Ctx) (c : Nat) : (closePeer x c).st = (freePeerResources x c).st := Daemon.closePeer_st x c

end Cjet.Daemon.C04
