import Cjet.Ws.Wire
/-! A frame on its way in, from bytes to what the dispatcher is given: the fast path of `unmask_payload` is the byte-wise XOR,
    an involution; the header machine run over a frame in RFC 6455 wire layout (`run_frame`) delivers the unmasked payload
    (`deliver_eq`); runs compose (`run_append`), so the segmentation of the input does not matter. -/
namespace Cjet.Ws

/-! ## Unmasking: the fast path is the byte-wise XOR -/

theorem xorFrom_length (key : Bytes) (s : Nat) (bs : Bytes) : (xorFrom key s bs).length = bs.length := by
  induction bs generalizing s with
  | nil => simp [xorFrom]
  | cons b bs ih => simp [xorFrom, ih]

theorem xorFrom_append (key : Bytes) (s : Nat) (a b : Bytes) :
    xorFrom key s (a ++ b) = xorFrom key s a ++ xorFrom key (s + a.length) b := by
  induction a generalizing s with
  | nil => simp [xorFrom]
  | cons x xs ih =>
    simp only [List.cons_append, xorFrom, List.length_cons, ih]
    congr 3
    omega

theorem xorFrom_congr (key : Bytes) {s t : Nat} (h : s % 4 = t % 4) (bs : Bytes) :
    xorFrom key s bs = xorFrom key t bs := by
  induction bs generalizing s t with
  | nil => rfl
  | cons b bs ih =>
    rw [xorFrom, xorFrom, maskByte, maskByte, h, ih (s := s + 1) (t := t + 1) (by rw [Nat.add_mod, h, ← Nat.add_mod])]

/-- one word: XOR with the pre-rotated mask is the byte loop -/
theorem xorWord_maskSeq (key : Bytes) (s n : Nat) (w : Bytes) (h : w.length ≤ n) :
    xorWord (maskSeq key s n) w = xorFrom key s w := by
  induction w generalizing s n with
  | nil => simp [xorWord, xorFrom]
  | cons b bs ih =>
    cases n with
    | zero => simp at h
    | succ n =>
      simp only [xorWord, maskSeq, List.zipWith_cons_cons, xorFrom]
      congr 1
      exact ih (s + 1) n (by simpa using h)

/-- every word starts at an index congruent to `pre` modulo 4, as the word size is a multiple of 4 -/
theorem wordLoop_eq (key : Bytes) (word : Nat) (hw : word % 4 = 0) (pre : Nat) (n : Nat)
    (bs : Bytes) (hl : bs.length = n * word) :
    wordLoop word (maskSeq key pre word) n bs = xorFrom key pre bs := by
  induction n generalizing bs with
  | zero =>
    have : bs = [] := by simpa using hl
    subst this
    rfl
  | succ n ih =>
    rw [Nat.succ_mul] at hl
    have htl : (bs.take word).length = word := by rw [List.length_take, hl, Nat.min_eq_left (Nat.le_add_left _ _)]
    rw [wordLoop, xorWord_maskSeq key pre word _ (Nat.le_of_eq htl), ih _ (by rw [List.length_drop, hl, Nat.add_sub_cancel])]
    conv => rhs; rw [← List.take_append_drop word bs, xorFrom_append, htl]
    rw [xorFrom_congr key (show (pre + word) % 4 = pre % 4 by rw [Nat.add_mod, hw, Nat.add_zero, Nat.mod_mod])]

/-- The fast path computes exactly the byte-wise XOR, for every word size that is a multiple of 4,
    every alignment, every key and every buffer. -/
theorem unmaskPayload_eq_xorMask (word : Nat) (hw0 : 0 < word) (hw : word % 4 = 0) (align : Nat)
    (key : Bytes) (buf : Bytes) : unmaskPayload word align key buf = xorMask key buf := by
  unfold unmaskPayload xorMask
  simp only
  split
  · rfl
  · rename_i hlen
    generalize hpre : (word - align % word) % word = pre
    have hprelt : pre < word := hpre ▸ Nat.mod_lt _ hw0
    generalize hmain : (buf.length - pre) / word = main
    have hdiv : main * word ≤ buf.length - pre := hmain ▸ Nat.div_mul_le_self _ _
    -- the three loops cover the buffer piece by piece: `pre` bytes, `main` words, the rest
    have hple : pre ≤ buf.length := Nat.le_trans (Nat.le_of_lt hprelt) (Nat.le_of_not_lt hlen)
    have hsum : pre + main * word ≤ buf.length := Nat.add_le_of_le_sub' hple hdiv
    have hl1 : (buf.take pre).length = pre := List.length_take_of_le hple
    have hl2 : ((buf.drop pre).take (main * word)).length = main * word := by
      rw [List.length_take, List.length_drop, Nat.min_eq_left hdiv]
    rw [Nat.sub_sub, Nat.sub_sub_self hsum, wordLoop_eq key word hw pre main _ hl2]
    conv => rhs; rw [← List.take_append_drop pre buf, ← List.take_append_drop (main * word) (buf.drop pre), List.drop_drop,
      xorFrom_append, xorFrom_append, hl1, hl2, Nat.zero_add]
    rw [List.append_assoc]

theorem xorFrom_getElem? (key : Bytes) (s : Nat) (bs : Bytes) (i : Nat) :
    (xorFrom key s bs)[i]? = bs[i]?.map (· ^^^ maskByte key (s + i)) := by
  induction bs generalizing s i with
  | nil => simp [xorFrom]
  | cons b bs ih =>
    cases i with
    | zero => simp [xorFrom]
    | succ i => rw [xorFrom, List.getElem?_cons_succ, ih, List.getElem?_cons_succ, Nat.add_right_comm, Nat.add_assoc]

theorem xorFrom_involutive (key : Bytes) (s : Nat) (bs : Bytes) :
    xorFrom key s (xorFrom key s bs) = bs := by
  induction bs generalizing s with
  | nil => simp [xorFrom]
  | cons b bs ih =>
    simp only [xorFrom, ih]
    congr 1
    rw [UInt8.xor_assoc, UInt8.xor_self, UInt8.xor_zero]

theorem xorMask_length (key buf : Bytes) : (xorMask key buf).length = buf.length :=
  xorFrom_length key 0 buf

theorem unmaskPayload_length (word : Nat) (hw0 : 0 < word) (hw : word % 4 = 0) (align : Nat)
    (key buf : Bytes) : (unmaskPayload word align key buf).length = buf.length := by
  rw [unmaskPayload_eq_xorMask word hw0 hw, xorMask_length]

open Cjet.Generated.Ws

/-! ## The two header bytes and the big-endian lengths are read back -/

theorem decode_b0 : ∀ (fin : Bool) (rsv : Fin 8) (opcode : Fin 16),
    let b := UInt8.ofNat (bit fin + rsv * 16 + opcode)
    ((b &&& UInt8.ofNat wsHeaderFin) == UInt8.ofNat wsHeaderFin) = fin ∧
    ((b &&& UInt8.ofNat rsvMask) >>> UInt8.ofNat rsvShift).toNat = rsv ∧
    (b &&& UInt8.ofNat opcodeMask).toNat = opcode := by
  decide +kernel

theorem decode_b1 : ∀ (masked : Bool) (v : Fin 128),
    let b := UInt8.ofNat (bit masked + v)
    ((b &&& UInt8.ofNat wsMaskSet) == UInt8.ofNat wsMaskSet) = masked ∧
    (b &&& ~~~(UInt8.ofNat wsMaskSet)).toNat = v := by
  decide +kernel

def beBytes : Nat → Nat → Bytes
  | 0, _ => []
  | k + 1, v => beBytes k (v / 256) ++ [UInt8.ofNat v]

theorem beVal_concat (bs : Bytes) (b : UInt8) : beVal (bs ++ [b]) = beVal bs * 256 + b.toNat := by
  simp [beVal]

theorem beVal_beBytes (k v : Nat) : beVal (beBytes k v) = v % 256 ^ k := by
  induction k generalizing v with
  | zero => simp [beBytes, beVal, Nat.mod_one]
  | succ k ih =>
    rw [beBytes, beVal_concat, ih, Nat.pow_succ', Nat.mod_mul, UInt8.toNat_ofNat']
    omega

theorem be64_eq (n : Nat) : be64 n = beBytes 8 n := by
  simp [be64, beBytes, Nat.div_div_eq_div_mul]

theorem beVal_be16 {n : Nat} (h : n < 65536) : beVal (be16 n) = n :=
  (beVal_beBytes 2 n).trans (Nat.mod_eq_of_lt h)

theorem beVal_be64 {n : Nat} (h : n < 18446744073709551616) : beVal (be64 n) = n := by
  rw [be64_eq, beVal_beBytes]; exact Nat.mod_eq_of_lt h

/-! ## The four cases of `run` -/

variable {c : Conf} {a : Nat} {s : St} {rest : Bytes}

def thenRun (c : Conf) (a : Nat) (r : St × List Action) (rest : Bytes) : St × Bytes × List Action :=
  seqRun r (run c a r.1 rest)

@[simp] theorem thenRun_nil : thenRun c a (s, []) rest = run c a s rest := rfl

theorem run_closed {input : Bytes} (h : s.phase = .closed) : run c a s input = (s, input, []) := by
  rw [run, if_pos h]

theorem thenRun_closed {r : St × List Action} (h : r.1.phase = .closed) : thenRun c a r rest = (r.1, rest, r.2) := by
  rw [thenRun, run_closed h, seqRun, List.append_nil]

theorem want_pos (h : 0 < s.want) : s.phase ≠ .closed := by
  intro hc; simp [St.want, hc] at h

theorem run_toomuch {input : Bytes} (hb : c.bufSize < s.want) :
    run c a s input = ({ s with phase := .closed }, input, errorHandler c) := by
  rw [run, if_neg (want_pos (by omega)), if_pos hb]

theorem run_block {input : Bytes} (h : s.phase ≠ .closed) (hb : s.want ≤ c.bufSize) (hl : input.length < s.want) :
    run c a s input = (s, input, []) := by
  rw [run, if_neg h, if_neg (by omega), if_pos (Or.inr hl)]

/-- a satisfied request: exactly `want` bytes are delivered, the run goes on with the rest -/
theorem run_exact {chunk : Bytes} (hl : s.want = chunk.length) (h0 : chunk ≠ []) (hb : chunk.length ≤ c.bufSize) :
    run c a s (chunk ++ rest) = thenRun c a (feed c a s chunk) rest := by
  have h0 : 0 < s.want := hl ▸ List.length_pos_iff.mpr h0
  rw [run, if_neg (want_pos h0), if_neg (by omega), if_neg (by simp only [List.length_append]; omega),
    hl, List.take_left' rfl, List.drop_left' rfl, thenRun, seqRun]

theorem run_byte {b : UInt8} (hl : s.want = 1) (hb : 1 ≤ c.bufSize) :
    run c a s (b :: rest) = thenRun c a (feed c a s [b]) rest :=
  run_exact (chunk := [b]) hl (List.cons_ne_nil _ _) hb

/-! ## The header -/

variable {fin masked : Bool} {rsv opcode len : Nat} {form : LenForm}

theorem readMaskOrPayload_phase (c : Conf) (a : Nat) (s : St) (p : Phase) :
    readMaskOrPayload c a { s with phase := p } = readMaskOrPayload c a s := rfl

theorem afterPayload_phase (s : St) (p : Phase) (r : PayloadResult) :
    afterPayload { s with phase := p } r = afterPayload s r := rfl

theorem feed_header (hs : s.phase = .header) (hr : rsv < 8) (ho : opcode < 16) :
    feed c a s [UInt8.ofNat (bit fin + rsv * 16 + opcode)] =
      ({ s with flags := { s.flags with fin := fin, rsv := rsv, opcode := opcode }, phase := .firstLen }, []) := by
  obtain ⟨h1, h2, h3⟩ := decode_b0 fin ⟨rsv, hr⟩ ⟨opcode, ho⟩
  simp only [feed, hs, List.headD_cons, h1, h2, h3]

theorem feed_firstLen {v : Nat} (hs : s.phase = .firstLen) (hv : v < 128) :
    feed c a s [UInt8.ofNat (bit masked + v)] =
      if v < 126 then readMaskOrPayload c a { s with flags := { s.flags with mask := masked }, length := v }
      else if v = 126 then ({ s with flags := { s.flags with mask := masked }, phase := .len16 }, [])
      else ({ s with flags := { s.flags with mask := masked }, phase := .len64 }, []) := by
  obtain ⟨h1, h2⟩ := decode_b1 masked ⟨v, hv⟩
  simp only [feed, hs, List.headD_cons, h1, h2]

theorem run_header (hs : s.phase = .header) (hbuf : 8 ≤ c.bufSize) (hr : rsv < 8) (ho : opcode < 16)
    (hfit : form.fits len) :
    run c a s (wireHeader fin rsv opcode masked form len ++ rest) =
      thenRun c a (readMaskOrPayload c a (s.withHeader fin rsv opcode masked len)) rest := by
  have h1 : 1 ≤ c.bufSize := by omega
  unfold wireHeader
  -- The states after the first byte are only known once the rewriting has produced them, so what the
  -- step lemmas ask about them (`want`, the phase) is left open (`?_`) and closed by `rfl` at the end.
  rw [List.cons_append, run_byte (by rw [St.want, hs]) h1, feed_header hs hr ho, thenRun_nil]
  cases form with
  | short =>
    rw [List.cons_append, run_byte ?_ h1, feed_firstLen ?_ (Nat.lt_trans hfit (by decide)), if_pos (show len < 126 from hfit)]
    all_goals rfl
  | ext16 =>
    rw [List.cons_append, run_byte ?_ h1, feed_firstLen ?_ (by decide), if_neg (by decide), if_pos rfl, thenRun_nil,
      run_exact (chunk := be16 len) ?_ (List.cons_ne_nil _ _) (show 2 ≤ c.bufSize by omega)]
    simp only [feed, beVal_be16 hfit]
    all_goals rfl
  | ext64 =>
    rw [List.cons_append, run_byte ?_ h1, feed_firstLen ?_ (by decide), if_neg (by decide), if_neg (by decide), thenRun_nil,
      run_exact (chunk := be64 len) ?_ (List.cons_ne_nil _ _) hbuf]
    simp only [feed, beVal_be64 hfit]
    all_goals rfl

/-! ## Key and payload -/

/-- the last stage of `read_mask_or_payload` and of `ws_get_mask`: ask for the payload unless it is empty -/
def payloadStage (c : Conf) (a : Nat) (s : St) : St × List Action :=
  if s.length > 0 then ({ s with phase := .payload }, []) else afterPayload s (wsGetPayload c s.flags s.key a [])

theorem readMaskOrPayload_invalid (h : headerInvalid c s.flags s.length = true) :
    readMaskOrPayload c a s = ({ s with phase := .closed }, handleError c closeProtocolError) := by
  rw [readMaskOrPayload, if_pos h]

theorem readMaskOrPayload_masked (h : headerInvalid c s.flags s.length = false) (hm : s.flags.mask = true) :
    readMaskOrPayload c a s = ({ s with phase := .mask }, []) := by
  rw [readMaskOrPayload, if_neg (by simp [h]), if_pos hm]

theorem readMaskOrPayload_unmasked (h : headerInvalid c s.flags s.length = false) (hm : s.flags.mask = false) :
    readMaskOrPayload c a s = payloadStage c a s := by
  rw [readMaskOrPayload, if_neg (by simp [h]), if_neg (by simp [hm]), payloadStage]

theorem run_payload {wp : Bytes} (hl : s.length = wp.length) (hb : wp.length ≤ c.bufSize) :
    thenRun c a (payloadStage c a s) (wp ++ rest) =
      thenRun c a (afterPayload s (wsGetPayload c s.flags s.key a wp)) rest := by
  unfold payloadStage
  cases wp with
  | nil => rw [if_neg (by simp [hl])]; rfl
  | cons p ps =>
    rw [if_pos (by simp [hl]), thenRun_nil, run_exact (s := { s with phase := .payload }) hl (List.cons_ne_nil _ _) hb]
    rfl

theorem run_payload_oversize (hbig : c.bufSize < s.length) :
    thenRun c a (payloadStage c a s) rest = ({ s with phase := .closed }, rest, errorHandler c) := by
  rw [payloadStage, if_pos (by omega), thenRun_nil]
  exact run_toomuch (s := { s with phase := .payload }) hbig

theorem wirePayload_length (key : Option Bytes) (payload : Bytes) : (wirePayload key payload).length = payload.length := by
  cases key with
  | none => rfl
  | some k => exact xorMask_length k payload

/-- **The header machine on a frame in wire layout.**  From the header phase, for every FIN/RSV/opcode
    and each of the three length forms the length fits in, exactly one of three things happens.
    A header that `is_frame_header_invalid` rejects ends the run with `handle_error(1002)` right after
    the length field; whatever follows is not consumed.  Otherwise the masking key (any key, if the MASK
    bit announced one) is read, and then: a payload longer than the read buffer is never requested, the
    reader's error handler runs; a payload that the buffer can hold is delivered with
    `(fin, rsv, opcode, key)` to `ws_get_payload`, and the run goes on with `rest`. -/
theorem run_frame (hs : s.phase = .header) (hbuf : 8 ≤ c.bufSize) (hr : rsv < 8) (ho : opcode < 16)
    (hfit : form.fits len) :
    (headerInvalid c (s.withHeader fin rsv opcode masked len).flags len = true →
      ∀ tail, run c a s (wireHeader fin rsv opcode masked form len ++ tail) =
        ({ s.withHeader fin rsv opcode masked len with phase := .closed }, tail, handleError c closeProtocolError)) ∧
    (headerInvalid c (s.withHeader fin rsv opcode masked len).flags len = false →
      ∀ key : Option Bytes, key.isSome = masked → (∀ k, key = some k → k.length = 4) →
        (c.bufSize < len →
          ∀ rest, run c a s (wireHeader fin rsv opcode masked form len ++ key.getD [] ++ rest) =
            ({ s.withHeader fin rsv opcode masked len with key := key.getD s.key, phase := .closed }, rest,
              errorHandler c)) ∧
        (len ≤ c.bufSize →
          ∀ payload rest, payload.length = len →
            run c a s (wireHeader fin rsv opcode masked form len ++ key.getD [] ++ wirePayload key payload ++ rest) =
              thenRun c a (s.deliver c a fin rsv opcode key payload) rest)) := by
  refine ⟨fun hinv tail => ?_, fun hv key hm hk => ?_⟩
  · rw [run_header hs hbuf hr ho hfit, readMaskOrPayload_invalid hinv, thenRun_closed rfl]
  · subst hm
    have hkey : ∀ rest, run c a s (wireHeader fin rsv opcode key.isSome form len ++ key.getD [] ++ rest) =
        thenRun c a (payloadStage c a { s.withHeader fin rsv opcode key.isSome len with key := key.getD s.key }) rest := by
      intro rest
      rw [List.append_assoc, run_header hs hbuf hr ho hfit]
      cases key with
      | none => rw [readMaskOrPayload_unmasked hv rfl]; rfl
      | some k =>
        have h4 : k.length = 4 := hk k rfl
        rw [readMaskOrPayload_masked hv rfl, thenRun_nil]
        exact run_exact (chunk := k) h4.symm (List.ne_nil_of_length_eq_add_one h4) (by omega)
    refine ⟨fun hbig rest => ?_, fun hlen payload rest hl => ?_⟩
    · rw [hkey, run_payload_oversize hbig]
    · subst hl
      rw [List.append_assoc _ (wirePayload key payload), hkey]
      apply run_payload
      · exact (wirePayload_length key payload).symm
      · rwa [wirePayload_length]

/-! ## `ws_get_payload` undoes the masking -/

/-- `ws_get_payload` on a payload in wire form hands the unmasked payload to the dispatcher -/
theorem wsGetPayload_wire {c : Conf} (hw0 : 0 < c.word) (hw : c.word % 4 = 0) {f : Flags} {key : Option Bytes}
    (hm : f.mask = key.isSome) (k0 : Bytes) (a : Nat) (payload : Bytes) :
    wsGetPayload c f (key.getD k0) a (wirePayload key payload) = frameOutcome c f payload := by
  unfold wsGetPayload frameOutcome
  cases key with
  | none =>
    simp only [Option.isSome_none] at hm
    simp [hm, wirePayload]
  | some k =>
    simp only [Option.isSome_some] at hm
    simp only [hm, wirePayload, Option.getD_some, if_true, unmaskPayload_eq_xorMask c.word hw0 hw, xorMask,
      xorFrom_involutive]

theorem deliver_eq {c : Conf} (hw0 : 0 < c.word) (hw : c.word % 4 = 0) {a : Nat} {s : St} {fin : Bool}
    {rsv opcode : Nat} {key : Option Bytes} {payload : Bytes} :
    s.deliver c a fin rsv opcode key payload =
      afterPayload { s.withHeader fin rsv opcode key.isSome payload.length with key := key.getD s.key }
        (frameOutcome c (s.withHeader fin rsv opcode key.isSome payload.length).flags payload) := by
  rw [St.deliver]
  exact congrArg _ (wsGetPayload_wire hw0 hw rfl s.key a payload)

/-! ## Runs compose -/

theorem run_append (c : Conf) (a : Nat) (s : St) (x y : Bytes) :
    run c a s (x ++ y) = thenRun c a ((run c a s x).1, (run c a s x).2.2) ((run c a s x).2.1 ++ y) := by
  fun_induction run c a s x with
  | case1 s x h => simp [thenRun, seqRun, run_closed h]
  | case2 s x h hb => simp [thenRun, seqRun, run_toomuch hb, run_closed]
  | case3 s x h hb hl => simp [thenRun, seqRun]
  | case4 s x h hb hl r t ih =>
    have hl' : (x.take s.want).length = s.want := by rw [List.length_take]; omega
    rw [← List.take_append_drop s.want x, List.append_assoc,
      run_exact hl'.symm (List.ne_nil_of_length_pos (by omega)) (by omega), thenRun, ih]
    simp [thenRun, seqRun, r, t, List.append_assoc]

/-- after a run the machine is quiescent: running again on what is left does nothing -/
theorem run_idem (c : Conf) (a : Nat) (s : St) (x : Bytes) :
    run c a (run c a s x).1 (run c a s x).2.1 = ((run c a s x).1, (run c a s x).2.1, []) := by
  fun_induction run c a s x with
  | case1 s x h => simp [run_closed h]
  | case2 s x h hb => simp [run_closed]
  | case3 s x h hb hl =>
    rw [run]
    simp [h, hb, hl]
  | case4 s x h hb hl r t ih => simpa [t] using ih

theorem runChunks_eq_run (c : Conf) (a : Nat) (s : St) (pending : Bytes) (chunks : List Bytes)
    (hq : run c a s pending = (s, pending, [])) :
    runChunks c a s pending chunks = run c a s (pending ++ chunks.flatten) := by
  induction chunks generalizing s pending with
  | nil => simp [runChunks, hq]
  | cons ch chs ih =>
    simp only [runChunks, List.flatten_cons]
    rw [ih _ _ (run_idem c a s (pending ++ ch)), ← List.append_assoc, run_append c a s (pending ++ ch), thenRun, seqRun]

end Cjet.Ws
