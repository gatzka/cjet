/-
  C04 — glue between the model's lookups and the abstraction (`absGet`), the abstraction after a
  point update of the store, and the shape of responses; used by the property theorems.
-/
import Cjet.Lemmas.DaemonC04Run

namespace Cjet.Daemon.C04

open Cjet Cjet.Json Cjet.Daemon

/-! ## lookups -/

theorem WFS.paths {s : State} (h : WFS s) : ((absElems s).map (·.1)).Nodup := by
  rw [absElems_eq_imElems]
  exact (paths_iff (WFP.conns h)).2 ⟨WFP.loc h, WFP.glob h⟩

theorem absGet_eq_some_iff {s : State} (h : WFS s) {path : Bytes} {i : ElemInfo} :
    absGet s path = some i ↔ (path, i) ∈ absElems s :=
  findKey_eq_some h.paths

theorem absGet_eq_none_iff {s : State} {path : Bytes} :
    absGet s path = none ↔ ∀ i, (path, i) ∉ absElems s :=
  findKey_eq_none

theorem mem_absElems {s : State} {x : Entry} :
    x ∈ absElems s ↔ ∃ p ∈ s.peers, ∃ e ∈ p.elements, entry e = x := by
  simp only [absElems, allElems, List.mem_map, List.mem_flatMap]
  constructor
  · rintro ⟨e, ⟨p, hp, he⟩, rfl⟩; exact ⟨p, hp, e, he, rfl⟩
  · rintro ⟨p, hp, e, he, rfl⟩; exact ⟨e, ⟨p, hp, he⟩, rfl⟩

theorem WFS.elem_paths {s : State} (h : WFS s) {q : Peer} (hq : q ∈ s.peers) : (q.elements.map (·.path)).Nodup := by
  have := h.loc hq
  simp only [peerAbs, List.map_map] at this
  exact this

/-- `element_table_get` finds exactly the elements of the peers' lists -/
theorem findElement_eq_some_iff {s : State} (h : WFS s) {path : Bytes} {e : Element} :
    findElement s path = some e ↔ (∃ p ∈ s.peers, e ∈ p.elements) ∧ e.path = path := by
  constructor
  · intro hf
    obtain ⟨q, hq, he, hp⟩ := findElement_mem hf
    exact ⟨⟨q, hq, he⟩, hp⟩
  · rintro ⟨⟨q, hq, he⟩, rfl⟩
    have hidx : (e.path, q.conn) ∈ s.index :=
      (WFP.sync h e.path q.conn).2 ⟨peerAbs q, List.mem_map.2 ⟨q, hq, rfl⟩, info e, List.mem_map.2 ⟨e, he, rfl⟩⟩
    simp only [findElement, (lookupIndex_eq_some_iff h.idxNodup).2 hidx, h.findPeer hq,
      find?_of_nodup_map (·.path) (h.elem_paths hq) he]

theorem findElement_map_info {s : State} (h : WFS s) (path : Bytes) :
    (findElement s path).map info = absGet s path := by
  apply Option.ext
  intro i
  rw [Option.map_eq_some_iff, absGet_eq_some_iff h, mem_absElems]
  constructor
  · rintro ⟨e, hf, rfl⟩
    obtain ⟨⟨q, hq, he⟩, rfl⟩ := (findElement_eq_some_iff h).1 hf
    exact ⟨q, hq, e, he, rfl⟩
  · rintro ⟨q, hq, e, he, ⟨⟩⟩
    exact ⟨e, (findElement_eq_some_iff h).2 ⟨⟨q, hq, he⟩, rfl⟩, rfl⟩

theorem findElement_of_absGet {s : State} (h : WFS s) {path : Bytes} {i : ElemInfo} (hi : absGet s path = some i) :
    ∃ e, findElement s path = some e ∧ info e = i :=
  Option.map_eq_some_iff.1 ((findElement_map_info h path).trans hi)

theorem findElement_of_absGet_none {s : State} (h : WFS s) {path : Bytes} (hi : absGet s path = none) :
    findElement s path = none :=
  Option.map_eq_none_iff.1 ((findElement_map_info h path).trans hi)

/-- free in the index = free in the abstraction -/
theorem lookupIndex_isSome_iff {s : State} (h : WFS s) (path : Bytes) :
    (lookupIndex s.index path).isSome = (absGet s path).isSome := by
  cases ha : absGet s path with
  | none =>
    refine Option.isSome_eq_false_iff.2 (Option.isNone_iff_eq_none.2 (lookupIndex_eq_none.2 fun hm => ?_))
    obtain ⟨⟨_, o⟩, ho, rfl⟩ := List.mem_map.1 hm
    obtain ⟨l, hl, i, hi⟩ := (WFP.sync h _ o).1 ho
    exact absGet_eq_none_iff.1 ha i (absElems_eq_imElems s ▸ mem_imElems.2 ⟨o, l, hl, hi⟩)
  | some i =>
    rw [absGet_eq_some_iff h, absElems_eq_imElems] at ha
    obtain ⟨o, l, hl, hi⟩ := mem_imElems.1 ha
    rw [(lookupIndex_eq_some_iff h.idxNodup).2 ((WFP.sync h path o).2 ⟨l, hl, i, hi⟩)]
    rfl

/-- the requester's own list, seen through the abstraction -/
theorem own_find_some {s : State} (h : WFS s) {c : Nat} {p : Peer} (hp : findPeer s.peers c = some p)
    {path : Bytes} {e : Element} (hf : p.elements.find? (·.path == path) = some e) :
    absGet s path = some (info e) ∧ e.owner = c ∧ e.path = path := by
  have hmem := findPeer_mem hp
  have he := List.mem_of_find?_eq_some hf
  have hpath : e.path = path := beq_iff_eq.1 (List.find?_some (p := fun x : Element => x.path == path) hf)
  exact ⟨(absGet_eq_some_iff h).2 (hpath ▸ mem_absElems.2 ⟨p, hmem, e, he, rfl⟩),
    h.owner hp he, hpath⟩

theorem own_find_none {s : State} (h : WFS s) {c : Nat} {p : Peer} (hp : findPeer s.peers c = some p)
    {path : Bytes} (hf : p.elements.find? (·.path == path) = none) {i : ElemInfo}
    (hi : absGet s path = some i) : i.owner ≠ c := by
  obtain ⟨e, hfe, rfl⟩ := findElement_of_absGet h hi
  obtain ⟨o, q, _, hq, he, hpath⟩ := findElement_some hfe
  intro hown
  -- the element sits in the list of its owner, which is `p`
  have hoc : o = c := (h.owner hq he).symm.trans hown
  subst hoc
  cases hp.symm.trans hq
  exact absurd (beq_iff_eq.2 hpath) (List.find?_eq_none.1 hf e he)

/-! ## the abstraction after a point update of the store -/

theorem abs_upd {s s' : State} {c : Nat} {g} {path : Bytes} {new : Option ElemInfo} {idx' : List (Bytes × Nat)}
    (hs : WFS s) (hst : store s' = (updImage (image s.peers) c g, idx'))
    (hu : ImUpd (image s.peers) c g path new ∧ Upd path (new.map fun _ => c) s.index idx')
    (hown : ∀ i, new = some i → i.owner = c) :
    WFS s' ∧ (∀ q, absGet s' q = if q = path then new else absGet s q) ∧
    (∀ x, x ∈ absElems s' ↔ (x ∈ absElems s ∧ x.1 ≠ path) ∨ (x.1 = path ∧ some x.2 = new)) := by
  obtain ⟨him, hidx⟩ := Prod.mk.inj ((store_def s').symm.trans hst)
  have hs' : WFS s' := by
    unfold WFS
    rw [him, hidx]
    exact wfp_upd hs hu.1 hu.2 hown
  have hmem : ∀ x, x ∈ absElems s' ↔ (x ∈ absElems s ∧ x.1 ≠ path) ∨ (x.1 = path ∧ some x.2 = new) := by
    intro x
    rw [absElems_eq_imElems, absElems_eq_imElems, him]
    exact hu.1.imElems
  refine ⟨hs', fun q => ?_, hmem⟩
  by_cases hq : q = path
  · subst hq
    rw [if_pos rfl]
    cases new with
    | none =>
      rw [absGet_eq_none_iff]
      intro i hi
      rcases (hmem (q, i)).1 hi with ⟨_, h2⟩ | ⟨_, h2⟩
      · exact h2 rfl
      · cases h2
    | some i' => exact (absGet_eq_some_iff hs').2 ((hmem (q, i')).2 (Or.inr ⟨rfl, rfl⟩))
  · rw [if_neg hq]
    apply Option.ext
    intro i
    rw [absGet_eq_some_iff hs, absGet_eq_some_iff hs', hmem]
    exact ⟨fun h => h.elim And.left fun h => absurd h.1 hq, fun h => Or.inl ⟨h, hq⟩⟩

theorem entry_eq_iff {x : Entry} {path : Bytes} {i : ElemInfo} : x.1 = path ∧ some x.2 = some i ↔ x = (path, i) :=
  ⟨fun h => Prod.ext h.1 (Option.some.inj h.2), fun h => h ▸ ⟨rfl, rfl⟩⟩

theorem abs_add {s s' : State} {c : Nat} {path : Bytes} {i : ElemInfo} (hs : WFS s)
    (hst : store s' = (updImage (image s.peers) c (addG path i), s.index ++ [(path, c)]))
    (hc : c ∈ (image s.peers).map (·.1)) (hi : i.owner = c) (hfree : absGet s path = none) :
    WFS s' ∧ (∀ q, absGet s' q = if q = path then some i else absGet s q) ∧
    (∀ e, e ∈ absElems s' ↔ e ∈ absElems s ∨ e = (path, i)) := by
  have hidx : lookupIndex s.index path = none :=
    Option.not_isSome_iff_eq_none.1 (by rw [lookupIndex_isSome_iff hs, hfree]; exact Bool.false_ne_true)
  obtain ⟨hs', hget, hmem⟩ := abs_upd hs hst (imUpd_add hs i (lookupIndex_none hidx) hc) (by rintro _ ⟨⟩; exact hi)
  refine ⟨hs', hget, fun e => ?_⟩
  have hne : e ∈ absElems s → e.1 ≠ path := fun he hp => absGet_eq_none_iff.1 hfree e.2 (hp ▸ he)
  rw [hmem, entry_eq_iff, and_iff_left_of_imp hne]

theorem abs_remove {s s' : State} {c : Nat} {path : Bytes} {l : List Entry} {i : ElemInfo} (hs : WFS s)
    (hst : store s' = (updImage (image s.peers) c (removeG path), removeIndex s.index path))
    (hl : (c, l) ∈ image s.peers) (hi : (path, i) ∈ l) :
    WFS s' ∧ (∀ q, absGet s' q = if q = path then none else absGet s q) ∧
    (∀ e, e ∈ absElems s' ↔ e ∈ absElems s ∧ e.1 ≠ path) := by
  obtain ⟨hs', hget, hmem⟩ := abs_upd hs hst (imUpd_remove hs hl hi) nofun
  refine ⟨hs', hget, fun e => ?_⟩
  rw [hmem, or_iff_left fun h => nomatch h.2]

theorem abs_change {s s' : State} {c : Nat} {path : Bytes} {l : List Entry} {i : ElemInfo} {v : Json} (hs : WFS s)
    (hst : store s' = (updImage (image s.peers) c (changeG path (setValue i v)), s.index))
    (hl : (c, l) ∈ image s.peers) (hi : (path, i) ∈ l) :
    WFS s' ∧ (∀ q, absGet s' q = if q = path then some (setValue i v) else absGet s q) ∧
    (∀ e, e ∈ absElems s' ↔ (e ∈ absElems s ∧ e.1 ≠ path) ∨ e = (path, setValue i v)) := by
  obtain ⟨hs', hget, hmem⟩ := abs_upd hs hst (imUpd_change hs (setValue i v) hl hi)
    (by rintro _ ⟨⟩; exact WFP.owner hs c l hl path i hi)
  exact ⟨hs', hget, fun e => by rw [hmem, entry_eq_iff]⟩

/-! ## responses -/

/-- the last thing `x'` emitted is the response `resp` to `c` (nothing is claimed when there is none) -/
def Answered (x' : Ctx) (c : Nat) (resp : Option Json) : Prop :=
  ∀ j, resp = some j → ∃ b, x'.out.head? = some (Obs.send c j b)

theorem answered_sendResponse (y : Ctx) (c : Nat) (resp : Option Json) :
    Answered (sendResponse y c resp).1 c resp := by
  intro j hj
  subst hj
  exact ⟨(send y c j).2, by simp only [sendResponse, send_out_snd, List.head?_cons]⟩

/-- a request whose id `create_common_response` can copy -/
def answerable (req : Json) : Prop :=
  (∃ s, req.getItem (k "id") = some (.str s)) ∨ (∃ n, req.getItem (k "id") = some (.num n))

theorem answerable_common {req : Json} (h : answerable req) :
    ∃ id, req.getItem (k "id") = some id ∧ commonResponse id = some [(k "id", id)] := by
  rcases h with ⟨s, hs⟩ | ⟨n, hn⟩
  · exact ⟨_, hs, rfl⟩
  · exact ⟨_, hn, rfl⟩

theorem errorFromRequest_isSome {req : Json} (h : answerable req) (code : Int) (tag : String) (reason : Bytes) :
    ∃ j, errorFromRequest req code tag reason = some j ∧ hasError j := by
  obtain ⟨id, hid, hc⟩ := answerable_common h
  have : errorFromRequest req code tag reason = some (.obj ([(k "id", id)] ++ [(k "error", errorObject code tag reason)])) := by
    simp only [errorFromRequest, hid, errorResponse, hc, Option.map_some]
  exact ⟨_, this, error_has_error this⟩

theorem successFromRequest_isSome {req : Json} (h : answerable req) :
    ∃ j, successFromRequest req = some j ∧ j.getItem (k "error") = none := by
  obtain ⟨id, hid, hc⟩ := answerable_common h
  have : successFromRequest req = some (.obj ([(k "id", id)] ++ [(k "result", .bool true)])) := by
    simp only [successFromRequest, resultFromRequest, hid, resultResponse, hc, Option.map_some]
  exact ⟨_, this, success_has_no_error this⟩

theorem error_ne_success {req : Json} (h : answerable req) (code : Int) (tag : String) (reason : Bytes) :
    errorFromRequest req code tag reason ≠ successFromRequest req := by
  obtain ⟨je, hje, herr⟩ := errorFromRequest_isSome h code tag reason
  intro he
  rw [hasError, success_has_no_error (he ▸ hje)] at herr
  cases herr

/-- refusal: the whole state is as before and nothing but the response to `c` was emitted -/
def Refused (x : Ctx) (c : Nat) (resp : Option Json) (x' : Ctx) : Prop :=
  x'.st = x.st ∧
  x'.out = (match resp with | some j => [Obs.send c j (send x c j).2] | none => []) ++ x.out

theorem refused_sendResponse (x : Ctx) (c : Nat) (resp : Option Json) :
    Refused x c resp (sendResponse x c resp).1 := ⟨sendResponse_st x c resp, sendResponse_out x c resp⟩

theorem Refused.answered {x x' : Ctx} {c : Nat} {resp : Option Json} (h : Refused x c resp x') :
    Answered x' c resp := by
  rintro j rfl
  exact ⟨_, by rw [h.2]; rfl⟩

theorem refused_of_handler {cfg : Config} {x : Ctx} {c : Nat} {p : Peer} {req : Json} {m : Bytes} {r : Option Json}
    (hp : findPeer x.st.peers c = some p) (hm : req.getItem (k "method") = some (.str m))
    (h : handleMethod cfg x p req m = (x, r)) : Refused x c r (parseJsonRpc cfg x c req).1 := by
  rw [parseJsonRpc_method hp hm, h]
  exact refused_sendResponse x c r

theorem answered_of_handler (cfg : Config) {x : Ctx} {c : Nat} {p : Peer} {req : Json} {m : Bytes}
    (hp : findPeer x.st.peers c = some p) (hm : req.getItem (k "method") = some (.str m)) :
    Answered (parseJsonRpc cfg x c req).1 c (handleMethod cfg x p req m).2 ∧
    (parseJsonRpc cfg x c req).1.st = (handleMethod cfg x p req m).1.st := by
  rw [parseJsonRpc_method hp hm]
  exact ⟨answered_sendResponse _ _ _, sendResponse_st ..⟩

theorem not_success_of_answered_error {x' : Ctx} {c : Nat} {req : Json} (hid : answerable req) {code : Int}
    {tag : String} {reason : Bytes} (h : Answered x' c (errorFromRequest req code tag reason)) :
    ¬ ∃ j b, successFromRequest req = some j ∧ x'.out.head? = some (Obs.send c j b) := by
  rintro ⟨j, b, hj, hhead⟩
  obtain ⟨je, hje, _⟩ := errorFromRequest_isSome hid code tag reason
  obtain ⟨b', hb'⟩ := h je hje
  rw [hhead] at hb'
  cases hb'
  exact error_ne_success hid code tag reason (hje.trans hj.symm)

end Cjet.Daemon.C04
