import Cjet.Hoptable.Spec

/-! Helper lemmas for C17: modular arithmetic with a symbolic table size, slot read/write, single-bit
updates of a hop bitmap and the lookup loop; then the consequences of `WF`, and how `WF` / `Maps` /
`NoStale` change when one entry is taken out of a table and one is put in (`WF.exchange`):
overwriting a value, inserting, moving and removing an entry are its four cases. -/

set_option linter.unusedSectionVars false

namespace Cjet.Hoptable

/-! ### arithmetic modulo a symbolic `N` -/

theorem subWrap_lt {N a b : Nat} (hN : 0 < N) : subWrap N a b < N := Nat.mod_lt _ hN

theorem add_subWrap {N a p : Nat} (ha : a < N) (hp : p < N) : (a + subWrap N p a) % N = p := by
  unfold subWrap
  rw [Nat.add_mod_mod, Nat.mod_eq_of_lt ha, Nat.add_left_comm, Nat.add_sub_cancel' (Nat.le_of_lt ha),
    Nat.add_mod_right, Nat.mod_eq_of_lt hp]

/-- `subWrap` undoes a step forward: `(h + fd) - cd = h + (fd - cd)` when `cd ≤ fd`. -/
theorem subWrap_add_le {N h fd cd : Nat} (hcd : cd ≤ fd) (hcdN : cd < N) :
    subWrap N ((h + fd) % N) cd = (h + (fd - cd)) % N := by
  unfold subWrap
  rw [Nat.mod_add_mod, Nat.mod_eq_of_lt hcdN]
  have : h + fd + (N - cd) = h + (fd - cd) + N := by omega
  rw [this, Nat.add_mod_right]

theorem subWrap_add {N a b : Nat} (ha : a < N) (hb : b < N) : subWrap N ((a + b) % N) a = b := by
  rw [Nat.add_comm a b, subWrap_add_le (Nat.le_refl a) ha, Nat.sub_self, Nat.add_zero, Nat.mod_eq_of_lt hb]

theorem add_mod_inj {N h d d' : Nat} (hh : h < N) (hd : d < N) (hd' : d' < N)
    (e : (h + d) % N = (h + d') % N) : d = d' := by
  rw [← subWrap_add hh hd, e, subWrap_add hh hd']

theorem sub_mul_mod {N q a b : Nat} (hN : 0 < N) (hb : b < N * q) : (a + N * q - b) % N = subWrap N a b := by
  obtain ⟨z, rfl⟩ : ∃ z, q = b / N + z + 1 :=
    Nat.exists_eq_add_of_lt ((Nat.div_lt_iff_lt_mul hN).2 (Nat.mul_comm N q ▸ hb))
  have := Nat.div_add_mod b N
  have := Nat.mod_lt b hN
  have e : a + N * (b / N + z + 1) - b = a + (N - b % N) + N * z := by
    rw [Nat.mul_add, Nat.mul_add, Nat.mul_one]; omega
  rw [e, Nat.add_mul_mod_self_left, subWrap]

/-- the C computation `(uint32_t)(a - b) & (N - 1)` agrees with `subWrap` when `N` divides 2^32 -/
theorem subWrap_eq_uint32 {order a b : Nat} (ho : order ≤ 32) (_ha : a < 2 ^ order) (hb : b < 2 ^ 32) :
    ((a + 2 ^ 32 - b) % 2 ^ 32) % 2 ^ order = subWrap (2 ^ order) a b := by
  have hdvd : 2 ^ order ∣ 2 ^ 32 := Nat.pow_dvd_pow 2 ho
  rw [Nat.mod_mod_of_dvd _ hdvd]
  obtain ⟨q, hq⟩ := hdvd
  rw [hq] at hb ⊢
  exact sub_mul_mod (Nat.two_pow_pos order) hb

/-! ### reading and writing slots -/

section
variable {K V : Type} [DecidableEq K] [Inhabited V]

theorem slot_upd (t : Table K V) (i j : Nat) (s : Slot K V) :
    slot (upd t i s) j = if j = i ∧ i < t.size then s else slot t j := by
  unfold slot upd
  rw [Array.getD_eq_getD_getElem?, Array.getD_eq_getD_getElem?, Array.getElem?_setIfInBounds]
  by_cases hij : i = j
  · subst hij
    by_cases hi : i < t.size
    · simp [hi]
    · simp [hi]
  · simp [hij, Ne.symm hij]

omit [DecidableEq K] [Inhabited V] in
theorem size_upd (t : Table K V) (i : Nat) (s : Slot K V) : (upd t i s).size = t.size := by
  unfold upd; exact Array.size_setIfInBounds

theorem slot_upd_self {t : Table K V} {i : Nat} {s : Slot K V} (h : i < t.size) :
    slot (upd t i s) i = s := by
  rw [slot_upd, if_pos ⟨rfl, h⟩]

theorem slot_upd_ne {t : Table K V} {i j : Nat} {s : Slot K V} (h : i ≠ j) :
    slot (upd t i s) j = slot t j := by
  rw [slot_upd, if_neg fun e => h e.1.symm]

omit [DecidableEq K] in
theorem slot_empty (N i : Nat) : slot (empty N : Table K V) i = pristine := by
  unfold slot empty
  rw [Array.getD_eq_getD_getElem?, Array.getElem?_replicate]
  by_cases h : i < N <;> simp [h]

omit [DecidableEq K] in
theorem size_empty (N : Nat) : (empty N : Table K V).size = N := by
  unfold empty; simp

end

/-! ### single-bit updates of a bitmap -/

theorem getLsbD_oneShl (b j : Nat) : (1#W <<< b).getLsbD j = (decide (j = b) && decide (j < W)) := by
  rw [BitVec.getLsbD_shiftLeft, BitVec.getLsbD_one, Bool.eq_iff_iff]
  have : 0 < W := by decide
  simp only [Bool.and_eq_true, Bool.not_eq_true', decide_eq_true_eq, decide_eq_false_iff_not]
  omega

theorem getLsbD_setBit (x : BitVec W) {b : Nat} (hb : b < W) (j : Nat) :
    (x ||| (1#W <<< b)).getLsbD j = (x.getLsbD j || decide (j = b)) := by
  rw [BitVec.getLsbD_or, getLsbD_oneShl]
  by_cases e : j = b <;> simp [e, hb]

theorem getLsbD_clearBit (x : BitVec W) (b j : Nat) :
    (x &&& ~~~(1#W <<< b)).getLsbD j = (x.getLsbD j && !decide (j = b)) := by
  rw [BitVec.getLsbD_and, BitVec.getLsbD_not, getLsbD_oneShl]
  by_cases hw : j < W
  · simp [hw]
  · simp [BitVec.getLsbD_of_ge x j (Nat.le_of_not_lt hw)]

theorem getLsbD_lt_W (x : BitVec W) (j : Nat) (h : x.getLsbD j = true) : j < W := by
  false_or_by_contra
  rename_i hn
  rw [BitVec.getLsbD_of_ge x j (by omega)] at h
  cases h

/-! ### the lookup loop -/

section
variable {K V : Type} [DecidableEq K] [Inhabited V]

theorem scan_some {N : Nat} (hN : 0 < N) (t : Table K V) (k : K) :
    ∀ (f : Nat) (hop : BitVec W) (pos p : Nat), pos < N → scan N t k f hop pos = some p →
      ∃ d, d < f ∧ hop.getLsbD d = true ∧ (pos + d) % N = p ∧ (slot t p).key = some k := by
  intro f hop pos p hpos h
  fun_induction scan N t k f hop pos with
  | case1 | case2 => cases h
  | case3 f hop pos _ hc =>
    cases h
    simp only [Bool.and_eq_true, decide_eq_true_eq] at hc
    exact ⟨0, Nat.succ_pos f, hc.1, Nat.mod_eq_of_lt hpos, hc.2⟩
  | case4 f hop pos _ _ ih =>
    obtain ⟨d, hd, hb, hp, hk⟩ := ih (Nat.mod_lt _ hN) h
    rw [BitVec.getLsbD_ushiftRight, Nat.add_comm] at hb
    rw [Nat.mod_add_mod, Nat.add_assoc, Nat.add_comm 1 d] at hp
    exact ⟨d + 1, Nat.succ_lt_succ hd, hb, hp, hk⟩

theorem scan_none {N : Nat} (hN : 0 < N) (t : Table K V) (k : K) :
    ∀ (f : Nat) (hop : BitVec W) (pos : Nat), pos < N → scan N t k f hop pos = none →
      (∀ d, f ≤ d → hop.getLsbD d = false) →
      ∀ d, hop.getLsbD d = true → (slot t ((pos + d) % N)).key ≠ some k := by
  intro f hop pos hpos h hz d hd
  fun_induction scan N t k f hop pos generalizing d with
  | case1 => rw [hz d (Nat.zero_le d)] at hd; cases hd
  | case2 => simp at hd
  | case3 => cases h
  | case4 f hop pos _ hc ih =>
    cases d with
    | zero =>
      rw [Nat.add_zero, Nat.mod_eq_of_lt hpos]
      exact fun hk => hc (by simp [hd, hk])
    | succ d =>
      have := ih (Nat.mod_lt _ hN) h
        (fun d hfd => by rw [BitVec.getLsbD_ushiftRight]; exact hz (1 + d) (by omega)) d
        (by rw [BitVec.getLsbD_ushiftRight, Nat.add_comm]; exact hd)
      rwa [Nat.mod_add_mod, Nat.add_assoc, Nat.add_comm 1 d] at this

end

/-! ### consequences of `WF` -/

section
variable {K V : Type} [DecidableEq K] [Inhabited V]
variable {N : Nat} {hash : K → Nat} {t t' : Table K V}

theorem WF.ptr_inj (wf : WF N hash t) {h d h' d' : Nat}
    (hh : h < N) (hd : d < W) (hb : Bit t h d) (hh' : h' < N) (hd' : d' < W) (hb' : Bit t h' d')
    (e : (h + d) % N = (h' + d') % N) : h = h' ∧ d = d' := by
  obtain ⟨hdN, k, hk, hhk⟩ := wf.bits h hh d hd hb
  obtain ⟨hdN', k', hk', hhk'⟩ := wf.bits h' hh' d' hd' hb'
  rw [e, hk'] at hk
  injection hk with hk
  subst hk
  have : h = h' := by rw [← hhk, ← hhk']
  subst this
  exact ⟨rfl, add_mod_inj hh hdN hdN' e⟩

theorem WF.live_key (wf : WF N hash t) {p : Nat} (hl : Live N t p) :
    ∃ k, (slot t p).key = some k := by
  obtain ⟨h, hh, d, hd, hb, hp⟩ := hl
  obtain ⟨_, k, hk, _⟩ := wf.bits h hh d hd hb
  exact ⟨k, hp ▸ hk⟩

theorem WF.not_live_of_none (wf : WF N hash t) {p : Nat} (hk : (slot t p).key = none) :
    ¬ Live N t p := by
  intro hl
  obtain ⟨k, hk'⟩ := wf.live_key hl
  rw [hk] at hk'; cases hk'

theorem live_lt (hN : 0 < N) {p : Nat} (hl : Live N t p) : p < N := by
  obtain ⟨h, _, d, _, _, hp⟩ := hl
  rw [← hp]; exact Nat.mod_lt _ hN

/-- a mapping is always found through the bitmap of the key's home bucket -/
theorem WF.maps_home (wf : WF N hash t) {k : K} {v : V} (m : Maps N t k v) :
    hash k < N ∧ ∃ d, d < W ∧ Bit t (hash k) d ∧
      (slot t ((hash k + d) % N)).key = some k ∧ (slot t ((hash k + d) % N)).val = v := by
  obtain ⟨h, hh, d, hd, hb, hk, hv⟩ := m
  obtain ⟨_, k', hk', hhk⟩ := wf.bits h hh d hd hb
  rw [hk] at hk'
  injection hk' with hk'
  subst hk'
  rw [hhk]
  exact ⟨hh, d, hd, hb, hk, hv⟩

theorem WF.maps_fun (wf : WF N hash t) {k : K} {v v' : V} (m : Maps N t k v) (m' : Maps N t k v') :
    v = v' := by
  obtain ⟨h, hh, d, hd, hb, hk, hv⟩ := m
  obtain ⟨h', hh', d', hd', hb', hk', hv'⟩ := m'
  have := wf.unique _ _ k ⟨h, hh, d, hd, hb, rfl⟩ ⟨h', hh', d', hd', hb', rfl⟩ hk hk'
  rw [← hv, ← hv', this]

/-- a live slot holding key `k` witnesses `Maps` -/
theorem maps_of_live {p : Nat} {k : K} (hl : Live N t p) (hk : (slot t p).key = some k) :
    Maps N t k (slot t p).val := by
  obtain ⟨h, hh, d, hd, hb, hp⟩ := hl
  exact ⟨h, hh, d, hd, hb, hp ▸ hk, hp ▸ rfl⟩

theorem maps_live {k : K} {v : V} (m : Maps N t k v) :
    ∃ p, Live N t p ∧ (slot t p).key = some k ∧ (slot t p).val = v := by
  obtain ⟨h, hh, d, hd, hb, hk, hv⟩ := m
  exact ⟨_, ⟨h, hh, d, hd, hb, rfl⟩, hk, hv⟩

/-! ### one entry out, one entry in -/

/-- Every change that `put`, `find_closer_entry` and `remove` make to a well-formed table `t`, stated
pointwise so that it does not depend on how the table is stored.  If `out`: hop bit `i` of bucket `c`,
which points to slot `hp`, is cleared (the vacated slot may hold anything).  If `ins`: hop bit `cd` of
bucket `c'` is set; it points to slot `fp`, which holds `k ↦ v` afterwards; `fp` was not live or is the
slot just vacated, and `k` was absent or is the key just taken out.  Then `t'` denotes the map of `t`
without the entry taken out and with the entry put in. -/
theorem WF.exchange (wf : WF N hash t) (hsz : t'.size = N) {out ins : Prop} {c i hp c' cd fp : Nat}
    {k : K} {v : V}
    (hout : out → c < N ∧ i < W ∧ Bit t c i ∧ (c + i) % N = hp)
    (hins : ins → c' < N ∧ cd < W ∧ cd < N ∧ (c' + cd) % N = fp ∧ hash k = c' ∧
      (slot t' fp).key = some k ∧ (slot t' fp).val = v)
    (hfree : ins → Live N t fp → out ∧ fp = hp)
    (hnew : ins → ∀ v', Maps N t k v' → out ∧ (slot t hp).key = some k)
    (hB : ∀ h d, Bit t' h d ↔ (Bit t h d ∧ ¬(out ∧ h = c ∧ d = i)) ∨ (ins ∧ h = c' ∧ d = cd))
    (hK : ∀ j, (out → j ≠ hp) → (ins → j ≠ fp) → (slot t' j).key = (slot t j).key)
    (hV : ∀ j, (out → j ≠ hp) → (ins → j ≠ fp) → (slot t' j).val = (slot t j).val) :
    WF N hash t' ∧
      (∀ q, Live N t' q ↔ (Live N t q ∧ (out → q ≠ hp)) ∨ (ins ∧ q = fp)) ∧
      (∀ k' v', Maps N t' k' v' ↔
        (ins ∧ k' = k ∧ v' = v) ∨ ((out → (slot t hp).key ≠ some k') ∧ Maps N t k' v')) ∧
      ((out → (ins → hp ≠ fp) → (slot t' hp).key = none) → NoStale N t → NoStale N t') := by
  have hlhp : out → Live N t hp := fun o => let ⟨hc, hi, hb, e⟩ := hout o; ⟨c, hc, i, hi, hb, e⟩
  -- a bit that stays does not point to the vacated slot
  have hstay : ∀ h d, h < N → d < W → Bit t h d → ¬(out ∧ h = c ∧ d = i) → out → (h + d) % N ≠ hp :=
    fun h d hh hd hb hne o e =>
      let ⟨hc, hi, hbi, ehp⟩ := hout o
      hne ⟨o, wf.ptr_inj hh hd hb hc hi hbi (e.trans ehp.symm)⟩
  have hL : ∀ q, Live N t' q ↔ (Live N t q ∧ (out → q ≠ hp)) ∨ (ins ∧ q = fp) := by
    intro q
    constructor
    · rintro ⟨h, hh, d, hd, hb, rfl⟩
      rcases (hB h d).1 hb with ⟨hb, hne⟩ | ⟨n, rfl, rfl⟩
      · exact .inl ⟨⟨h, hh, d, hd, hb, rfl⟩, hstay h d hh hd hb hne⟩
      · exact .inr ⟨n, (hins n).2.2.2.1⟩
    · rintro (⟨⟨h, hh, d, hd, hb, rfl⟩, hne⟩ | ⟨n, rfl⟩)
      · refine ⟨h, hh, d, hd, (hB h d).2 (.inl ⟨hb, ?_⟩), rfl⟩
        rintro ⟨o, rfl, rfl⟩
        exact hne o (hout o).2.2.2
      · obtain ⟨hc', hcd, _, hfp, _⟩ := hins n
        exact ⟨c', hc', cd, hcd, (hB c' cd).2 (.inr ⟨n, rfl, rfl⟩), hfp⟩
  -- a live slot other than the vacated one is not the one filled, so it keeps what it holds
  have hkeep : ∀ q, Live N t q → (out → q ≠ hp) →
      (slot t' q).key = (slot t q).key ∧ (slot t' q).val = (slot t q).val := fun q hq hne =>
    have : ins → q ≠ fp := fun n e => hne (hfree n (e ▸ hq)).1 (e.trans (hfree n (e ▸ hq)).2)
    ⟨hK q hne this, hV q hne this⟩
  -- and it does not hold the key put in
  have hnk : ins → ∀ q, Live N t q → (out → q ≠ hp) → (slot t q).key ≠ some k := fun n q hq hne e =>
    let ⟨o, ek⟩ := hnew n _ (maps_of_live hq e)
    hne o (wf.unique q hp k hq (hlhp o) e ek)
  refine ⟨⟨hsz, ?_, ?_⟩, hL, ?_, ?_⟩
  · intro h hh d hd hb
    rcases (hB h d).1 hb with ⟨hb, hne⟩ | ⟨n, rfl, rfl⟩
    · rw [(hkeep _ ⟨h, hh, d, hd, hb, rfl⟩ (hstay h d hh hd hb hne)).1]
      exact wf.bits h hh d hd hb
    · obtain ⟨_, _, hcdN, hfp, hhash, hk, _⟩ := hins n
      rw [hfp, hk]
      exact ⟨hcdN, k, rfl, hhash⟩
  · intro a b k' ha hb hka hkb
    rcases (hL a).1 ha with ⟨ha, hna⟩ | ⟨n, rfl⟩ <;> rcases (hL b).1 hb with ⟨hb, hnb⟩ | ⟨n', rfl⟩
    · rw [(hkeep a ha hna).1] at hka
      rw [(hkeep b hb hnb).1] at hkb
      exact wf.unique a b k' ha hb hka hkb
    · rw [(hkeep a ha hna).1] at hka
      rw [(hins n').2.2.2.2.2.1] at hkb
      exact absurd (hkb ▸ hka) (hnk n' a ha hna)
    · rw [(hkeep b hb hnb).1] at hkb
      rw [(hins n).2.2.2.2.2.1] at hka
      exact absurd (hka ▸ hkb) (hnk n b hb hnb)
    · rfl
  · intro k' v'
    constructor
    · intro m
      obtain ⟨q, hlq, hkq, hvq⟩ := maps_live m
      rcases (hL q).1 hlq with ⟨hlq, hne⟩ | ⟨n, rfl⟩
      · rw [(hkeep q hlq hne).1] at hkq
        rw [(hkeep q hlq hne).2] at hvq
        exact .inr ⟨fun o e => hne o (wf.unique q hp k' hlq (hlhp o) hkq e), hvq ▸ maps_of_live hlq hkq⟩
      · obtain ⟨_, _, _, _, _, hk, hv⟩ := hins n
        exact .inl ⟨n, Option.some.inj (hkq.symm.trans hk), hvq.symm.trans hv⟩
    · rintro (⟨n, rfl, rfl⟩ | ⟨hne, m⟩)
      · obtain ⟨_, _, _, _, _, hk, hv⟩ := hins n
        exact hv ▸ maps_of_live ((hL fp).2 (.inr ⟨n, rfl⟩)) hk
      · obtain ⟨q, hlq, hkq, hvq⟩ := maps_live m
        have hq : out → q ≠ hp := fun o e => hne o (e ▸ hkq)
        have := maps_of_live ((hL q).2 (.inl ⟨hlq, hq⟩)) ((hkeep q hlq hq).1.trans hkq)
        rwa [(hkeep q hlq hq).2, hvq] at this
  · intro hvac ns q hq hkq
    by_cases n : ins ∧ q = fp
    · exact (hL q).2 (.inr n)
    · by_cases o : out ∧ q = hp
      · exact absurd (o.2 ▸ hvac o.1 fun n' e => n ⟨n', o.2.trans e⟩) hkq
      · rw [hK q (fun o' e => o ⟨o', e⟩) (fun n' e => n ⟨n', e⟩)] at hkq
        exact (hL q).2 (.inl ⟨ns q hq hkq, fun o' e => o ⟨o', e⟩⟩)

end
end Cjet.Hoptable
