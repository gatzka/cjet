/-
  C01 — what one piece of work guarantees (`StepOK`); the quiet pieces: everything that neither
  touches connections, groups, elements, fetches nor emits a notification (routing, timers,
  config, passwd, responses); what a request handler guarantees (`HOK`), handler by handler,
  then `handleMethod` and `parseJsonRpc`.
-/
import Cjet.Lemmas.DaemonC01Fetches
import Cjet.Lemmas.DaemonC03SetCall

namespace Cjet.Daemon.C01

open Cjet Cjet.Json Cjet.Daemon

/-! ## the guarantee of one piece of work -/

structure StepOK (cfg : Config) (s s' : State) (ns : List (Nat × Notif)) : Prop where
  inv : Inv cfg s'
  uidMono : s.nextUid ≤ s'.nextUid
  /-- a fetch that appears was installed now: fresh uid, and its id was not in use -/
  fresh : ∀ c f, HasFetch s' c f → HasFetch s c f ∨ (s.nextUid ≤ f.uid ∧ ¬ HasFid s c f.fid)
  /-- groups_stable_while_fetching -/
  stable : ∀ c pg f, Alive s c pg f → HasFetch s' c f → Alive s' c pg f
  /-- a surviving fetch: its notifications turn image(pre) into image(post), never spuriously -/
  rstep : ∀ c pg f, Alive s c pg f → Alive s' c pg f → RStep cfg s s' ns c f.fid pg f.rule
  /-- a new fetch: its notifications build image(post) from the empty replica -/
  install : ∀ c pg f, ¬ HasFetch s c f → Alive s' c pg f →
    ∃ r, replayFrom [] (pick c f.fid ns) = some r ∧ SameMap r (imageOf cfg s' pg f.rule)
  /-- a notification goes to a peer that has (had, or now has) a fetch with that id -/
  origin : ∀ cn ∈ ns, HasFid s cn.1 cn.2.fid ∨ HasFid s' cn.1 cn.2.fid

theorem TransN.stepOK {cfg : Config} {s s' : State} {ns : List (Nat × Notif)} (h : TransN cfg s s' ns) :
    StepOK cfg s s' ns :=
  ⟨h.inv, Nat.le_of_eq h.uid.symm, fun c f hf => Or.inl (h.noNew c f hf), h.stable, h.rstep,
   fun c _ f hn ha => absurd (h.noNew c f ha.hasFetch) hn, fun cn hcn => Or.inl (h.origin cn hcn)⟩

theorem FetchTrans.stepOK {cfg : Config} {s : State} {p : Peer} {f : Fetch} (inv : Inv cfg s)
    (hp : p ∈ s.peers) (huid : f.uid = s.nextUid)
    (hnew : ∀ g ∈ p.fetches, idsEqual g.fid f.fid = false) (h : FetchTrans cfg s p f) :
    StepOK cfg s (fetchState cfg s p f) (fetchNotifs cfg s p f) := by
  refine ⟨h.inv, Nat.le_succ _, ?_, ?_, ?_, ?_, ?_⟩
  · intro c g hg
    rcases h.fresh c g hg with h1 | ⟨rfl, rfl⟩
    · exact Or.inl h1
    · refine Or.inr ⟨Nat.le_of_eq huid.symm, ?_⟩
      rintro ⟨p', hp', hc', g', hg', hi⟩
      have : p' = p := findPeer_unique inv.fetches.connNodup hp' hp hc'
      subst this
      rw [hnew g' hg'] at hi
      cases hi
  · intro c pg g ha _
    exact h.keep c pg g ha
  · intro c pg g ha _
    exact h.rstep c pg g ha
  · intro c pg g hn ha
    rcases h.fresh c g ha.hasFetch with h1 | ⟨rfl, rfl⟩
    · exact absurd h1 hn
    · have := alive_unique h.inv.fetches ha h.installed
      subst this
      exact ⟨_, h.install, SameMap.refl (image_paths_nodup h.inv _ _)⟩
  · intro cn hcn
    obtain ⟨h1, h2⟩ := h.origin cn hcn
    right
    obtain ⟨p', hp', hc', _, hf'⟩ := h.installed
    refine ⟨p', hp', hc'.trans h1.symm, f, hf', ?_⟩
    rw [h2]
    exact h.inv.fetches.fidOk p' hp' f hf'

/-! ## quiet pieces -/

/-- same connections, groups, elements, fetches, index and uid counter -/
structure CoreEq (s s' : State) : Prop where
  fc : s'.peers.map fcore = s.peers.map fcore
  el : s'.peers.map (·.elements) = s.peers.map (·.elements)
  idx : s'.index = s.index
  uid : s'.nextUid = s.nextUid

theorem CoreEq.refl (s : State) : CoreEq s s := ⟨rfl, rfl, rfl, rfl⟩

theorem CoreEq.trans {s s' s'' : State} (h1 : CoreEq s s') (h2 : CoreEq s' s'') : CoreEq s s'' :=
  ⟨h2.fc.trans h1.fc, h2.el.trans h1.el, h2.idx.trans h1.idx, h2.uid.trans h1.uid⟩

/-- `x'` came from `x` by quiet work -/
structure Quiet (x x' : Ctx) : Prop where
  core : CoreEq x.st x'.st
  emits : Emits x x' []

theorem Quiet.refl (x : Ctx) : Quiet x x := ⟨CoreEq.refl _, Emits.refl x⟩

theorem Quiet.trans {x y z : Ctx} (h1 : Quiet x y) (h2 : Quiet y z) : Quiet x z :=
  ⟨h1.core.trans h2.core, by simpa using h1.emits.trans h2.emits⟩

theorem Quiet.congr {x y y' : Ctx} (h : Quiet x y) (hst : y'.st = y.st) (hout : y'.out = y.out) : Quiet x y' :=
  ⟨hst ▸ h.core, h.emits.congr rfl hout⟩

theorem Quiet.transN {cfg : Config} {x x' : Ctx} (inv : Inv cfg x.st) (h : Quiet x x') :
    TransN cfg x.st x'.st [] :=
  TransN.of_sameCore inv h.core.fc h.core.el h.core.idx h.core.uid

theorem quiet_send_resp (x : Ctx) (c : Nat) {j : Json} (h : IsResp j) : Quiet x (send x c j).1 :=
  ⟨by rw [send_st]; exact CoreEq.refl _, emits_send_resp x c h⟩

theorem quiet_emit (x : Ctx) {o : Obs} (h : notifs [o] = []) : Quiet x (emit x o) :=
  ⟨CoreEq.refl _, emits_emit x h⟩

theorem quiet_emit_closed (x : Ctx) (c : Nat) : Quiet x (emit x (.closed c)) := quiet_emit x rfl

theorem quiet_st (x : Ctx) (st : State) (hp : st.peers = x.st.peers) (hi : st.index = x.st.index)
    (hu : st.nextUid = x.st.nextUid) : Quiet x { x with st := st } :=
  ⟨⟨by rw [hp], by rw [hp], hi, hu⟩, Emits.refl x⟩

theorem quiet_mapPeers (x : Ctx) (g : Peer → Peer) (hg : ∀ q, fcore (g q) = fcore q ∧ (g q).elements = q.elements) :
    Quiet x { x with st := { x.st with peers := x.st.peers.map g } } :=
  ⟨⟨map_map_congr fcore _ g fun q => (hg q).1, map_map_congr (·.elements) _ g fun q => (hg q).2, rfl, rfl⟩,
    Emits.refl x⟩

theorem quiet_updatePeer (x : Ctx) (c : Nat) (g : Peer → Peer)
    (hg : ∀ q, fcore (g q) = fcore q ∧ (g q).elements = q.elements) :
    Quiet x { x with st := { x.st with peers := updatePeer x.st.peers c g } } :=
  quiet_mapPeers x _ fun q => by
    split
    · exact hg q
    · exact ⟨rfl, rfl⟩

theorem quiet_removeRoute (x : Ctx) (owner : Nat) (rid : Bytes) :
    Quiet x { x with st := { x.st with peers := removeRoute x.st.peers owner rid } } :=
  quiet_updatePeer x owner _ fun _ => ⟨rfl, rfl⟩

theorem quiet_sendResponse (x : Ctx) (c : Nat) (resp : Option Json) (h : ∀ j, resp = some j → IsResp j) :
    Quiet x (sendResponse x c resp).1 := by
  cases resp with
  | none => exact Quiet.refl x
  | some j => exact quiet_send_resp x c (h j rfl)

theorem quiet_clearRoute (x : Ctx) (r : Route) (leaving : Nat) : Quiet x (clearRoute x r leaving) := by
  rcases clearRoute_cases x r leaving with h | ⟨_, resp, _, _, hresp, h⟩ <;> rw [h]
  · exact quiet_emit x rfl
  · exact (quiet_emit x rfl).trans (quiet_send_resp _ _ (isResp_errorResponse hresp))

theorem quiet_clearRoutes (x : Ctx) (l : List Route) (c : Nat) : Quiet x (clearRoutes x l c) :=
  clearRoutes_induct (P := Quiet x) l c (Quiet.refl x) fun y r _ _ hy => hy.trans (quiet_clearRoute y r c)

theorem quiet_timeoutFired (x : Ctx) (t : Nat) : Quiet x (timeoutFired x t) := by
  rcases timeoutFired_cases x t with h | ⟨r, _, h | ⟨_, resp, _, hresp, h⟩⟩ <;> rw [h]
  · exact Quiet.refl x
  · exact (quiet_removeRoute x _ _).trans (quiet_emit _ rfl)
  · exact ((quiet_removeRoute x _ _).trans (quiet_send_resp _ _ (isResp_errorResponse hresp))).trans
      (quiet_emit _ rfl)

theorem quiet_routingResponse (x : Ctx) (p : Peer) (msg payload : Json) (typ : String) :
    Quiet x (routingResponse x p msg payload typ).1 := by
  rcases routingResponse_cases x p msg payload typ with h | h | ⟨rid, r, _, _, h | ⟨_, resp, _, hresp, h⟩⟩ <;>
    rw [h]
  · exact Quiet.refl x
  · exact Quiet.refl x
  · exact (quiet_removeRoute x _ _).trans (quiet_emit _ rfl)
  · exact ((quiet_removeRoute x _ _).trans (quiet_emit _ rfl)).trans
      (quiet_send_resp _ _ (isResp_resultResponse hresp))

/-! ## the guarantee of a request handler -/

/-- what a handler (a function returning the new context and the response) guarantees -/
structure HOK (cfg : Config) (x : Ctx) (req : Json) (pc : Nat) (r : Ctx × Option Json) : Prop where
  step : ∃ ns, Emits x r.1 ns ∧ StepOK cfg x.st r.1.st ns
  resp : ∀ j, r.2 = some j → IsResp j
  /-- a fetch is installed only for the requesting connection `pc`, and then the response is the
      success response -/
  succ : ∀ c f, HasFetch r.1.st c f → ¬ HasFetch x.st c f → r.2 = successFromRequest req ∧ c = pc

theorem HOK.transN {cfg : Config} {pc : Nat} {x : Ctx} {req : Json} {r : Ctx × Option Json} {ns : List (Nat × Notif)}
    (he : Emits x r.1 ns) (ht : TransN cfg x.st r.1.st ns) (hr : ∀ j, r.2 = some j → IsResp j) :
    HOK cfg x req pc r :=
  ⟨⟨ns, he, ht.stepOK⟩, hr, fun c f h1 h2 => absurd (ht.noNew c f h1) h2⟩

theorem HOK.quiet {cfg : Config} {pc : Nat} {x : Ctx} {req : Json} {r : Ctx × Option Json} (inv : Inv cfg x.st)
    (hq : Quiet x r.1) (hr : ∀ j, r.2 = some j → IsResp j) : HOK cfg x req pc r :=
  HOK.transN hq.emits (hq.transN inv) hr

theorem HOK.err {cfg : Config} {pc : Nat} {x : Ctx} {req : Json} (inv : Inv cfg x.st) (req' : Json) (code : Int)
    (tag : String) (reason : Bytes) : HOK cfg x req pc (x, errorFromRequest req' code tag reason) :=
  HOK.quiet inv (Quiet.refl x) (fun _ h => isResp_errorFromRequest h)

theorem HOK.res {cfg : Config} {pc : Nat} {x : Ctx} {req : Json} (inv : Inv cfg x.st) (req' result : Json) :
    HOK cfg x req pc (x, resultFromRequest req' result) :=
  HOK.quiet inv (Quiet.refl x) (fun _ h => isResp_resultFromRequest h)

/-! ## set / call -/

theorem routeCore_quiet (cfg : Config) (x : Ctx) (p : Peer) (req : Json) (isState : Bool) (params : Json)
    (path : Bytes) (e : Element) :
    Quiet x (C03.routeCore cfg x p req isState params path e).1 ∧
      ∀ j, (C03.routeCore cfg x p req isState params path e).2 = some j → IsResp j := by
  have herr : ∀ (code : Int) (tag : String) (reason : Bytes) j,
      errorFromRequest req code tag reason = some j → IsResp j := fun _ _ _ _ h => isResp_errorFromRequest h
  have ht : Quiet x (C03.ticked x) := quiet_st x _ rfl rfl rfl
  have hd : Quiet x (C03.timed x) := quiet_st x _ rfl rfl rfl
  have hs : ∀ tns, Quiet x (C03.stored x (C03.newRoute x p req e) tns) := fun tns =>
    (hd.trans (quiet_updatePeer (C03.timed x) e.owner (fun q => { q with routes := q.routes ++ [C03.newRoute x p req e] })
      fun _ => ⟨rfl, rfl⟩)).trans (quiet_emit _ rfl)
  rcases C03.routeCore_cases cfg x p req isState params path e with
    ⟨_, _, h⟩ | ⟨_, _, h⟩ | ⟨tns, _, ⟨_, h⟩ | ⟨_, ⟨_, h⟩ | ⟨_, h⟩⟩⟩ <;> rw [h]
  · exact ⟨ht, herr _ _ _⟩
  · exact ⟨ht, herr _ _ _⟩
  · exact ⟨(hd.trans (quiet_emit _ rfl)).congr rfl rfl, herr _ _ _⟩
  · exact ⟨(hs tns).trans (quiet_send_resp _ _ (isResp_routedMessage ..)), fun _ h => by cases h⟩
  · exact ⟨(((hs tns).trans (quiet_send_resp _ _ (isResp_routedMessage ..))).trans
      (quiet_removeRoute _ _ _)).trans (quiet_emit _ rfl), herr _ _ _⟩

theorem setOrCall_ok {cfg : Config} {pc : Nat} {x : Ctx} (inv : Inv cfg x.st) (p : Peer) (req : Json) (isState : Bool) :
    HOK cfg x req pc (setOrCall cfg x p req isState) := by
  rw [C03.setOrCall_eq]
  cases h : C03.routeChecks cfg x.st p req isState with
  | error r =>
    obtain ⟨tag, reason, rfl⟩ := C03.routeChecks_error h
    exact HOK.err inv ..
  | ok a => exact HOK.quiet inv (routeCore_quiet ..).1 (routeCore_quiet ..).2

/-! ## config, info, get, passwd -/

theorem configReq_ok {cfg : Config} {pc : Nat} {x : Ctx} (inv : Inv cfg x.st) (p : Peer) (req : Json) :
    HOK cfg x req pc (configReq x p req) := by
  rcases configReq_cases x p req with ⟨_, h⟩ | h | ⟨n, h⟩ <;> rw [h]
  · exact HOK.err inv ..
  · exact HOK.res inv ..
  · exact HOK.quiet inv (quiet_updatePeer x p.conn _ fun _ => ⟨rfl, rfl⟩) (fun _ h => isResp_resultFromRequest h)

theorem infoReq_ok {cfg : Config} {pc : Nat} {x : Ctx} (inv : Inv cfg x.st) (req : Json) :
    HOK cfg x req pc (infoReq cfg x req) :=
  HOK.res inv ..

theorem getReq_ok {cfg : Config} {pc : Nat} {x : Ctx} (inv : Inv cfg x.st) (p : Peer) (req : Json) :
    HOK cfg x req pc (getReq cfg x p req) := by
  rcases getReq_cases cfg x p req with ⟨_, _, _, h⟩ | ⟨_, _, _, _, h⟩ <;> rw [h]
  · exact HOK.err inv ..
  · exact HOK.res inv ..

theorem passwdReq_ok {cfg : Config} {pc : Nat} {x : Ctx} (inv : Inv cfg x.st) (p : Peer) (req : Json) :
    HOK cfg x req pc (passwdReq x p req) := by
  rcases passwdReq_cases x p req with ⟨_, h⟩ | ⟨_, _, _, _, _, _, _, _, _, h⟩ <;> rw [h]
  · exact HOK.err inv ..
  · exact HOK.quiet inv (quiet_st x _ rfl rfl rfl) (fun _ h => isResp_resultFromRequest h)

variable {cfg : Config}

/-! ## change -/

theorem changeState_ok {pc : Nat} {x : Ctx} (inv : Inv cfg x.st) {p : Peer} (hp : p ∈ x.st.peers)
    (req : Json) : HOK cfg x req pc (changeState x p req) := by
  rcases changeState_cases x p req with ⟨_, _, h⟩ | ⟨params, path, v, e, _, _, hfe, ho, _, h⟩ <;> rw [h]
  · exact HOK.err inv ..
  · obtain ⟨q, hq, heq, rfl⟩ := findElement_mem hfe
    cases findPeer_unique inv.fetches.connNodup hp hq (ho.symm.trans (inv.elems.owner q hq e heq))
    refine HOK.transN (ns := (keys e.fetchers).filterMap (evNotif { e with value := some v } .change x.st.peers))
      ?_ ?_ (fun _ h => isResp_resultFromRequest h)
    · rw [← evNotif_updatePeer_elems]
      exact (notifyFetchers_emits { x with st := chState x.st p.conn e.path { e with value := some v } }
        { e with value := some v } .change).congr rfl rfl
    · show TransN cfg x.st (notifyFetchers _ _ "change").st _
      rw [notifyFetchers_st]
      exact trans_change inv hp heq v

/-! ## remove -/

theorem removeElementReq_ok {pc : Nat} {x : Ctx} (inv : Inv cfg x.st) {p : Peer} (hp : p ∈ x.st.peers)
    (req : Json) : HOK cfg x req pc (removeElementReq x p req) := by
  rcases removeElementReq_cases x p req with ⟨_, _, h⟩ | ⟨_, _, e, _, he, h⟩ <;> rw [h]
  · exact HOK.err inv ..
  · obtain ⟨s1, s2⟩ := removeElement_spec x e
    refine HOK.transN s2 ?_ (fun _ h => isResp_resultFromRequest h)
    show TransN cfg x.st (removeElement x e).st _
    rw [s1]
    exact trans_remove inv hp (List.mem_of_find?_eq_some he)

/-! ## add -/

theorem addCore_ok {pc : Nat} {x : Ctx} (inv : Inv cfg x.st) {p : Peer} (hp : p ∈ x.st.peers)
    (req : Json) (e : Element) (hfresh : lookupIndex x.st.index e.path = none)
    (howner : e.owner = p.conn) (hkeys : keys e.fetchers = []) :
    HOK cfg x req pc (addCore cfg x p req e) := by
  obtain ⟨h1, h2, h3, h4⟩ := findFetchersForElement_spec cfg x e
  rw [hkeys, List.append_nil] at h3
  have hfresh' : lookupIndex x.st.index (findFetchersForElement cfg x e).2.path = none := by rw [h2]; exact hfresh
  rcases addCore_cases cfg x p req e with ⟨_, h⟩ | ⟨_, h⟩ <;> rw [h]
  · -- the index refuses: subscribers get "remove"
    have s2 := notifyFetchers_emits (findFetchersForElement cfg x e).1 (findFetchersForElement cfg x e).2 .remove
    rw [h1] at s2
    refine HOK.transN (h4.trans s2) ?_ (fun _ h => isResp_errorFromRequest h)
    show TransN cfg x.st (notifyFetchers _ _ "remove").st _
    rw [notifyFetchers_st, h1]
    exact trans_addFail inv hfresh' h3
  · have htr := trans_add inv hp hfresh' (by rw [h2]; exact howner) h3
    refine HOK.transN (h4.congr rfl rfl) ?_ (fun _ h => isResp_resultFromRequest h)
    rw [h2] at htr ⊢
    exact htr

theorem addElement_ok {pc : Nat} {x : Ctx} (inv : Inv cfg x.st) {p : Peer} (hp : p ∈ x.st.peers)
    (req : Json) : HOK cfg x req pc (addElement cfg x p req) := by
  rw [addElement_eq]
  cases h : addChecks cfg x.st p req with
  | error r =>
    obtain ⟨_, _, _, rfl⟩ := addChecks_error h
    exact HOK.err inv ..
  | ok e =>
    obtain ⟨_, _, hfresh, howner, _, _, _, hf, _⟩ := addChecks_ok h
    exact addCore_ok inv hp req e hfresh howner (by rw [hf, keys_replicate_none])

/-! ## unfetch -/

theorem unfetchReq_ok {pc : Nat} {x : Ctx} (inv : Inv cfg x.st) (p : Peer) (req : Json) :
    HOK cfg x req pc (unfetchReq x p req) := by
  rcases unfetchReq_cases x p req with ⟨_, h⟩ | ⟨_, _, f, _, _, h⟩ <;> rw [h]
  · exact HOK.err inv ..
  · exact HOK.transN (Emits.refl x) (trans_unfetch inv ⟨p.conn, f.uid⟩) (fun _ h => isResp_resultFromRequest h)

/-! ## authenticate -/

theorem authenticateReq_ok {pc : Nat} {x : Ctx} (inv : Inv cfg x.st) {p : Peer} (hp : p ∈ x.st.peers)
    (req : Json) : HOK cfg x req pc (authenticateReq cfg x p req) := by
  rcases authenticateReq_cases cfg x p req with ⟨_, _, h⟩ | ⟨_, _, _, _, _, hnf, _, _, _, h⟩ <;> rw [h]
  · exact HOK.err inv ..
  · exact HOK.transN (Emits.refl x) (trans_regroup inv hp hnf _ (fun _ => rfl) (fun _ => rfl) (fun _ => rfl))
      (fun _ h => isResp_resultFromRequest h)

/-! ## fetch -/

theorem getFetchId_ok {req : Json} {b : Bool} {params fid : Json} (h : getFetchId req b = .ok params fid) :
    idsEqual fid fid = true := by
  unfold getFetchId at h
  split at h
  · cases h
  · split at h
    · cases h
    · split at h <;> first | (cases h; simp [idsEqual]) | cases h

/-- `process_fetch` once the fetch `f` is entered in the peer's list -/
theorem fetchCore_ok {x : Ctx} (inv : Inv cfg x.st) {p : Peer} (hp : p ∈ x.st.peers)
    (req : Json) (f : Fetch) (huid : f.uid = x.st.nextUid) (hok : idsEqual f.fid f.fid = true)
    (hnew : ∀ g ∈ p.fetches, idsEqual g.fid f.fid = false) :
    HOK cfg x req p.conn
      (offerAllElements cfg (withFetch x p.conn f) { p with fetches := p.fetches ++ [f] } f, successFromRequest req) := by
  have hels : (withFetch x p.conn f).st.peers.map (·.elements) = x.st.peers.map (·.elements) :=
    map_updatePeer (g := (·.elements)) (by intro; rfl) _ _
  have hconns : (withFetch x p.conn f).st.peers.map (·.conn) = x.st.peers.map (·.conn) :=
    map_updatePeer (g := (·.conn)) (by intro; rfl) _ _
  obtain ⟨o1, o2⟩ := offerAllElements_spec cfg (withFetch x p.conn f) { p with fetches := p.fetches ++ [f] } f
    (hconns ▸ inv.fetches.connNodup) (fun q hq => by
      obtain ⟨q', hq', e⟩ := exists_of_map_eq hels hq
      exact (e : q'.elements = q.elements) ▸ inv.elems.pathNodup q' hq')
  have hfinal : (offerAllElements cfg (withFetch x p.conn f) { p with fetches := p.fetches ++ [f] } f).st =
      fetchState cfg x.st p f := by
    rw [o1]
    unfold fetchState withFetch updatePeer
    simp only [List.map_map]
    congr 1
  have ft := trans_fetch inv hp huid hok hnew
  refine ⟨⟨fetchNotifs cfg x.st p f, ?_, ?_⟩, fun _ h => isResp_resultFromRequest h, fun c' g hg hng => ⟨rfl, ?_⟩⟩
  · rw [fetchNotifs, ← allElems_eq_of_map_elements hels]
    exact o2.congr rfl rfl
  · show StepOK cfg x.st (offerAllElements cfg _ _ f).st _
    rw [hfinal]
    exact ft.stepOK inv hp huid hnew
  · have hg' : HasFetch (fetchState cfg x.st p f) c' g := hfinal ▸ hg
    exact (ft.fresh c' g hg').elim (fun h => absurd h hng) And.left

theorem fetchReq_ok {x : Ctx} (inv : Inv cfg x.st) {p : Peer} (hp : p ∈ x.st.peers)
    (req : Json) : HOK cfg x req p.conn (fetchReq cfg x p req) := by
  rcases fetchReq_cases cfg x p req with ⟨_, _, _, h⟩ | ⟨params, fid, rule, hfid, _, hany, h⟩ <;> rw [h]
  · exact HOK.err inv ..
  · have hnew : ∀ g ∈ p.fetches, idsEqual g.fid fid = false := fun g hg =>
      Bool.eq_false_iff.2 fun h => by
        simpa [hany] using (List.any_eq_true (p := fun f : Fetch => idsEqual f.fid fid)).2 ⟨g, hg, h⟩
    have hfp := findPeer_updatePeer_self (ps := x.st.peers) (c := p.conn)
      (f := fun q => { q with fetches := q.fetches ++ [{ uid := x.st.nextUid, fid := fid, rule := rule }] })
      (fun _ => rfl)
    rw [findPeer_of_mem inv.fetches.connNodup hp] at hfp
    simp only [hfp, Option.map_some]
    exact fetchCore_ok inv hp req { uid := x.st.nextUid, fid := fid, rule := rule } rfl (getFetchId_ok hfid) hnew

/-! ## handleMethod, parseJsonRpc -/

theorem handleMethod_ok {x : Ctx} (inv : Inv cfg x.st) {p : Peer} (hp : p ∈ x.st.peers)
    (req : Json) (method : Bytes) : HOK cfg x req p.conn (handleMethod cfg x p req method) :=
  handleMethod_induct (P := HOK cfg x req p.conn) cfg x p req method
    (fun _ => changeState_ok inv hp req) (fun _ => setOrCall_ok inv p req _) (fun _ => setOrCall_ok inv p req _)
    (fun _ => addElement_ok inv hp req) (fun _ => removeElementReq_ok inv hp req) (fun _ => fetchReq_ok inv hp req)
    (fun _ => unfetchReq_ok inv p req) (fun _ => getReq_ok inv p req) (fun _ => configReq_ok inv p req)
    (fun _ => infoReq_ok inv req) (fun _ => authenticateReq_ok inv hp req) (fun _ => passwdReq_ok inv p req)
    (HOK.err inv ..)

/-- One JSON-RPC object: the output is `resp ++ new ++ old` (newest first) where `resp` is at most
    the one response (never a notification), sent after everything else; the work up to the response
    satisfies `StepOK`; and when a fetch was installed it was installed for the requesting
    connection and the response is exactly the success response of the request. -/
def RpcOK (cfg : Config) (x : Ctx) (c : Nat) (req : Json) (x' : Ctx) : Prop :=
  ∃ new resp : List Obs, x'.out = resp ++ new ++ x.out ∧
    StepOK cfg x.st x'.st (notifs new.reverse) ∧
    (resp = [] ∨ ∃ j b, resp = [Obs.send c j b] ∧ IsResp j) ∧
    (∀ c' f, HasFetch x'.st c' f → ¬ HasFetch x.st c' f →
      c' = c ∧ ((successFromRequest req = none ∧ resp = []) ∨
                ∃ j b, successFromRequest req = some j ∧ resp = [Obs.send c j b]))

theorem rpcOK_of_hok {x : Ctx} {c : Nat} {req : Json} {r : Ctx × Option Json}
    (h : HOK cfg x req c r) : RpcOK cfg x c req (sendResponse r.1 c r.2).1 := by
  obtain ⟨ns, ⟨new, hnew, rfl⟩, hstep⟩ := h.step
  cases hr : r.2 with
  | none =>
    refine ⟨new, [], by simpa [sendResponse_none] using hnew, hstep, Or.inl rfl, fun c' f h1 h2 => ?_⟩
    obtain ⟨h3, h4⟩ := h.succ c' f h1 h2
    exact ⟨h4, Or.inl ⟨by rw [← h3, hr], rfl⟩⟩
  | some j =>
    refine ⟨new, [Obs.send c j (r.1.sends.headD true)], ?_, ?_, Or.inr ⟨j, _, rfl, h.resp j hr⟩, fun c' f h1 h2 => ?_⟩
    · rw [sendResponse_some, send_out_eq, hnew]
      rfl
    · rw [sendResponse_st]
      exact hstep
    · rw [sendResponse_st] at h1
      obtain ⟨h3, h4⟩ := h.succ c' f h1 h2
      exact ⟨h4, Or.inr ⟨j, _, by rw [← h3, hr], rfl⟩⟩

theorem rpcOK_quiet {x x' : Ctx} {c : Nat} {req : Json} (inv : Inv cfg x.st)
    (h : Quiet x x') : RpcOK cfg x c req x' := by
  obtain ⟨new, hnew, hns⟩ := h.emits
  refine ⟨new, [], by simpa using hnew, hns ▸ (h.transN inv).stepOK, Or.inl rfl, fun c' f h1 h2 => ?_⟩
  exact absurd ((h.transN inv).noNew c' f h1) h2

theorem parseJsonRpc_ok {x : Ctx} (inv : Inv cfg x.st) (c : Nat) (req : Json) :
    RpcOK cfg x c req (parseJsonRpc cfg x c req).1 := by
  unfold parseJsonRpc
  split
  · exact rpcOK_quiet inv (Quiet.refl x)
  · next p hp =>
    split
    · next m _ => exact rpcOK_of_hok (findPeer_conn hp ▸ handleMethod_ok inv (findPeer_mem hp) req m)
    · exact rpcOK_of_hok (r := (x, _)) (HOK.err inv ..)
    · split
      · exact rpcOK_quiet inv (quiet_routingResponse ..)
      · split
        · exact rpcOK_quiet inv (quiet_routingResponse ..)
        · exact rpcOK_of_hok (r := (x, _)) (HOK.err inv ..)

end Cjet.Daemon.C01
