/-
  DaemonC08Handlers — every request handler keeps `FInv`, sends only `J`-justified values,
  answers with an "id"-first value and touches the authentication data as `AuthEff` says
  (`Good`); `fetch` offers the new subscription every element and announces and enters into
  fetcher tables only those the subscriber has access to; routed answers, timer expiry and
  `free_peer_resources` keep the invariants and send only justified values.
-/
import Cjet.Lemmas.DaemonC08Inv

namespace Cjet.Daemon.C08

open Cjet Cjet.Json Cjet.Daemon

structure Good (cfg : Config) (d : Option (Bytes × Nat)) (c : Nat) (req : Json) (x : Ctx) (r : Ctx × Option Json) : Prop where
  inv : FInv cfg r.1.st
  out : OutExt (J cfg x.st d) x r.1
  resp : ∀ j, r.2 = some j → idFirst j = true
  auth : AuthEff cfg x.st c req r.1.st

section
variable {cfg : Config} {d : Option (Bytes × Nat)} {c : Nat} {req : Json} {x y : Ctx} {p : Peer}

theorem Ok.good {r : Option Json} (h : Ok cfg x.st d x y) (hr : ∀ j, r = some j → idFirst j = true) :
    Good cfg d c req x (y, r) := ⟨h.inv, h.out, hr, Or.inl h.auth⟩

theorem Ok.err {code : Int} {tag : String} {reason : Bytes} (h : Ok cfg x.st d x y) :
    Good cfg d c req x (y, errorFromRequest req code tag reason) := h.good fun _ => idFirst_errorFromRequest

theorem Ok.succ (h : Ok cfg x.st d x y) : Good cfg d c req x (y, successFromRequest req) :=
  h.good fun _ => idFirst_successFromRequest

theorem Good.err (h : FInv cfg x.st) (code : Int) (tag : String) (reason : Bytes) :
    Good cfg d c req x (x, errorFromRequest req code tag reason) := (Ok.refl h).err

/-! ## change, remove -/

theorem changeState_good (h : FInv cfg x.st) : Good cfg d p.conn req x (changeState x p req) := by
  rcases changeState_cases x p req with ⟨_, _, e⟩ | ⟨_, path, v, e, _, _, he, _, _, heq⟩
  · rw [e]; exact Good.err h ..
  · rw [heq]
    obtain ⟨o, ho, heo, _⟩ := findElement_mem he
    have h0 : Ok cfg x.st d x x := Ok.refl h
    have hok : ElemOK cfg x.st.peers { e with value := some v } := (h0.elem ho heo).1.sub rfl fun _ => id
    refine Ok.succ (Ok.notify (h0.elements p.conn _ (fun q _ _ el hel => ?_) rfl rfl rfl)
      (hok.map (Keeps.ite p.conn (keeps_elements _))) (h0.elem ho heo).2)
    obtain ⟨el0, hel0, rfl⟩ := List.mem_map.1 hel
    split
    · exact Or.inr ⟨hok, (h0.elem ho heo).2⟩
    · exact Or.inl hel0

theorem removeElementReq_good (h : FInv cfg x.st) (hp : findPeer x.st.peers p.conn = some p) :
    Good cfg d p.conn req x (removeElementReq x p req) := by
  rcases removeElementReq_cases x p req with ⟨_, _, e⟩ | ⟨_, _, e, _, he, heq⟩
  · rw [e]; exact Good.err h ..
  · rw [heq]; exact ((Ok.refl h).removeElement (findPeer_mem hp) (List.mem_of_find?_eq_some he)).succ

/-! ## add -/

/-- path and fetch groups declared by an `add` request -/
def addDecl (cfg : Config) (req : Json) : Option (Bytes × Nat) :=
  match getParamsAndPath req with
  | .ok params path =>
    match fillAccess cfg (params.getItem (k "value")).isSome (params.getItem (k "access")) with
    | .ok (fg, _, _) => some (path, fg)
    | .error _ => none
  | .err _ => none

theorem ElemOK.offer {ps : List Peer} {z : Ctx} {e : Element} {fp : Peer} {f : Fetch} (he : ElemOK cfg ps e)
    (hfp : ∃ q, findPeer ps fp.conn = some q ∧ q.fetchGroups = fp.fetchGroups ∧ f.uid ∈ fuids q) :
    ElemOK cfg ps (offerElement cfg z e fp f).2 := by
  intro fk hfk
  rw [offerElement_snd]
  rcases offerElement_slot hfk with h | ⟨rfl, ha⟩
  · exact he fk h
  · obtain ⟨q, hq, hg, hu⟩ := hfp
    exact ⟨q, hq, hu, hg ▸ ha⟩

theorem Prov.offer {s0 : State} {z : Ctx} {e : Element} {fp : Peer} {f : Fetch} (h : Prov s0 d e) :
    Prov s0 d (offerElement cfg z e fp f).2 := by
  rw [offerElement_snd]; exact h

theorem findFetchers_ok (h : FInv cfg x.st) {e0 : Element} (he : ElemOK cfg x.st.peers e0) (hp : Prov x.st d e0) :
    Ok cfg x.st d x (findFetchersForElement cfg x e0).1 ∧ (findFetchersForElement cfg x e0).1.st = x.st ∧
      ElemOK cfg x.st.peers (findFetchersForElement cfg x e0).2 ∧ Prov x.st d (findFetchersForElement cfg x e0).2 := by
  refine findFetchersForElement_induct cfg x e0 ⟨Ok.refl h, rfl, he, hp⟩ ?_
    (Q := fun z => Ok cfg x.st d x z.1 ∧ z.1.st = x.st ∧ ElemOK cfg x.st.peers z.2 ∧ Prov x.st d z.2)
  rintro acc fp f hfp hff ⟨a1, a2, a3, a4⟩
  have hq : findPeer x.st.peers fp.conn = some fp := findPeer_of_mem h.nodup hfp
  exact ⟨a1.offer ⟨fp, a2 ▸ hq, rfl⟩ a4, (offerElement_st ..).trans a2,
    a3.offer ⟨fp, hq, rfl, List.mem_map_of_mem hff⟩, a4.offer (cfg := cfg)⟩

/-- the new element (no slot taken yet) is offered, then stored; if the table refuses, "remove"
    follows the "add"s -/
theorem addCore_good (h : FInv cfg x.st) {e0 : Element} (hd : d = some (e0.path, e0.fetchGroups)) {n : Nat}
    (hf : e0.fetchers = List.replicate n none) : Good cfg d p.conn req x (addCore cfg x p req e0) := by
  obtain ⟨z1, z2, z3, z4⟩ := findFetchers_ok h (e0 := e0) (d := d)
    (fun fk hfk => by rw [hf] at hfk; cases (List.mem_replicate.1 hfk).2) (Or.inr hd)
  rcases addCore_cases cfg x p req e0 with ⟨_, e⟩ | ⟨_, e⟩ <;> rw [e]
  · exact Ok.err ((z1.notify (z2 ▸ z3) z4).frame rfl rfl rfl)
  · refine Ok.succ (z1.elements p.conn (fun q => q.elements ++ [_]) (fun q _ _ el hel => ?_) (by rw [z2]) (by rw [z2]) rfl)
    refine (List.mem_append.1 hel).imp_right fun h1 => ?_
    rw [List.mem_singleton.1 h1]
    exact ⟨z2 ▸ z3, z4⟩

theorem addElement_good (h : FInv cfg x.st) : Good cfg (addDecl cfg req) p.conn req x (addElement cfg x p req) := by
  rw [addElement_eq]
  cases hc : addChecks cfg x.st p req with
  | error r => obtain ⟨_, _, _, rfl⟩ := addChecks_error hc; exact Good.err h ..
  | ok e0 =>
    obtain ⟨params, hpp, _, _, hv, _, hfa, hfe, _⟩ := addChecks_ok hc
    exact addCore_good h (by rw [addDecl, hpp]; simp only [← hv, hfa]) hfe

end

section
variable {cfg : Config} {d : Option (Bytes × Nat)} {req : Json} {x : Ctx} {p : Peer}

/-! ## get, config, info, passwd -/

theorem getReq_good (h : FInv cfg x.st) : Good cfg d p.conn req x (getReq cfg x p req) := by
  rcases getReq_cases cfg x p req with ⟨_, _, _, e⟩ | ⟨_, _, _, _, e⟩ <;> rw [e]
  · exact Good.err h ..
  · exact (Ok.refl h).good fun _ => idFirst_resultFromRequest

theorem configReq_good (h : FInv cfg x.st) : Good cfg d p.conn req x (configReq x p req) := by
  rcases configReq_cases x p req with ⟨_, e⟩ | e | ⟨n, e⟩ <;> rw [e]
  · exact Good.err h ..
  · exact (Ok.refl h).succ
  · exact Ok.succ ((Ok.refl h).fields (Keeps.ite p.conn (keeps_name _)) (elements_ite _ fun _ => rfl) rfl rfl rfl)

theorem infoReq_good {c : Nat} (h : FInv cfg x.st) : Good cfg d c req x (infoReq cfg x req) :=
  (Ok.refl h).good fun _ => idFirst_resultFromRequest

theorem passwdReq_good (h : FInv cfg x.st) : Good cfg d p.conn req x (passwdReq x p req) := by
  rcases passwdReq_cases x p req with ⟨_, e⟩ | ⟨_, pw, _, target, _, _, _, _, _, e⟩ <;> rw [e]
  · exact Good.err h ..
  · exact ⟨h.of_peers_eq rfl, OutExt.refl _ _, fun _ => idFirst_successFromRequest,
      Or.inr (Or.inr ⟨target.name, pw, rfl, rfl⟩)⟩

/-! ## authenticate -/

/-- a peer that has no fetch is named by no slot, so its groups may change -/
theorem FInv.of_no_fetches {s s' : State} (h : FInv cfg s) (hp : findPeer s.peers p.conn = some p) (hf : p.fetches = [])
    {f : Peer → Peer} (hc : ∀ q, (f q).conn = q.conn) (he : ∀ q, (f q).elements = q.elements)
    (hs : s'.peers = updatePeer s.peers p.conn f) : FInv cfg s' := by
  refine ⟨by rw [hs, map_updatePeer hc]; exact h.nodup, fun o' ho' e he' fk hfk => ?_⟩
  rw [hs] at ho' ⊢
  obtain ⟨o, ho, rfl⟩ := mem_updatePeer.1 ho'
  refine (h.fetchers o ho e (elements_ite p.conn he o ▸ he') fk hfk).transfer fun q hq hu => ?_
  have hne : fk.peer ≠ p.conn := by
    rintro hk
    rw [hk, hp] at hq
    cases hq
    rw [fuids, hf] at hu
    cases hu
  exact ⟨q, by rw [findPeer_updatePeer_ne hc hne, hq], hu, rfl⟩

theorem authenticateReq_good (h : FInv cfg x.st) (hp : findPeer x.st.peers p.conn = some p) :
    Good cfg d p.conn req x (authenticateReq cfg x p req) := by
  rcases authenticateReq_cases cfg x p req with ⟨_, _, e⟩ | ⟨u, pw, usr, auth, hc, hf, hu, hpw, ha, e⟩ <;> rw [e]
  · exact Good.err h ..
  · exact ⟨h.of_no_fetches hp hf (f := authUpd cfg auth u) (fun _ => rfl) (fun _ => rfl) rfl, OutExt.refl _ _, fun _ => idFirst_successFromRequest,
      Or.inr (Or.inl ⟨u, pw, usr, auth, hc, hu, hpw, ha, rfl, rfl⟩)⟩

/-! ## unfetch -/

theorem thins_dropFetch (ps : List Peer) (fk0 : FetchKey) : ∃ g, Thins ps g ∧ dropFetch ps fk0 = ps.map g := by
  refine ⟨_, thins_thinG ps (F := fun e => { e with fetchers := removeFetcher e.fetchers fk0 }) (c := fk0.peer)
    (G := fun fs => fs.filter (·.uid != fk0.uid)) (fun _ => ⟨rfl, rfl⟩) (fun e fk hfk =>
      ⟨(mem_removeFetcher hfk).1, fun hp fs hu => ?_⟩), thinG_eq ..⟩
  obtain ⟨f, hf, hfu⟩ := List.mem_map.1 hu
  refine List.mem_map.2 ⟨f, List.mem_filter.2 ⟨hf, bne_iff_ne.2 fun hk => (mem_removeFetcher hfk).2 ?_⟩, hfu⟩
  cases fk; cases fk0
  exact FetchKey.mk.injEq .. ▸ ⟨hp, hfu.symm.trans hk⟩

theorem unfetchReq_good (h : FInv cfg x.st) : Good cfg d p.conn req x (unfetchReq x p req) := by
  rcases unfetchReq_cases x p req with ⟨_, e⟩ | ⟨_, _, f, _, _, e⟩ <;> rw [e]
  · exact Good.err h ..
  · obtain ⟨g, hg, e⟩ := thins_dropFetch x.st.peers ⟨p.conn, f.uid⟩
    exact Ok.succ ((Ok.refl h).thin hg e rfl rfl)

/-! ## set / call -/

open C03 in
theorem routeCore_good (h : FInv cfg x.st) (isState : Bool) (params : Json) (path : Bytes) (e : Element) :
    Good cfg d p.conn req x (routeCore cfg x p req isState params path e) := by
  have h0 : Ok cfg x.st d x x := Ok.refl h
  have hs (tns : Nat) : Ok cfg x.st d x (send (stored x (newRoute x p req e) tns) e.owner
      (routedMessage (newRoute x p req e).rid path isState (reqValue isState params))).1 :=
    Ok.send (Ok.emit (h0.routes e.owner _ rfl rfl rfl) trivial) (idFirst_routedMessage ..)
  rcases routeCore_cases cfg x p req isState params path e with
    ⟨_, _, eq⟩ | ⟨_, _, eq⟩ | ⟨tns, _, ⟨_, eq⟩ | ⟨_, ⟨_, eq⟩ | ⟨_, eq⟩⟩⟩ <;> rw [eq]
  · exact Ok.err (h0.frame rfl rfl rfl)
  · exact Ok.err (h0.frame rfl rfl rfl)
  · exact Ok.err (Ok.frame (Ok.emit (o := .timerDestroy x.st.nextTimer) (h0.frame (y := timed x) rfl rfl rfl) trivial)
      rfl rfl rfl)
  · exact (hs tns).good nofun
  · exact Ok.err (Ok.emit ((hs tns).routes e.owner _ rfl rfl rfl) trivial)

open C03 in
theorem setOrCall_good {isState : Bool} (h : FInv cfg x.st) : Good cfg d p.conn req x (setOrCall cfg x p req isState) := by
  rw [setOrCall_eq]
  cases hc : routeChecks cfg x.st p req isState with
  | error r => obtain ⟨_, _, rfl⟩ := routeChecks_error hc; exact Good.err h ..
  | ok a => exact routeCore_good h isState a.1 a.2.1 a.2.2

end

/-! ## fetch -/

section
variable {cfg : Config} {s0 : State} {d : Option (Bytes × Nat)} {x0 x : Ctx} {fp : Peer} {f : Fetch}

def Serving (fp : Peer) (f : Fetch) (x : Ctx) : Prop :=
  ∃ q, findPeer x.st.peers fp.conn = some q ∧ q.fetchGroups = fp.fetchGroups ∧ f.uid ∈ fuids q

theorem Serving.map {g : Peer → Peer} {y : Ctx} (h : Serving fp f x) (hg : Keeps g) (hp : y.st.peers = x.st.peers.map g) :
    Serving fp f y := by
  obtain ⟨q, hq, hf, hu⟩ := h
  exact ⟨g q, by rw [hp, findPeer_map hg.conn, hq]; rfl, (hg.1 q).2.2.1.trans hf, hg.fuids_eq q ▸ hu⟩

/-- One step of `offerAllElements`.  The element offered is sound when it was read back from the
    state; when it was not found (`e0` itself is offered), nothing is written back either. -/
theorem offerStep_ok (h : Ok cfg s0 d x0 x) (hs : Serving fp f x) (oc : Nat) {e0 : Element} (he0 : Prov s0 d e0) :
    Ok cfg s0 d x0 (offerStep cfg fp f oc x e0) ∧ Serving fp f (offerStep cfg fp f oc x e0) := by
  obtain ⟨hprov, hcur⟩ : Prov s0 d (readBack x.st.peers oc e0) ∧ ∀ q ∈ x.st.peers, q.conn = oc → ∀ el ∈ q.elements,
      el.path = (readBack x.st.peers oc e0).path → ElemOK cfg x.st.peers (readBack x.st.peers oc e0) := by
    unfold readBack
    split
    · next e hrb =>
      obtain ⟨q, hq, hfind⟩ := Option.bind_eq_some_iff.1 hrb
      have he := h.elem (findPeer_mem hq) (List.mem_of_find?_eq_some hfind)
      exact ⟨he.2, fun _ _ _ _ _ _ => he.1⟩
    · next hrb =>
      refine ⟨he0, fun q hq hc el hel hp => ?_⟩
      rw [← hc, findPeer_of_mem h.inv.nodup hq] at hrb
      exact absurd (beq_iff_eq.2 hp) (List.find?_eq_none.1 hrb el hel)
  rw [offerStep_eq]
  generalize readBack x.st.peers oc e0 = e at hprov hcur
  obtain ⟨qf, hqf, hg, hu⟩ := hs
  have hz : Ok cfg s0 d x0 (offerElement cfg x e fp f).1 := h.offer ⟨qf, hqf, hg⟩ hprov
  refine ⟨hz.elements oc _ (fun q hq hc el hel => ?_) rfl rfl rfl,
    Serving.map (x := (offerElement cfg x e fp f).1) ⟨qf, by rw [offerElement_st]; exact hqf, hg, hu⟩
      (Keeps.ite oc (keeps_elements _)) rfl⟩
  obtain ⟨el0, hel0, rfl⟩ := List.mem_map.1 hel
  rw [offerElement_st] at hq ⊢
  split
  · next hpath =>
    refine Or.inr ⟨(hcur q hq hc el0 hel0 ?_).offer ⟨qf, hqf, hg, hu⟩, hprov.offer⟩
    rw [beq_iff_eq.1 hpath, offerElement_snd]
  · exact Or.inl hel0

/-- offering every element of the peers `ps`, as they were when the loop started, to the fetch -/
theorem offerAll_ok (ps : List Peer) (hps : ∀ o ∈ ps, ∀ e0 ∈ o.elements, Prov s0 d e0) (h : Ok cfg s0 d x0 x)
    (hs : Serving fp f x) :
    Ok cfg s0 d x0 (ps.foldl (fun x owner => owner.elements.foldl (offerStep cfg fp f owner.conn) x) x) :=
  (foldl_inv (fun y => Ok cfg s0 d x0 y ∧ Serving fp f y) _ ps x ⟨h, hs⟩ fun y o ho hy =>
    foldl_inv (fun y => Ok cfg s0 d x0 y ∧ Serving fp f y) _ o.elements y hy fun _ e0 he0 hz =>
      offerStep_ok hz.1 hz.2 o.conn (hps o ho e0 he0)).1

end

section
variable {cfg : Config} {d : Option (Bytes × Nat)} {req : Json} {x : Ctx} {p : Peer}

theorem thins_addFetch (ps : List Peer) (c : Nat) (f : Fetch) :
    Thins ps (fun q => if q.conn == c then { q with fetches := q.fetches ++ [f] } else q) := by
  have hel : ∀ q : Peer, ({ q with fetches := q.fetches ++ [f] } : Peer).elements = q.elements := fun _ => rfl
  refine ⟨KeepsA.ite c (keepsA_fetches _), fun o _ e he => ⟨e, elements_ite c hel o ▸ he, rfl, rfl, fun fk hfk =>
    ⟨hfk, fun q _ hu => ?_⟩⟩⟩
  split
  · exact List.mem_map.2 ((List.mem_map.1 hu).imp fun _ h' => ⟨List.mem_append_left _ h'.1, h'.2⟩)
  · exact hu

theorem fetchReq_good (h : FInv cfg x.st) (hp : findPeer x.st.peers p.conn = some p) :
    Good cfg d p.conn req x (fetchReq cfg x p req) := by
  rcases fetchReq_cases cfg x p req with ⟨_, _, _, e⟩ | ⟨_, fid, rule, _, _, _, e⟩
  · rw [e]; exact Good.err h ..
  · rw [e, offerAllElements_eq]
    generalize ({ uid := x.st.nextUid, fid := fid, rule := rule } : Fetch) = f
    -- the context with the new subscription
    generalize hy : ({ x with st := { x.st with
      nextUid := x.st.nextUid + 1,
      peers := updatePeer x.st.peers p.conn (fun q => { q with fetches := q.fetches ++ [f] }) } } : Ctx) = y
    have h1 : Ok cfg x.st d x y := (Ok.refl h).thin (thins_addFetch _ p.conn f) (by rw [← hy]; rfl) (by rw [← hy]) (by rw [← hy])
    have hc : ∀ q : Peer, ({ q with fetches := q.fetches ++ [f] } : Peer).conn = q.conn := fun _ => rfl
    have hfind : findPeer y.st.peers p.conn = some { p with fetches := p.fetches ++ [f] } := by
      rw [← hy]
      exact (findPeer_updatePeer_self hc).trans (by rw [hp]; rfl)
    rw [hfind]
    exact Ok.succ (offerAll_ok y.st.peers h1.prov h1 ⟨_, hfind, rfl, by simp [fuids]⟩)

end

section
variable {cfg : Config} {s0 : State} {d : Option (Bytes × Nat)} {x0 x : Ctx}

/-! ## routed answers and timer expiry -/

theorem routingResponse_ok {p : Peer} {msg payload : Json} {typ : String} (h : Ok cfg s0 d x0 x) :
    Ok cfg s0 d x0 (routingResponse x p msg payload typ).1 := by
  rcases routingResponse_cases x p msg payload typ with e | e | ⟨rid, r, _, _, e | ⟨_, _, _, hr, e⟩⟩ <;> rw [e]
  · exact h
  · exact h
  · exact Ok.emit (h.routes p.conn _ rfl rfl rfl) trivial
  · exact Ok.send' (Ok.emit (h.routes p.conn _ rfl rfl rfl) trivial) (idFirst_resultResponse hr)

theorem timeoutFired_ok {t : Nat} (h : Ok cfg s0 d x0 x) : Ok cfg s0 d x0 (timeoutFired x t) := by
  rcases timeoutFired_cases x t with e | ⟨r, _, e | ⟨_, _, _, hr, e⟩⟩ <;> rw [e]
  · exact h
  · exact Ok.emit (h.routes r.owner _ rfl rfl rfl) trivial
  · exact Ok.emit (Ok.send' (h.routes r.owner _ rfl rfl rfl) (idFirst_errorResponse hr)) trivial

/-! ## free_peer_resources, phase by phase -/

theorem clearRoutes_ok (h : Ok cfg s0 d x0 x) (l : List Route) (c : Nat) : Ok cfg s0 d x0 (clearRoutes x l c) := by
  refine clearRoutes_induct l c h fun y r _ _ hy => ?_
  rcases clearRoute_cases y r c with e | ⟨_, _, _, _, hr, e⟩ <;> rw [e]
  · exact hy.emit trivial
  · exact Ok.send' (hy.emit trivial) (idFirst_errorResponse hr)

def NoSlot (c : Nat) (s : State) : Prop :=
  ∀ o ∈ s.peers, ∀ e ∈ o.elements, ∀ fk, some fk ∈ e.fetchers → fk.peer ≠ c

theorem deletePeer_ok {c : Nat} (h : Ok cfg s0 d x0 x) (hns : NoSlot c x.st) : Ok cfg s0 d x0 (deletePeer x c) := by
  have hsub : ∀ o ∈ (deletePeer x c).st.peers, o ∈ x.st.peers := fun o ho => (List.mem_filter.1 ho).1
  refine ⟨h.nodup0, ⟨(h.inv.nodup.sublist (List.filter_sublist.map _) :), fun o ho e he fk hfk => ?_⟩,
    fun o ho => h.prov o (hsub o ho), h.out.congr_right rfl, h.auth.1, fun p' hp' => h.auth.2 p' (hsub p' hp')⟩
  exact (h.inv.fetchers o (hsub o ho) e he fk hfk).transfer fun q hq hu =>
    ⟨q, (findPeer_filter_ne _ (hns o (hsub o ho) e he fk hfk)).trans hq, hu, rfl⟩

theorem freeTable_ok (h : Ok cfg s0 d x0 x) (c : Nat) (p : Peer) : Ok cfg s0 d x0 (freeTable x c p) :=
  (clearRoutes_ok h p.routes c).routes c _ rfl rfl rfl

theorem freeRequests_ok (h : Ok cfg s0 d x0 x) (c : Nat) : Ok cfg s0 d x0 (freeRequests x c) :=
  (clearRoutes_ok h _ c).fields (keeps_routes fun q => q.routes.filter (·.requester != c)) (fun _ => rfl) rfl rfl rfl

theorem unsubscribe_ok (h : Ok cfg s0 d x0 x) (c : Nat) :
    Ok cfg s0 d x0 (unsubscribe x c) ∧ NoSlot c (unsubscribe x c).st := by
  have hp : (unsubscribe x c).st.peers = x.st.peers.map (thinG (freeSlots c) c fun _ => []) :=
    thinG_eq x.st.peers (freeSlots c) c fun _ => []
  refine ⟨h.thin (thins_thinG _ (F := freeSlots c) (fun _ => ⟨rfl, rfl⟩) fun e fk hfk =>
    ⟨(freeSlots_mem hfk).1, fun hc => absurd hc (freeSlots_mem hfk).2⟩) hp rfl rfl, fun o ho e he fk hfk => ?_⟩
  rw [hp] at ho
  obtain ⟨o0, _, rfl⟩ := List.mem_map.1 ho
  have he : e ∈ o0.elements.map (freeSlots c) := by unfold thinG at he; split at he <;> exact he
  obtain ⟨e0, _, rfl⟩ := List.mem_map.1 he
  exact (freeSlots_mem hfk).2

theorem removeElements_ok {c : Nat} (h : Ok cfg s0 d x0 x) (hns : NoSlot c x.st) (l : List Element) :
    Ok cfg s0 d x0 (removeElements x c l) ∧ NoSlot c (removeElements x c l).st := by
  refine removeElements_induct (P := fun y => Ok cfg s0 d x0 y ∧ NoSlot c y.st) c l ⟨h, hns⟩ ?_
  rintro y e q hq he _ ⟨hy, hns⟩
  refine ⟨hy.removeElement (findPeer_mem hq) he, fun o ho el hel => ?_⟩
  rw [removeElement_eq] at ho
  obtain ⟨o0, ho0, rfl⟩ := mem_updatePeer.1 ho
  refine hns o0 ho0 el ?_
  split at hel
  · exact (List.mem_filter.1 hel).1
  · exact hel

theorem freePeerResources_ok {c : Nat} (h : Ok cfg s0 d x0 x) : Ok cfg s0 d x0 (freePeerResources x c) := by
  cases hp : findPeer x.st.peers c with
  | none => rw [freePeerResources_none hp]; exact h
  | some p =>
    rw [freePeerResources_phases hp]
    obtain ⟨h3, n3⟩ := unsubscribe_ok (freeRequests_ok (freeTable_ok h c p) c) c
    obtain ⟨h4, n4⟩ := removeElements_ok h3 n3 p.elements
    exact deletePeer_ok h4 n4

theorem closePeer_ok {c : Nat} (h : Ok cfg s0 d x0 x) : Ok cfg s0 d x0 (closePeer x c) :=
  (freePeerResources_ok h).emit trivial

end

end Cjet.Daemon.C08
