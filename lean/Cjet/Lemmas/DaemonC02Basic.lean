/-
  C02 helper lemmas: vocabulary (responses, notifications, `outsTo`), the shape of the
  values built by response.c, and the `Frame` predicate with its closure under `send'` and the
  folds that only send notifications.
-/
import Cjet.Lemmas.DaemonCore

namespace Cjet.Daemon.C02

open Cjet Cjet.Json Cjet.Daemon

/-! ## vocabulary -/

/-- the object has a member named `key` (cJSON lookup: first match, ASCII case folded) -/
def has (j : Json) (key : String) : Bool := (j.getItem (k key)).isSome

/-- notification or (routed) request: an object with a "method" member -/
def hasMethod (j : Json) : Bool := has j "method"

/-- a response object: a "result" or an "error" member, and no "method" member -/
def isResponse (j : Json) : Bool := (has j "result" || has j "error") && !has j "method"

/-- the id a response carries -/
def respId (j : Json) : Option Json := j.getItem (k "id")

/-- a request the daemon forwards to an element's owner: "method" and "id" -/
def isRoutedReq (j : Json) : Bool := has j "method" && has j "id"

/-- a fetch notification: "method" and no "id" -/
def isNotification (j : Json) : Bool := has j "method" && !has j "id"

/-- ids that `create_common_response` can echo -/
def idOk (id : Json) : Bool := id.isString || id.isNumber

/-- the request carries a string or number id -/
def Answerable (req : Json) : Prop := ∃ id, req.getItem (k "id") = some id ∧ idOk id = true

/-- the JSON values written to connection `c`, in list order -/
def outsTo (c : Nat) : List Obs → List Json
  | [] => []
  | .send d j _ :: rest => if d = c then j :: outsTo c rest else outsTo c rest
  | _ :: rest => outsTo c rest

/-- every value sent, with its destination -/
def sendsOf : List Obs → List (Nat × Json)
  | [] => []
  | .send d j _ :: rest => (d, j) :: sendsOf rest
  | _ :: rest => sendsOf rest

theorem outsTo_append (c : Nat) (a b : List Obs) : outsTo c (a ++ b) = outsTo c a ++ outsTo c b := by
  induction a with
  | nil => rfl
  | cons o t ih =>
    cases o <;> simp [outsTo, ih]
    split <;> simp

theorem mem_outsTo {c : Nat} {j : Json} {l : List Obs} :
    j ∈ outsTo c l ↔ ∃ b, Obs.send c j b ∈ l := by
  induction l with
  | nil => simp [outsTo]
  | cons o t ih =>
    cases o with
    | send d j' b' =>
      simp only [outsTo, List.mem_cons, Obs.send.injEq, exists_or]
      by_cases hd : d = c
      · simp [hd, ih, eq_comm]
      · simp [hd, ih, Ne.symm hd]
    | _ => simp [outsTo, ih]

/-! ## the key table (the rest of it is in `DaemonCore`) -/

theorem keyEq_result_id : keyEq (k "result") (k "id") = false := Daemon.keyEq_result_id
theorem keyEq_error_id : keyEq (k "error") (k "id") = false := Daemon.keyEq_error_id
theorem keyEq_method_result : keyEq (k "method") (k "result") = false := Daemon.keyEq_method_result
theorem keyEq_method_error : keyEq (k "method") (k "error") = false := Daemon.keyEq_method_error
theorem keyEq_params_method : keyEq (k "params") (k "method") = false := Daemon.keyEq_params_method
theorem keyEq_params_result : keyEq (k "params") (k "result") = false := Daemon.keyEq_params_result
theorem keyEq_params_error : keyEq (k "params") (k "error") = false := Daemon.keyEq_params_error

/-! ## response.c: what is built -/

theorem commonResponse_eq (id : Json) : commonResponse id = if idOk id then some [(k "id", id)] else none := by
  cases id <;> rfl

theorem resultResponse_def (id result : Json) (typ : String) :
    resultResponse id result typ = if idOk id then some (.obj [(k "id", id), (k typ, result)]) else none := by
  rw [resultResponse, commonResponse_eq]
  split <;> rfl

theorem resultResponse_eq {id result : Json} {typ : String} {r : Json}
    (h : resultResponse id result typ = some r) :
    r = .obj [(k "id", id), (k typ, result)] ∧ idOk id = true := by
  rw [resultResponse_def] at h
  split at h <;> cases h
  exact ⟨rfl, ‹_›⟩

theorem errorResponse_def (id : Json) (code : Int) (tag : String) (reason : Bytes) :
    errorResponse id code tag reason =
      if idOk id then some (.obj [(k "id", id), (k "error", errorObject code tag reason)]) else none :=
  resultResponse_def ..

theorem errorResponse_eq {id : Json} {code : Int} {tag : String} {reason : Bytes} {r : Json}
    (h : errorResponse id code tag reason = some r) :
    r = .obj [(k "id", id), (k "error", errorObject code tag reason)] ∧ idOk id = true :=
  resultResponse_eq h

/-- A well-formed response for id `id`: exactly the members "id" and one of "result"/"error". -/
def WellFormed (id : Json) (j : Json) : Prop :=
  ∃ v, j = .obj [(k "id", id), (k "result", v)] ∨ j = .obj [(k "id", id), (k "error", v)]

theorem WellFormed.isResponse {id j : Json} (h : WellFormed id j) : isResponse j = true := by
  obtain ⟨v, rfl | rfl⟩ := h <;> simp [C02.isResponse, has, getItem, findItem]

theorem respId_obj (id : Json) (rest : List (Bytes × Json)) : respId (.obj ((k "id", id) :: rest)) = some id :=
  findItem_cons_of_keyEq keyEq_id_id ..

theorem WellFormed.respId {id j : Json} (h : WellFormed id j) : respId j = some id := by
  obtain ⟨v, rfl | rfl⟩ := h <;> exact respId_obj ..

theorem WellFormed.hasMethod {id j : Json} (h : WellFormed id j) : hasMethod j = false := by
  obtain ⟨v, rfl | rfl⟩ := h <;> simp [C02.hasMethod, has, getItem, findItem]

/-- exactly one of "result" / "error" -/
theorem WellFormed.one_of {id j : Json} (h : WellFormed id j) : (has j "result" != has j "error") = true := by
  obtain ⟨v, rfl | rfl⟩ := h <;> simp [has, getItem, findItem]

/-- what handlers return: nothing, or a well-formed response carrying the request's id -/
def RespFor (req : Json) (r : Option Json) : Prop :=
  r = none ∨ ∃ id j, req.getItem (k "id") = some id ∧ idOk id = true ∧ r = some j ∧ WellFormed id j

/-- the handler result is built by one of the `…FromRequest` constructors -/
def FromReq (req : Json) (r : Option Json) : Prop :=
  (∃ code tag reason, r = errorFromRequest req code tag reason) ∨ (∃ v, r = resultFromRequest req v)

theorem FromReq.error (req : Json) (code : Int) (tag : String) (reason : Bytes) :
    FromReq req (errorFromRequest req code tag reason) := Or.inl ⟨code, tag, reason, rfl⟩

theorem FromReq.result (req : Json) (v : Json) : FromReq req (resultFromRequest req v) := Or.inr ⟨v, rfl⟩

theorem FromReq.success (req : Json) : FromReq req (successFromRequest req) := Or.inr ⟨_, rfl⟩

theorem not_answerable_iff {req : Json} :
    ¬ Answerable req ↔ req.getItem (k "id") = none ∨ ∃ id, req.getItem (k "id") = some id ∧ idOk id = false := by
  unfold Answerable
  cases h : req.getItem (k "id") with
  | none => simp
  | some id => cases hi : idOk id <;> simp [hi]

theorem FromReq.cases {req : Json} {r : Option Json} (h : FromReq req r) :
    ∃ typ v, (typ = "result" ∨ typ = "error") ∧
      r = match req.getItem (k "id") with
        | some id => resultResponse id v typ
        | none => none := by
  rcases h with ⟨code, tag, reason, rfl⟩ | ⟨v, rfl⟩
  · exact ⟨_, errorObject code tag reason, .inr rfl, rfl⟩
  · exact ⟨_, v, .inl rfl, rfl⟩

theorem FromReq.respFor {req : Json} {r : Option Json} (h : FromReq req r) : RespFor req r := by
  obtain ⟨typ, v, htyp, rfl⟩ := h.cases
  cases hid : req.getItem (k "id") with
  | none => exact .inl rfl
  | some id =>
    show RespFor req (resultResponse id v typ)
    rw [resultResponse_def]
    split
    · exact .inr ⟨id, _, hid, ‹_›, rfl, v, htyp.imp (fun e => by rw [e]) (fun e => by rw [e])⟩
    · exact .inl rfl

theorem FromReq.isSome {req : Json} {r : Option Json} (h : FromReq req r) (ha : Answerable req) :
    r.isSome = true := by
  obtain ⟨typ, v, _, rfl⟩ := h.cases
  obtain ⟨id, hid, hok⟩ := ha
  rw [hid]
  show (resultResponse id v typ).isSome = true
  rw [resultResponse_def, if_pos hok]
  rfl

theorem RespFor.none_of_not_answerable {req : Json} {r : Option Json} (h : RespFor req r)
    (ha : ¬ Answerable req) : r = none := by
  rcases h with h | ⟨id, j, hid, hok, _, _⟩
  · exact h
  · exact absurd ⟨id, hid, hok⟩ ha

/-! ## the values the daemon sends that are not responses -/

theorem notification_isNotification (e : Element) (fid : Json) (event : String) :
    isNotification (notification e fid event) = true := by
  simp [isNotification, has, notification, getItem, findItem]

theorem routedMessage_isRoutedReq (rid path : Bytes) (isState : Bool) (value : Option Json) :
    isRoutedReq (routedMessage rid path isState value) = true := by
  simp [isRoutedReq, has, routedMessage, getItem, findItem]

theorem isNotification_hasMethod {j : Json} (h : isNotification j = true) : hasMethod j = true := by
  simp [isNotification, hasMethod] at *; exact h.1

theorem isRoutedReq_hasMethod {j : Json} (h : isRoutedReq j = true) : hasMethod j = true := by
  simp [isRoutedReq, hasMethod] at *; exact h.1

theorem isResponse_not_hasMethod {j : Json} (h : isResponse j = true) : hasMethod j = false := by
  simp [isResponse, hasMethod] at *; exact h.2

theorem isNotification_not_routed {j : Json} (h : isNotification j = true) : isRoutedReq j = false := by
  simp [isNotification, isRoutedReq] at *
  intro _; exact h.2

/-! ## observation predicates -/

/-- the observation is not a send, or sends a fetch notification -/
def obsNotif : Obs → Bool
  | .send _ j _ => isNotification j
  | _ => true

/-- the observation is not a send, or sends a value with a "method" member -/
def obsMethod : Obs → Bool
  | .send _ j _ => hasMethod j
  | _ => true

theorem obsNotif_obsMethod {o : Obs} (h : obsNotif o = true) : obsMethod o = true := by
  cases o <;> simp [obsNotif, obsMethod] at * ; exact isNotification_hasMethod h

theorem outsTo_all_method {c : Nat} {l : List Obs} (h : ∀ o ∈ l, obsMethod o = true) :
    ∀ j ∈ outsTo c l, hasMethod j = true := by
  intro j hj
  obtain ⟨b, hb⟩ := mem_outsTo.1 hj
  exact h _ hb

theorem filter_isResponse_of_method {l : List Json} (h : ∀ j ∈ l, hasMethod j = true) :
    l.filter isResponse = [] := by
  apply List.filter_eq_nil_iff.2
  intro j hj hr
  have h1 := h j hj
  rw [isResponse_not_hasMethod hr] at h1
  cases h1

theorem sendsOf_nil_of_no_send {l : List Obs} (h : ∀ o ∈ l, ∀ d j b, o ≠ Obs.send d j b) : sendsOf l = [] := by
  induction l with
  | nil => rfl
  | cons o t ih =>
    cases o with
    | send d j b => exact absurd rfl (h _ (List.mem_cons_self ..) d j b)
    | _ => simpa [sendsOf] using ih (fun o ho => h o (List.mem_cons_of_mem _ ho))

/-! ## route tables seen from outside -/

def routesMap (ps : List Peer) : List (Nat × List Route) := ps.map (fun p => (p.conn, p.routes))

def conns (ps : List Peer) : List Nat := ps.map (·.conn)

theorem conns_of_routesMap {ps ps' : List Peer} (h : routesMap ps' = routesMap ps) : conns ps' = conns ps := by
  have := congrArg (List.map Prod.fst) h
  simpa [routesMap, conns, List.map_map, Function.comp_def] using this

/-- `hf` holds by `rfl` for every update the model makes to anything but `routes` -/
theorem routesMap_updatePeer (ps : List Peer) (c : Nat) (f : Peer → Peer)
    (hf : ∀ q, (f q).conn = q.conn ∧ (f q).routes = q.routes := by exact fun _ => ⟨rfl, rfl⟩) :
    routesMap (updatePeer ps c f) = routesMap ps :=
  map_updatePeer (g := fun p => (p.conn, p.routes)) (fun q => by rw [(hf q).1, (hf q).2]) ps c

theorem routesMap_mapElements (ps : List Peer) (f : Element → Element) :
    routesMap (mapElements ps f) = routesMap ps := by
  simp [routesMap, mapElements, List.map_map, Function.comp_def]

theorem conns_updatePeer (ps : List Peer) (c : Nat) (f : Peer → Peer) (hf : ∀ q, (f q).conn = q.conn) :
    conns (updatePeer ps c f) = conns ps := map_updatePeer hf ps c

/-! ## OutExt / Frame: what a piece of handler code may do -/

/-- `x'` extends the output of `x` by observations satisfying `P` -/
def OutExt (P : Obs → Prop) (x x' : Ctx) : Prop := ∃ new, x'.out = new ++ x.out ∧ ∀ o ∈ new, P o

namespace OutExt

theorem refl {P : Obs → Prop} (x : Ctx) : OutExt P x x := ⟨[], rfl, by simp⟩

theorem trans {P : Obs → Prop} {x y z : Ctx} (h1 : OutExt P x y) (h2 : OutExt P y z) : OutExt P x z := by
  obtain ⟨n1, e1, p1⟩ := h1
  obtain ⟨n2, e2, p2⟩ := h2
  refine ⟨n2 ++ n1, by rw [e2, e1, List.append_assoc], ?_⟩
  intro o ho
  rcases List.mem_append.1 ho with h | h
  · exact p2 o h
  · exact p1 o h

theorem mono {P Q : Obs → Prop} {x y : Ctx} (hPQ : ∀ o, P o → Q o) (h : OutExt P x y) : OutExt Q x y := by
  obtain ⟨n, e, p⟩ := h
  exact ⟨n, e, fun o ho => hPQ o (p o ho)⟩

theorem send {P : Obs → Prop} (x : Ctx) (c : Nat) (j : Json) (h : ∀ b, P (.send c j b)) :
    OutExt P x (Daemon.send x c j).1 :=
  ⟨[_], send_out_eq x c j, by simpa using h _⟩

theorem send' {P : Obs → Prop} (x : Ctx) (c : Nat) (j : Json) (h : ∀ b, P (.send c j b)) :
    OutExt P x (Daemon.send' x c j) := OutExt.send x c j h

theorem emit {P : Obs → Prop} (x : Ctx) (o : Obs) (h : P o) : OutExt P x (Daemon.emit x o) :=
  ⟨[o], rfl, by simpa using h⟩

theorem foldl {P : Obs → Prop} {α : Type} (f : Ctx → α → Ctx) (l : List α)
    (hf : ∀ x a, a ∈ l → OutExt P x (f x a)) (x : Ctx) : OutExt P x (l.foldl f x) :=
  foldl_inv (OutExt P x) f l x (refl x) fun y a ha h => h.trans (hf y a ha)

end OutExt

/-- `x'` extends the output of `x` by observations satisfying `P` and leaves every routing table
    (and the set of peers) alone. -/
structure Frame (P : Obs → Prop) (x x' : Ctx) : Prop where
  out : OutExt P x x'
  routes : routesMap x'.st.peers = routesMap x.st.peers

namespace Frame

theorem refl {P : Obs → Prop} (x : Ctx) : Frame P x x := ⟨OutExt.refl x, rfl⟩

theorem trans {P : Obs → Prop} {x y z : Ctx} (h1 : Frame P x y) (h2 : Frame P y z) : Frame P x z :=
  ⟨h1.out.trans h2.out, h2.routes.trans h1.routes⟩

theorem send' {P : Obs → Prop} (x : Ctx) (c : Nat) (j : Json) (h : ∀ b, P (.send c j b)) :
    Frame P x (Daemon.send' x c j) :=
  ⟨.send' x c j h, by rw [send'_st]⟩

/-- replacing the state by one with the same routing tables -/
theorem setSt {P : Obs → Prop} (x : Ctx) (st : State) (h : routesMap st.peers = routesMap x.st.peers) :
    Frame P x { x with st := st } := ⟨OutExt.refl x, h⟩

end Frame

/-- the observation is not a send, or sends a fetch notification -/
abbrev IsNotif (o : Obs) : Prop := obsNotif o = true

/-! ## notifications -/

theorem Frame.notify (x : Ctx) (c : Nat) (e : Element) (fid : Json) (event : String) :
    Frame IsNotif x (Daemon.send' x c (notification e fid event)) :=
  .send' _ _ _ fun _ => notification_isNotification e fid event

theorem notifyFetchers_frame (x : Ctx) (e : Element) (event : String) :
    Frame IsNotif x (notifyFetchers x e event) :=
  notifyFetchers_induct (P := Frame IsNotif x) e event (.refl x)
    fun _ _ _ _ _ _ h => h.trans (.notify ..)

theorem offerElement_frame (cfg : Config) (x : Ctx) (e : Element) (fp : Peer) (f : Fetch) :
    Frame IsNotif x (offerElement cfg x e fp f).1 :=
  offerElement_induct (P := Frame IsNotif x) cfg e fp f (.refl x) fun _ => .notify ..

theorem findFetchersForElement_frame (cfg : Config) (x : Ctx) (e : Element) :
    Frame IsNotif x (findFetchersForElement cfg x e).1 :=
  findFetchersForElement_induct (Q := fun acc => Frame IsNotif x acc.1) cfg x e (.refl x)
    fun _ _ _ _ _ h => h.trans (offerElement_frame ..)

end Cjet.Daemon.C02
