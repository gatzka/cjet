import Cjet.Authfile
/-! Helper lemmas for `Cjet.Props.C20`. -/

namespace Cjet.Authfile

open Cjet

/-! ### case-folded name comparison -/

theorem caseEq_iff (a b : Bytes) : caseEq a b = true ↔ a.map lower = b.map lower := by
  simp [caseEq]

theorem caseEq_refl (a : Bytes) : caseEq a a = true := (caseEq_iff a a).mpr rfl

theorem caseEq_of_eq {a b : Bytes} (h : a = b) : caseEq a b = true := h ▸ caseEq_refl a

theorem caseEq_congr {a b : Bytes} (h : caseEq a b = true) (n : Bytes) : caseEq a n = caseEq b n := by
  rw [caseEq, caseEq, (caseEq_iff a b).mp h]

/-- two names that both match one entry name match each other -/
theorem caseEq_via {a b n : Bytes} (h1 : caseEq a n = true) (h2 : caseEq b n = true) : caseEq a b = true := by
  rw [caseEq_iff] at *
  rw [h1, h2]

/-! ### lookup / replacePassword -/

theorem lookup_cons (u : User) (rest : Db) (name : Bytes) :
    lookup (u :: rest) name = if caseEq name u.name then some u else lookup rest name := by
  simp only [lookup, List.find?_cons]
  cases caseEq name u.name <;> rfl

theorem lookup_congr {a b : Bytes} (h : caseEq a b = true) (db : Db) : lookup db a = lookup db b := by
  simp only [lookup, caseEq_congr h]

theorem lookup_replacePassword (db : Db) (target h name : Bytes) :
    lookup (replacePassword db target h) name =
      if caseEq name target then (lookup db target).map fun u => { u with password := .str h }
      else lookup db name := by
  induction db with
  | nil => simp [replacePassword, lookup]
  | cons v rest ih =>
    rw [replacePassword]
    by_cases hn : caseEq name target = true <;> by_cases hc : caseEq target v.name = true
    ·
      simp only [lookup_cons, if_pos hc, caseEq_congr hn, caseEq_refl, if_true, Option.map_some]
    · simp only [lookup_cons, ih, if_neg hc, caseEq_congr hn, caseEq_refl, if_true]
    · have hv : ¬ caseEq name v.name = true := fun hv => hn (caseEq_via hv hc)
      simp only [lookup_cons, if_neg hn, if_pos hc, if_neg hv]
    · simp only [lookup_cons, ih, if_neg hn, if_neg hc]

theorem isAdmin_replacePassword (db : Db) (target h name : Bytes) :
    isAdmin (replacePassword db target h) name = isAdmin db name := by
  rw [isAdmin, isAdmin, lookup_replacePassword]
  by_cases hn : caseEq name target = true
  · rw [if_pos hn, lookup_congr hn]; cases lookup db target <;> rfl
  · rw [if_neg hn]

/-- forget the password member -/
def erasePw (u : User) : User := { u with password := .absent }

theorem replacePassword_erase (db : Db) (target h : Bytes) :
    (replacePassword db target h).map erasePw = db.map erasePw := by
  induction db with
  | nil => rfl
  | cons v rest ih =>
    rw [replacePassword]
    split
    · rfl
    · rw [List.map_cons, ih]; rfl

theorem replacePassword_length (db : Db) (target h : Bytes) :
    (replacePassword db target h).length = db.length := by
  have := congrArg List.length (replacePassword_erase db target h)
  simpa using this

/-! ### precheck -/

theorem authorised_of_allowed {db : Db} {c target : Bytes} {u : User} (hl : lookup db target = some u)
    (h : (!u.readonly && (c == target || isAdmin db c)) = true) : Authorised db (some c) target := by
  simp only [Bool.and_eq_true, Bool.not_eq_eq_eq_not, Bool.not_true, Bool.or_eq_true, beq_iff_eq] at h
  exact ⟨c, u, rfl, hl, h.1, h.2⟩

theorem precheck_spec (db : Db) (caller : Option Bytes) (target : Bytes) :
    match precheck db caller target with
    | .ok (u, h) => Authorised db caller target ∧ lookup db target = some u ∧ u.password = .str h
    | .error e => e ≠ .writeFailed ∧
        (¬ Authorised db caller target → e = .notAuthenticated ∨ e = .userNotInDb ∨ e = .notAllowed) := by
  fun_cases precheck db caller target
  case case1 => exact ⟨nofun, fun _ => .inl rfl⟩
  case case2 => exact ⟨nofun, fun _ => .inr (.inl rfl)⟩
  case case3 c u hl hc hpw | case4 c u hl hc hpw => exact ⟨nofun, fun hna => absurd (authorised_of_allowed hl hc) hna⟩
  case case5 c u hl hc h hpw => exact ⟨authorised_of_allowed hl hc, hl, hpw⟩
  case case6 => exact ⟨nofun, fun _ => .inr (.inr rfl)⟩

theorem precheck_ok {db : Db} {caller : Option Bytes} {target : Bytes} {u : User} {h : Bytes}
    (hp : precheck db caller target = .ok (u, h)) :
    Authorised db caller target ∧ lookup db target = some u ∧ u.password = .str h := by
  have := precheck_spec db caller target
  rwa [hp] at this

/-! ### change_password -/

theorem changePassword_of_error {crypt : Crypt} {c : Codec} {db : Db} {fs : Fs} {caller : Option Bytes}
    {target newpw rnd : Bytes} {outs : List Outcome} {e : ErrKind} (h : precheck db caller target = .error e) :
    changePassword crypt c db fs caller target newpw rnd outs = ⟨db, [], fs, some e, none⟩ := by
  rw [changePassword, h]

theorem changePassword_cases {crypt : Crypt} {c : Codec} {db : Db} {fs : Fs} {caller : Option Bytes}
    {target newpw rnd : Bytes} {outs : List Outcome} {r : ChangeResult}
    (hr : changePassword crypt c db fs caller target newpw rnd outs = r) :
    (r.db = db ∧ r.trace = [] ∧ r.fs = fs ∧ ∃ e, r.err = some e ∧ e ≠ .writeFailed) ∨
    ∃ u stored setting e, precheck db caller target = .ok (u, stored) ∧ crypt newpw setting = some e ∧
      r.hashed = some (setting, some e) ∧ r.db = replacePassword db target e ∧
      (r.err = none ∨ r.err = some .writeFailed) := by
  subst hr
  rw [changePassword]
  have hspec := precheck_spec db caller target
  cases hp : precheck db caller target with
  | error e => rw [hp] at hspec; exact .inl ⟨rfl, rfl, rfl, e, rfl, hspec.1⟩
  | ok v =>
    obtain ⟨u, stored⟩ := v
    dsimp only
    cases deriveSetting stored rnd with
    | none => exact .inl ⟨rfl, rfl, rfl, _, rfl, nofun⟩
    | some setting =>
      dsimp only
      cases hcr : crypt newpw setting with
      | none => exact .inl ⟨rfl, rfl, rfl, _, rfl, nofun⟩
      | some e => exact .inr ⟨u, stored, setting, e, rfl, hcr, rfl, rfl, by dsimp only; split <;> simp⟩

/-! ### the file system -/

theorem pwrite_append (fs : Fs) (b : Bytes) (h : fs.off = fs.data.length) :
    (fs.pwrite b).data = fs.data ++ b ∧ (fs.pwrite b).off = (fs.pwrite b).data.length := by
  rw [Fs.pwrite]
  split
  · next hb => simp [List.isEmpty_iff.mp hb, h]
  · simp [h]

theorem lastFs_nil (fs : Fs) : lastFs fs [] = fs := rfl

theorem lastFs_cons (fs : Fs) (s : Step) (t : List Step) : lastFs fs (s :: t) = lastFs s.after t := by
  cases t with
  | nil => rfl
  | cons a l => simp [lastFs, List.getLast?_cons]

/-- a crash point at or beyond the end of the trace sees the final state -/
theorem fsAfter_beyond (t : List Step) (f0 : Fs) (n : Nat) (hn : t.length ≤ n) :
    fsAfter f0 t n = lastFs f0 t := by
  cases n with
  | zero => rw [List.eq_nil_of_length_eq_zero (Nat.le_zero.mp hn)]; rfl
  | succ n =>
    rw [fsAfter, lastFs]
    by_cases hlt : n < t.length
    · rw [List.getLast?_eq_getElem?, show t.length - 1 = n by omega]
      cases t[n]? <;> rfl
    · rw [List.getElem?_eq_none_iff.mpr (Nat.le_of_not_lt hlt)]

/-- after at least one call of a non-empty trace the state is the `after` of one of its steps -/
theorem fsAfter_mem (f0 : Fs) (t : List Step) (i : Nat) (hne : t ≠ []) :
    ∃ s ∈ t, fsAfter f0 t (i + 1) = s.after := by
  rw [fsAfter]
  cases hi : t[i]? with
  | some s => exact ⟨s, List.mem_of_getElem? hi, rfl⟩
  | none =>
    cases hl : t.getLast? with
    | none => exact absurd (List.getLast?_eq_none_iff.mp hl) hne
    | some s => exact ⟨s, List.mem_of_getLast? hl, rfl⟩

theorem writeLoop_spec (fs : Fs) (buf : Bytes) (outs : List Outcome) (hoff : fs.off = fs.data.length) :
    (∀ s ∈ (writeLoop fs buf outs).1, s.after.data <+: fs.data ++ buf) ∧
    ((writeLoop fs buf outs).2 = true → (lastFs fs (writeLoop fs buf outs).1).data = fs.data ++ buf) := by
  fun_induction writeLoop fs buf outs with
  | case1 fs buf hb | case3 fs buf o rest hb => exact ⟨nofun, fun _ => by rw [List.isEmpty_iff.mp hb]; exact (List.append_nil _).symm⟩
  | case2 fs buf hb | case5 fs buf rest hb | case6 fs buf rest hb k hk =>
    -- one complete write
    have hp := (pwrite_append fs buf hoff).1
    exact ⟨List.forall_mem_singleton.mpr (hp ▸ List.prefix_refl _), fun _ => hp⟩
  | case4 fs buf rest hb => exact ⟨List.forall_mem_singleton.mpr (List.prefix_append ..), nofun⟩
  | case7 fs buf rest hb k hk fs' r ih =>
    -- `k` bytes are appended, the rest of the loop appends `buf.drop k` behind them
    have hp := pwrite_append fs (buf.take k) hoff
    have he : fs'.data ++ buf.drop k = fs.data ++ buf := by rw [hp.1, List.append_assoc, List.take_append_drop]
    obtain ⟨ih1, ih2⟩ := ih hp.2
    rw [he] at ih1 ih2
    refine ⟨List.forall_mem_cons.mpr ⟨?_, ih1⟩, fun hok => ?_⟩
    · exact hp.1 ▸ (List.prefix_append_right_inj _).mpr (List.take_prefix ..)
    · rw [lastFs_cons]
      exact ih2 hok

/-! ### write_user_data -/

theorem writeUserData_of_trunc_err {fs : Fs} {data : Bytes} {outs : List Outcome} (h : outs.headD .ok = .err) :
    writeUserData fs data outs = ([⟨.ftruncate 0, .err, fs⟩], false) := by
  rw [writeUserData, h]

theorem writeUserData_of_trunc_ok {fs : Fs} {data : Bytes} {outs : List Outcome} (h : outs.headD .ok ≠ .err) :
    writeUserData fs data outs =
      if (outs.drop 1).headD .ok = .err then
        (⟨.ftruncate 0, .ok, ⟨[], fs.off⟩⟩ :: ⟨.lseek 0, .err, ⟨[], fs.off⟩⟩ ::
          (writeLoop ⟨[], fs.off⟩ data ((outs.drop 1).drop 1)).1, (writeLoop ⟨[], fs.off⟩ data ((outs.drop 1).drop 1)).2)
      else
        (⟨.ftruncate 0, .ok, ⟨[], fs.off⟩⟩ :: ⟨.lseek 0, .count 0, ⟨[], 0⟩⟩ ::
          (writeLoop ⟨[], 0⟩ data ((outs.drop 1).drop 1)).1, (writeLoop ⟨[], 0⟩ data ((outs.drop 1).drop 1)).2) := by
  rw [writeUserData]
  split
  · next he => exact absurd he h
  · dsimp only
    cases (outs.drop 1).headD .ok <;> rfl

/-! ### sessions -/

theorem step_names_some {crypt : Crypt} {c : Codec} {st : State} {op : Op} {i : Nat} {n : Bytes}
    (h : (step crypt c st op).names i = some n) :
    st.names i = some n ∨ ∃ pw, op = .auth i n pw ∧ (credentialsOk crypt st.db n pw).isSome = true := by
  cases op with
  | fresh j =>
    simp only [step, setName] at h
    split at h
    · cases h
    · exact .inl h
  | passwd j target newpw rnd outs => exact .inl h
  | auth j user pw =>
    simp only [step, setName] at h
    split at h
    · next hij =>
      subst hij
      rw [authenticate] at h
      cases hcr : credentialsOk crypt st.db user pw with
      | none => rw [hcr] at h; exact .inl h
      | some a => rw [hcr] at h; cases h; exact .inr ⟨pw, rfl, by rw [hcr]; rfl⟩
    · exact .inl h

theorem run_names_some (crypt : Crypt) (c : Codec) : ∀ (ops : List Op) (st : State) (i : Nat) (n : Bytes),
    (run crypt c st ops).names i = some n →
    st.names i = some n ∨ ∃ pre pw post, ops = pre ++ Op.auth i n pw :: post ∧
      (credentialsOk crypt (run crypt c st pre).db n pw).isSome = true
  | [], _, _, _, h => .inl h
  | op :: rest, st, i, n, h => by
    rcases run_names_some crypt c rest (step crypt c st op) i n h with h1 | ⟨pre, pw, post, he, hc⟩
    · rcases step_names_some h1 with h0 | ⟨pw, rfl, hc⟩
      · exact .inl h0
      · exact .inr ⟨[], pw, rest, rfl, hc⟩
    · exact .inr ⟨op :: pre, pw, post, by rw [he]; rfl, hc⟩

/-! ### salt re-derivation -/

theorem takeRnd_length (n : Nat) (rnd : Bytes) : (takeRnd n rnd).1.length = n := by
  rw [takeRnd, List.length_append, List.length_take, List.length_replicate, Nat.add_comm, Nat.sub_add_min_cancel]

theorem findMethod_mem {methods : List (Bytes × Nat × Nat)} {stored : Bytes} {m : Bytes × Nat × Nat}
    (h : findMethod methods stored = some m) : m ∈ methods := by
  unfold findMethod at h
  split at h
  · exact List.mem_of_find?_eq_some h
  · exact List.mem_of_mem_head? h

/-- the setting is the method's prefix, a salt of at most the longer of the two lengths, and `$` -/
theorem deriveSettingWith_length {methods : List (Bytes × Nat × Nat)} {alphabet stored rnd s : Bytes}
    (h : deriveSettingWith methods alphabet stored rnd = some s) :
    ∃ m ∈ methods, s.length ≤ m.1.length + max m.2.1 m.2.2 + 1 := by
  rw [deriveSettingWith] at h
  cases hm : findMethod methods stored with
  | none => rw [hm] at h; cases h
  | some m =>
    obtain ⟨pfx, minlen, maxlen⟩ := m
    rw [hm] at h
    refine ⟨_, findMethod_mem hm, ?_⟩
    dsimp only at h ⊢
    have hlen : ∀ n rnd', n ≤ max minlen maxlen →
        (pfx ++ (takeRnd n rnd').1.map (saltChar alphabet) ++ [36]).length ≤ pfx.length + max minlen maxlen + 1 :=
      fun n rnd' hn => by
        rw [List.length_append, List.length_append, List.length_map, takeRnd_length]
        exact Nat.add_le_add_right (Nat.add_le_add_left hn _) _
    split at h <;> cases h
    · refine hlen _ _ ?_
      rw [Nat.max_comm, ← Nat.sub_add_eq_max]
      exact Nat.add_le_add_right (Nat.le_of_lt_succ (Nat.mod_lt _ (Nat.succ_pos _))) _
    · exact hlen _ _ (Nat.le_max_right ..)

end Cjet.Authfile
