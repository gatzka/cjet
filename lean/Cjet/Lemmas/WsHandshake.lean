import Cjet.Ws.Handshake
/-! The upgrade decision over a whole request: `run_valid_request`; which key the digest is over: `hdrFold_secKey_last`. -/
namespace Cjet.Ws
open Cjet.Generated.Ws

variable {c : Conf} {t : Bytes} {h : Hs}

theorem Hs.run_append (c : Conf) (t : Bytes) (h : Hs) (a b : List HsEvent) :
    Hs.run c t h (a ++ b) = ((Hs.run c t (Hs.run c t h a).1 b).1, (Hs.run c t h a).2 ++ (Hs.run c t (Hs.run c t h a).1 b).2) := by
  induction a generalizing h with
  | nil => simp [Hs.run]
  | cons e es ih => simp [Hs.run, ih, List.append_assoc]

theorem step_field (hp : h.phase = .headers) (hc : h.current = .unknown) (n : Bytes) :
    Hs.step c t h (.field n) = ({ h with current := hdrKind n }, []) := by
  have e : ({ h with current := HField.unknown } : Hs) = h := by rw [← hc]
  rw [Hs.step, if_neg (not_not_intro hp), hdrKind]
  -- both sides are the same cascade over the four header names
  repeat rw [apply_ite (fun k => (({ h with current := k } : Hs), ([] : List Action)))]
  rw [e]

theorem run_hdr (hp : h.phase = .headers) (hc : h.current = .unknown) {x : Bytes × Bytes} (hx : hdrOk x) :
    Hs.run c t h [.line, .field x.1, .value x.2] = (applyHdr h x, []) := by
  have h1 : Hs.step c t h .line = ({ h with lines := h.lines + 1 }, []) := by
    simp [Hs.step, hp]
  simp only [Hs.run, h1, step_field (h := { h with lines := h.lines + 1 }) hp hc, List.nil_append, List.append_nil]
  unfold hdrOk at hx
  unfold applyHdr
  cases hk : hdrKind x.1 <;> simp only [hk] at hx ⊢ <;> simp [Hs.step, hp, hx, hc]

theorem applyHdr_phase_current (h : Hs) (x : Bytes × Bytes) :
    (applyHdr h x).phase = h.phase ∧ (applyHdr h x).current = h.current := by
  unfold applyHdr
  cases hdrKind x.1 <;> exact ⟨rfl, rfl⟩

theorem run_hdrs (hp : h.phase = .headers) (hc : h.current = .unknown) {hdrs : List (Bytes × Bytes)}
    (hall : ∀ x ∈ hdrs, hdrOk x) : Hs.run c t h (hdrEvents hdrs) = (hdrFold h hdrs, []) := by
  induction hdrs generalizing h with
  | nil => rfl
  | cons x xs ih =>
    obtain ⟨hx, hrest⟩ := List.forall_mem_cons.1 hall
    obtain ⟨i1, i2⟩ := applyHdr_phase_current h x
    have e : hdrEvents (x :: xs) = [.line, .field x.1, .value x.2] ++ hdrEvents xs := rfl
    rw [e, Hs.run_append, run_hdr hp hc hx, ih (i1.trans hp) (i2.trans hc) hrest]
    rfl

theorem hdrFold_phase (h : Hs) (hdrs : List (Bytes × Bytes)) : (hdrFold h hdrs).phase = h.phase := by
  induction hdrs generalizing h with
  | nil => rfl
  | cons x xs ih => exact (ih _).trans (applyHdr_phase_current h x).1

/-- **A valid upgrade is answered with 101 and the accept digest of the key.**  For every request for
    a target the handler is registered for, with any headers in any order and any number — provided
    every `Sec-WebSocket-Key` value has 24 bytes and every `Sec-WebSocket-Version` value is "13" —
    GET, HTTP/1.1 or later, `Upgrade`/`Connection: Upgrade` present (the parser's `upgrade` flag), and
    the sub-protocol list either absent or containing "jet": the only action is writing the 101
    response carrying `base64(sha1(key ++ GUID))` of the last key header, and the connection is upgraded. -/
theorem run_valid_request (hok : c.sendOk = true) {target path : Bytes}
    (hpre : target.isPrefixOf path = true) {hdrs : List (Bytes × Bytes)} (hall : ∀ x ∈ hdrs, hdrOk x)
    {major minor : Nat} (hver : major > 1 ∨ (major = 1 ∧ minor ≥ 1))
    (hproto : (hdrFold hsAfterRequestLine hdrs).protocolRequested = true → (hdrFold hsAfterRequestLine hdrs).found = true)
    {k : Bytes} (hk : (hdrFold hsAfterRequestLine hdrs).secKey = k) :
    Hs.run c target {} (reqEvents path hdrs httpGet major minor true) =
      ({ hdrFold hsAfterRequestLine hdrs with lines := (hdrFold hsAfterRequestLine hdrs).lines + 1, phase := .upgraded },
       [Action.write true (upgradeResponse k)]) := by
  have h1 : Hs.run c target {} [HsEvent.line, HsEvent.url false (some path)] = (hsAfterRequestLine, []) := by
    simp [Hs.run, Hs.step, hpre, hsAfterRequestLine]
  rw [reqEvents, Hs.run_append, Hs.run_append, h1, run_hdrs rfl rfl hall, ← hk]
  have hp := hdrFold_phase hsAfterRequestLine hdrs
  generalize hdrFold hsAfterRequestLine hdrs = hf at *
  have hvb : (decide (major > 1) || (decide (major = 1) && decide (minor ≥ 1))) = true := by simpa using hver
  have hpr : (hf.protocolRequested && !hf.found) = false := by simpa using hproto
  simp [Hs.run, Hs.step, show hf.phase = .headers from hp, hvb, hpr, hok, httpGet]

instance : DecidablePred hdrOk := fun x => by
  unfold hdrOk
  split <;> infer_instance

theorem applyHdr_secKey (h : Hs) (x : Bytes × Bytes) :
    (applyHdr h x).secKey = if hdrKind x.1 = .key then x.2 ++ wsGuid else h.secKey := by
  unfold applyHdr
  cases hdrKind x.1 <;> rfl

theorem hdrFold_secKey_of_no_key (h : Hs) (hdrs : List (Bytes × Bytes)) (hno : ∀ x ∈ hdrs, hdrKind x.1 ≠ .key) :
    (hdrFold h hdrs).secKey = h.secKey := by
  induction hdrs generalizing h with
  | nil => rfl
  | cons y ys ih =>
    rw [hdrFold, List.foldl_cons, ← hdrFold, ih _ (fun x hx => hno x (List.mem_cons_of_mem _ hx)), applyHdr_secKey,
      if_neg (hno y List.mem_cons_self)]

/-- the key the digest is computed from: the value of the last `Sec-WebSocket-Key` header -/
theorem hdrFold_secKey_last (h : Hs) (pre post : List (Bytes × Bytes)) (n v : Bytes) (hk : hdrKind n = .key)
    (hpost : ∀ x ∈ post, hdrKind x.1 ≠ .key) :
    (hdrFold h (pre ++ (n, v) :: post)).secKey = v ++ wsGuid := by
  rw [hdrFold, List.foldl_append, List.foldl_cons, ← hdrFold, hdrFold_secKey_of_no_key _ post hpost, applyHdr_secKey,
    if_pos hk]

end Cjet.Ws
