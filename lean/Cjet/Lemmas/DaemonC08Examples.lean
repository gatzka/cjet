/-
  DaemonC08Examples — one concrete reachable scenario and Boolean checkers used by the
  non-vacuity examples of `Cjet.Props.C08` (JSON values have no decidable equality, so the
  examples evaluate Boolean projections with `decide +kernel` and turn them into the
  existential statements through the `_sound` lemmas below).

  Scenario: credential file with groups "admin" (bit 0) and "ops" (bit 1); users alice
  (admin in all three roles, may administrate passwords) and bob (ops).  Connection 1 (raw,
  local) authenticates as alice and adds the state "a" (fetch/set groups: admin).  Connection 2
  (WebSocket, remote) authenticates as "Alice" (case-folded lookup) and fetches everything.
  Connection 3 (raw, remote) never authenticates.
-/
import Cjet.Lemmas.DaemonC08Noninterf

namespace Cjet.Daemon.C08

open Cjet Cjet.Json Cjet.Daemon

def exCfg : Config := { authLoaded := true, allGroups := [k "admin", k "ops"] }
def exCfgLocal : Config := { exCfg with localOnlyAdd := true }

def grp (names : List String) : Json := .arr (names.map mkStr)

def exUsers : List User :=
  [ { name := k "alice", password := k "pw1", readonly := false, admin := true,
      auth := some (.obj [(k "fetchGroups", grp ["admin"]), (k "setGroups", grp ["admin"]), (k "callGroups", grp ["admin"])]) },
    { name := k "bob", password := k "pw2", readonly := false, admin := false,
      auth := some (.obj [(k "fetchGroups", grp ["ops"]), (k "setGroups", grp ["ops"]), (k "callGroups", grp [])]) } ]

def rq (method : String) (id : Int) (params : List (Bytes × Json)) : Json :=
  .obj [(k "method", mkStr method), (k "id", .num ⟨0, id⟩), (k "params", .obj params)]

def authReq (id : Int) (user pw : String) : Json :=
  rq "authenticate" id [(k "user", mkStr user), (k "password", mkStr pw)]

def exAdd : Json :=
  rq "add" 2 [(k "path", mkStr "a"), (k "value", .num ⟨0, 1⟩),
    (k "access", .obj [(k "fetchGroups", grp ["admin"]), (k "setGroups", grp ["admin"])])]

def exOps : List Op :=
  [ .connect 1 false true (k "0x1"), .connect 2 true false (k "0x2"), .connect 3 false false (k "0x3"),
    .message 1 (some (authReq 1 "alice" "pw1")) {},
    .message 1 (some exAdd) {},
    .message 2 (some (authReq 1 "Alice" "pw1")) {},
    .message 2 (some (rq "fetch" 2 [(k "id", mkStr "f")])) {} ]

/-- the reachable state of the scenario -/
def exS : State := (run exCfg { users := exUsers } exOps).1

theorem exS_reach : Reach exCfg exUsers exS := ⟨exOps, by rw [exS]⟩

def exSVal : State :=
  { peers := [
      { conn := 1, ws := false, isLocal := true, addrTok := k "0x1", user := some (k "alice"),
        fetchGroups := 1, setGroups := 1, callGroups := 1,
        elements := [{ path := k "a", owner := 1, value := some (.num ⟨0, 1⟩), fetchOnly := false,
                       timeoutNs := 5000000000, fetchGroups := 1, setGroups := 1, callGroups := 0,
                       fetchers := [some ⟨2, 0⟩, none, none, none] }] },
      { conn := 2, ws := true, isLocal := false, addrTok := k "0x2", user := some (k "Alice"),
        fetchGroups := 1, setGroups := 1, callGroups := 1, fetches := [{ uid := 0, fid := mkStr "f", rule := [] }] },
      { conn := 3, ws := false, isLocal := false, addrTok := k "0x3" }],
    index := [(k "a", 1)], users := exUsers, nextUid := 1 }

/-- The scenario is run once, here; the examples evaluate their checkers on `exSVal`. -/
theorem exS_eq : exS = exSVal := by
  unfold exS exSVal
  with_unfolding_all rfl

def exX : Ctx := mkCtx exS {}

def exChange : Op := .message 1 (some (rq "change" 3 [(k "path", mkStr "a"), (k "value", .num ⟨0, 2⟩)])) {}
def exSet : Json := rq "set" 5 [(k "path", mkStr "a"), (k "value", .num ⟨0, 7⟩)]
def exGet : Json := rq "get" 6 []
def exBadAuth : Json := authReq 7 "alice" "wrong"
def exGoodAuth : Json := authReq 8 "bob" "pw2"
def exAdd2 : Json := rq "add" 9 [(k "path", mkStr "b"), (k "value", .num ⟨0, 1⟩)]

/-! ## checkers -/

/-- some notification is sent to connection `c` -/
def notifTo (c : Nat) (obs : List Obs) : Bool :=
  obs.any (fun o => match o with | .send c' j _ => c' == c && isNotif j | _ => false)

theorem notifTo_sound {c : Nat} {obs : List Obs} (h : notifTo c obs = true) :
    ∃ j ok, Obs.send c j ok ∈ obs ∧ isNotif j = true := by
  unfold notifTo at h
  obtain ⟨o, ho, h⟩ := List.any_eq_true.mp h
  cases o with
  | send c' j ok =>
    simp only [Bool.and_eq_true, beq_iff_eq] at h
    obtain ⟨rfl, hn⟩ := h
    exact ⟨j, ok, ho, hn⟩
  | closed _ => cases h
  | timerArm _ _ => cases h
  | timerDestroy _ => cases h

/-- the hypotheses of the set/call theorems hold for request `req` of connection `c` in `x`, with the
    access test failing (`shared = false`) or passing (`shared = true`) -/
def routeCheck (x : Ctx) (c : Nat) (req : Json) (isState shared : Bool) : Bool :=
  match findPeer x.st.peers c, getParamsAndPath req with
  | some p, .ok _ path =>
    (match findElement x.st path with
     | some e => ((if isState then e.setGroups &&& p.setGroups else e.callGroups &&& p.callGroups) != 0) == shared
     | none => false)
  | _, _ => false

theorem routeCheck_sound {x : Ctx} {c : Nat} {req : Json} {isState shared : Bool} (h : routeCheck x c req isState shared = true) :
    ∃ p params path e, findPeer x.st.peers c = some p ∧ getParamsAndPath req = .ok params path ∧
      findElement x.st path = some e ∧
      (((if isState then e.setGroups &&& p.setGroups else e.callGroups &&& p.callGroups) != 0) = shared) := by
  unfold routeCheck at h
  split at h
  · rename_i p params path hp hg
    split at h
    · rename_i e he
      exact ⟨p, params, path, e, hp, hg, he, by simpa using h⟩
    · cases h
  · cases h

/-- the peer of connection `c` exists and is unauthenticated / authenticated -/
def userCheck (s : State) (c : Nat) (authenticated : Bool) : Bool :=
  match findPeer s.peers c with
  | some p => p.user.isSome == authenticated
  | none => false

theorem userCheck_sound {s : State} {c : Nat} {a : Bool} (h : userCheck s c a = true) :
    ∃ p, findPeer s.peers c = some p ∧ p.user.isSome = a := by
  unfold userCheck at h
  split at h
  · rename_i p hp; exact ⟨p, hp, by simpa using h⟩
  · cases h

def localCheck (s : State) (c : Nat) (loc : Bool) : Bool :=
  match findPeer s.peers c with
  | some p => p.isLocal == loc
  | none => false

theorem localCheck_sound {s : State} {c : Nat} {a : Bool} (h : localCheck s c a = true) :
    ∃ p, findPeer s.peers c = some p ∧ p.isLocal = a := by
  unfold localCheck at h
  split at h
  · rename_i p hp; exact ⟨p, hp, by simpa using h⟩
  · cases h

/-- the response of a handler carries an "error" member -/
def isErrorResp (r : Option Json) : Bool :=
  match r with
  | some j => (j.getItem (k "error")).isSome
  | none => false

theorem isErrorResp_sound {r : Option Json} (h : isErrorResp r = true) :
    ∃ j, r = some j ∧ (j.getItem (k "error")).isSome = true := by
  unfold isErrorResp at h
  split at h
  · exact ⟨_, rfl, h⟩
  · cases h

/-- the unit of a message that consists of one request object -/
theorem unitsOf_single (cfg : Config) (s : State) (c : Nat) (l : List (Bytes × Json)) (o : Oracle)
    (h : (findPeer s.peers c).isNone = false) :
    Unit.req (mkCtx s o) c (.obj l) ∈ unitsOf cfg s (.message c (some (.obj l)) o) := by
  simp [unitsOf, h, msgUnits]

/-! ## a pair of runs that differ in passwords only -/

/-- the same credential table with another password for bob -/
def exUsers' : List User := setPassword exUsers (k "bob") (k "other")

/-- the scenario state with that table -/
def exS' : State := { exS with users := exUsers' }

/-! The members of an authenticate request, read off by evaluating the look-ups (the keys are
    concrete, user and password are not). -/

theorem authReq_id (id : Int) (u pw : String) : (authReq id u pw).getItem (k "id") = some (.num ⟨0, id⟩) := by
  with_unfolding_all rfl

theorem authReq_method (id : Int) (u pw : String) : methodOf (authReq id u pw) = some (k "authenticate") := by
  with_unfolding_all rfl

theorem authReq_cred (id : Int) (u pw : String) : getCredentials (authReq id u pw) = .ok (k u) (k pw) := by
  with_unfolding_all rfl

theorem exUsers_state : exS.users = exUsers := by rw [exS_eq]; rfl

theorem exS_rel : StRel exS exS' :=
  ⟨show PwOnly exS.users exUsers' by rw [exUsers_state]; exact setPassword_proj exUsers _ _, rfl⟩

/-- bob authenticates with the password stored for him: "pw2" in the first run, "other" in the second -/
def exAuthOp (pw : String) : Op := .message 3 (some (authReq 8 "bob" pw)) {}

theorem exOpRel : OpRel exCfg exS exS' (exAuthOp "pw2") (exAuthOp "other") := by
  refine Or.inr ⟨3, _, _, {}, rfl, rfl, Or.inr (Or.inl ⟨_, _, rfl, rfl, ?_, ?_⟩)⟩
  · exact Or.inr ⟨(authReq_method 8 "bob" "other").trans (authReq_method 8 "bob" "pw2").symm, Or.inl (authReq_method ..),
      (authReq_id 8 "bob" "other").trans (authReq_id 8 "bob" "pw2").symm, k "bob", k "pw2", k "other", authReq_cred 8 "bob" "pw2",
      authReq_cred 8 "bob" "other"⟩
  · intro u pw pw' hc hc' a a' ha ha'
    have e1 := (authReq_cred 8 "bob" "pw2").symm.trans hc
    have e2 := (authReq_cred 8 "bob" "other").symm.trans hc'
    injection e1 with hu hpw
    injection e2 with _ hpw'
    subst hu; subst hpw; subst hpw'
    have hus : (mkCtx exS {}).st.users = exUsers := exUsers_state
    rw [hus] at ha
    have h1 : (findUser exUsers (k "bob")).map (·.password) = some (k "pw2") := by decide +kernel
    have h2 : (findUser exS'.users (k "bob")).map (·.password) = some (k "other") := by decide +kernel
    rw [ha] at h1
    rw [ha'] at h2
    simp only [Option.map_some, Option.some.injEq] at h1 h2
    rw [h1, h2]
    simp

end Cjet.Daemon.C08
