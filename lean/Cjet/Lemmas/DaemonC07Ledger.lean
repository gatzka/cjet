/-
  DaemonC07Ledger — the timer ledger on the router transition system of `DaemonC03Lts`.

  The log `a.tl` of a router state holds the timer observations emitted so far (newest first).
  `DInv` (C03) already says: no timer id is destroyed twice, a destroyed id is below the counter
  and carried by no stored entry.  Here:

  * `AInv` (unconditional): no id is armed twice, an armed id is below the counter, every stored
    entry carries an armed id, and every id below the counter was armed or destroyed (a timer is
    never created silently);
  * `Acct` (needs distinct routed ids, `RS.Rids`, and a live owner for a stored entry): every id
    below the counter is destroyed or carried by a stored entry — no timer is lost.
-/
import Cjet.Lemmas.DaemonC03Inv

namespace Cjet.Daemon.C07

open Cjet Cjet.Json Cjet.Daemon Cjet.Daemon.C03

/-! ## armed timers of a log -/

def armedOf : Obs → Option Nat
  | .timerArm t _ => some t
  | _ => none

/-- timer ids armed so far -/
def armed (tl : List Obs) : List Nat := tl.filterMap armedOf

@[simp] theorem armed_nil : armed [] = [] := rfl
@[simp] theorem armed_cons_arm (t n : Nat) (l : List Obs) : armed (.timerArm t n :: l) = t :: armed l := rfl
@[simp] theorem armed_cons_destroy (t : Nat) (l : List Obs) : armed (.timerDestroy t :: l) = armed l := rfl
@[simp] theorem armed_cons_send (c : Nat) (j : Json) (b : Bool) (l : List Obs) : armed (.send c j b :: l) = armed l := rfl
@[simp] theorem armed_cons_closed (c : Nat) (l : List Obs) : armed (.closed c :: l) = armed l := rfl
theorem armed_append (l₁ l₂ : List Obs) : armed (l₁ ++ l₂) = armed l₁ ++ armed l₂ := by
  simp [armed]

theorem armed_destroys (l : List Route) : armed (l.map (fun r => Obs.timerDestroy r.timer)) = [] := by
  induction l with
  | nil => rfl
  | cons a t ih => simpa using ih

theorem armed_destroys_reverse (l : List Route) :
    armed ((l.map (fun r => Obs.timerDestroy r.timer)).reverse) = [] := by
  rw [← List.map_reverse]; exact armed_destroys _

/-! ## the arming side (unconditional) -/

structure AInv (a : RS) : Prop where
  armedOnce : (armed a.tl).Nodup
  armedLt : ∀ t ∈ armed a.tl, t < a.nt
  heldArmed : ∀ r ∈ vRoutes a.V, r.timer ∈ armed a.tl
  seen : ∀ t, t < a.nt → t ∈ armed a.tl ∨ t ∈ destroyed a.tl

def arms : Lbl → RS → List Nat
  | .issue _ _, a => [a.nt]
  | .issueFail _ _, a => [a.nt]
  | _, _ => []

theorem armed_app (l : Lbl) (a : RS) : armed (app l a).tl = arms l a ++ armed a.tl := by
  cases l with
  | close c => exact (armed_append ..).trans (congrArg (· ++ _) (armed_destroys_reverse _))
  | _ => rfl

theorem arms_spec (l : Lbl) (a : RS) : arms l a = [] ∨ (arms l a = [a.nt] ∧ l.creates = 1) := by
  cases l <;> first | exact .inl rfl | exact .inr ⟨rfl, rfl⟩

theorem created_logged {l : Lbl} (a : RS) (h : l.creates = 1) : a.nt ∈ arms l a ∨ a.nt ∈ l.destroys a := by
  cases l with
  | full => exact .inr (List.mem_singleton.mpr rfl)
  | issue r tns => exact .inl (List.mem_singleton.mpr rfl)
  | issueFail r tns => exact .inl (List.mem_singleton.mpr rfl)
  | _ => exact absurd h Nat.zero_ne_one

theorem ainv_app {l : Lbl} {a : RS} (hp : Pre l a) (h : AInv a) : AInv (app l a) := by
  have harm := armed_app l a
  have hnt := app_nt l a
  refine ⟨?_, fun t ht => ?_, fun r hr => ?_, fun t ht => ?_⟩
  · rw [harm]
    rcases arms_spec l a with e | ⟨e, _⟩ <;> rw [e]
    · exact h.armedOnce
    · exact List.nodup_cons.mpr ⟨fun hm => Nat.lt_irrefl _ (h.armedLt _ hm), h.armedOnce⟩
  · rw [harm, List.mem_append] at ht
    rcases ht with ht | ht
    · rcases arms_spec l a with e | ⟨e, hc⟩ <;> rw [e] at ht
      · cases ht
      · cases List.mem_singleton.mp ht
        exact hnt ▸ hc ▸ Nat.lt_succ_self _
    · exact hnt ▸ Nat.lt_of_lt_of_le (h.armedLt t ht) (Nat.le_add_right ..)
  · rw [harm, List.mem_append]
    rcases mem_vRoutes_app hr with hr | ⟨tns, rfl⟩
    · exact .inr (h.heldArmed r hr)
    · exact .inl (List.mem_singleton.mpr (Fresh.timer hp))
  · rw [harm, destroyed_app, List.mem_append, List.mem_append]
    by_cases e : t < a.nt
    · exact (h.seen t e).imp .inr .inr
    · have hc := Lbl.created (hnt ▸ ht) e
      exact hc.2 ▸ (created_logged a hc.1).imp .inl .inl

theorem ainv_steps {ls : List Lbl} {a b : RS} (hs : Steps ls a b) (h : AInv a) : AInv b := by
  induction ls generalizing a with
  | nil => cases hs; exact h
  | cons l t ih => exact ih hs.2 (ainv_app hs.1 h)

/-! ## no timer is lost -/

/-- every timer id handed out so far is destroyed or carried by a stored entry -/
def Acct (a : RS) : Prop := ∀ t, t < a.nt → t ∈ destroyed a.tl ∨ ∃ r ∈ vRoutes a.V, r.timer = t

/-- the owner named by a stored entry is a connected peer -/
def Live7 : Lbl → RS → Prop
  | .issue r _, a => r.owner ∈ a.V.map (·.conn)
  | _, _ => True

theorem kept_or_destroyed {l : Lbl} {a : RS} (hp : Pre l a) (hw : a.Wf) (hr : a.Rids) {r : Route}
    (h : r ∈ vRoutes a.V) : r ∈ vRoutes (app l a).V ∨ r.timer ∈ l.destroys a := by
  cases l with
  | tick => exact .inl h
  | full => exact .inl h
  | issue r' tns => exact .inl (mem_vRoutes_vAdd_of_mem h)
  | issueFail r' tns =>
    exact .inl (mem_vRoutes_vRemove_of_ne (mem_vRoutes_vAdd_of_mem h) (Fresh.rid_new hp hr r h))
  | drop o r' =>
    by_cases e : r.rid = r'.rid
    · cases nodup_map_inj (f := (·.rid)) hr.rids h (vTable_subset_vRoutes hp) e
      exact .inr (List.mem_singleton.mpr rfl)
    · exact .inl (mem_vRoutes_vRemove_of_ne h e)
  | close c =>
    exact (mem_close_split hw.conns c h).symm.imp id fun h' => List.mem_reverse.mpr (List.mem_map_of_mem h')
  | connect c addr => exact .inl ((vRoutes_connect a.V c addr).symm ▸ h)

theorem acct_app {l : Lbl} {a : RS} (hp : Pre l a) (hl : Live7 l a) (hw : a.Wf) (hr : a.Rids)
    (h : Acct a) : Acct (app l a) := by
  intro t ht
  rw [app_nt] at ht
  rw [destroyed_app, List.mem_append]
  by_cases e : t < a.nt
  · rcases h t e with h1 | ⟨r, hr', rfl⟩
    · exact .inl (.inr h1)
    · exact (kept_or_destroyed hp hw hr hr').symm.imp .inl fun h' => ⟨r, h', rfl⟩
  · -- the timer just created is destroyed at once or carried by the entry stored
    have hc := Lbl.created ht e
    cases l with
    | issue r tns => exact .inr ⟨r, mem_vRoutes_vAdd_self hl, hc.2 ▸ Fresh.timer hp⟩
    | full => exact .inl (.inl (List.mem_singleton.mpr hc.2))
    | issueFail r tns => exact .inl (.inl (List.mem_singleton.mpr hc.2))
    | _ => exact absurd hc.1 Nat.zero_ne_one

/-! ## steps whose stored entries have live owners -/

def Steps7 : List Lbl → RS → RS → Prop
  | [], a, b => b = a
  | l :: ls, a, b => Pre l a ∧ Live7 l a ∧ Steps7 ls (app l a) b

theorem Steps7.steps {ls : List Lbl} {a b : RS} (h : Steps7 ls a b) : Steps ls a b := by
  induction ls generalizing a with
  | nil => exact h
  | cons l t ih => exact ⟨h.1, ih h.2.2⟩

theorem Steps7.nil (a : RS) : Steps7 [] a a := rfl

theorem Steps7.single {l : Lbl} {a : RS} (h : Pre l a) (hl : Live7 l a) : Steps7 [l] a (app l a) :=
  ⟨h, hl, rfl⟩

theorem Steps7.append {l₁ l₂ : List Lbl} {a b c : RS} (h₁ : Steps7 l₁ a b) (h₂ : Steps7 l₂ b c) :
    Steps7 (l₁ ++ l₂) a c := by
  induction l₁ generalizing a with
  | nil => cases h₁; exact h₂
  | cons l ls ih => exact ⟨h₁.1, h₁.2.1, ih h₁.2.2⟩

/-- labels other than `issue` carry no liveness obligation -/
def NoIssue : Lbl → Prop
  | .issue _ _ => False
  | _ => True

theorem steps_to7 {ls : List Lbl} {a b : RS} (h : Steps ls a b) (hn : ∀ l ∈ ls, NoIssue l) :
    Steps7 ls a b := by
  induction ls generalizing a with
  | nil => exact h
  | cons l t ih =>
    refine ⟨h.1, ?_, ih h.2 (fun l' h' => hn l' (List.mem_cons_of_mem _ h'))⟩
    have := hn l (List.mem_cons_self ..)
    cases l <;> first | trivial | exact this.elim

theorem live7_addLog {l : Lbl} {a : RS} (L : List Obs) (h : Live7 l a) : Live7 l (a.addLog L) := by
  cases l <;> exact h

theorem steps7_addLog {ls : List Lbl} {a b : RS} (L : List Obs) (h : Steps7 ls a b) :
    Steps7 ls (a.addLog L) (b.addLog L) := by
  induction ls generalizing a with
  | nil => cases h; rfl
  | cons l t ih =>
    refine ⟨pre_addLog L h.1, live7_addLog L h.2.1, ?_⟩
    rw [app_addLog]
    exact ih h.2.2

/-- the conditional part of the ledger along a run of router steps -/
theorem acct_steps {ls : List Lbl} {a b : RS} (hs : Steps7 ls a b) (hr : Room a ls) (h : Acct a) : Acct b := by
  induction ls generalizing a with
  | nil => cases hs; exact h
  | cons l t ih => exact ih hs.2.2 (hr.step hs.1).1 (acct_app hs.1 hs.2.1 hr.wf hr.rids h)

end Cjet.Daemon.C07
