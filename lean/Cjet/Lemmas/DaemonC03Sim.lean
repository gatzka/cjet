/-
  DaemonC03Sim — every operation of the daemon model is a sequence of labelled router steps
  (`DaemonC03Lts`), the labels it can produce are bounded by who sent what, and — where the
  elements are owned (`EO`) — every entry it stores names a connected owner (`Steps7`, what the
  timer ledger of C07 needs).  One induction over the handlers yields both.  In front of it, what
  the induction rests on: every handler other than set/call/routing-response leaves the routing
  view and the timer observations alone, and an element found through the path index belongs to
  the connected peer its `owner` field names.
-/
import Cjet.Lemmas.DaemonC14Elem
import Cjet.Lemmas.DaemonC07Ledger

namespace Cjet.Daemon.C03

open Cjet Cjet.Json Cjet.Daemon

/-! ## handlers that leave the routing view alone

  (connections, address tokens, routing tables, uuid counter, timer counter, timer observations) -/

/-- only `send` observations were added; the state is untouched -/
structure SendsOnly (x y : Ctx) : Prop where
  st : y.st = x.st
  tobs : tobs y.out = tobs x.out
  routeFull : y.routeFull = x.routeFull

theorem SendsOnly.refl (x : Ctx) : SendsOnly x x := ⟨rfl, rfl, rfl⟩

theorem SendsOnly.trans {x y z : Ctx} (h1 : SendsOnly x y) (h2 : SendsOnly y z) : SendsOnly x z :=
  ⟨h2.st.trans h1.st, h2.tobs.trans h1.tobs, h2.routeFull.trans h1.routeFull⟩

theorem SendsOnly.frame {x y : Ctx} (h : SendsOnly x y) : Frame x y :=
  ⟨by rw [h.st], by rw [h.st], by rw [h.st], h.tobs, h.routeFull⟩

theorem sendsOnly_send' (x : Ctx) (c : Nat) (j : Json) : SendsOnly x (send' x c j) :=
  ⟨send'_st .., tobs_send' .., send'_routeFull ..⟩

theorem sendsOnly_notifyFetchers (x : Ctx) (e : Element) (ev : String) : SendsOnly x (notifyFetchers x e ev) :=
  notifyFetchers_induct (P := SendsOnly x) e ev (.refl x) fun _ _ _ _ _ _ hy => hy.trans (sendsOnly_send' ..)

theorem sendsOnly_findFetchersForElement (cfg : Config) (x : Ctx) (e : Element) :
    SendsOnly x (findFetchersForElement cfg x e).1 :=
  findFetchersForElement_induct (Q := fun acc => SendsOnly x acc.1) cfg x e (.refl x) fun acc fp f _ _ h =>
    offerElement_induct (P := SendsOnly x) cfg acc.2 fp f h fun _ => h.trans (sendsOnly_send' ..)

theorem SendsOnly.frame_update {x w y : Ctx} (h : SendsOnly x w) {c : Nat} {f : Peer → Peer}
    (hp : y.st.peers = updatePeer x.st.peers c f) (hf : ∀ q, pview (f q) = pview q)
    (hu : y.st.uuid = x.st.uuid) (ht : y.st.nextTimer = x.st.nextTimer) (hout : y.out = w.out)
    (hrf : y.routeFull = w.routeFull) : Frame x y :=
  ⟨by rw [hp, map_pview_updatePeer _ _ _ hf], hu, ht, by rw [hout, h.tobs], by rw [hrf, h.routeFull]⟩

/-! ## element.c handlers -/

theorem frame_changeState (x : Ctx) (p : Peer) (req : Json) : Frame x (changeState x p req).1 := by
  rcases changeState_cases x p req with ⟨_, _, hc⟩ | ⟨_, _, _, _, _, _, _, _, _, hc⟩ <;> rw [hc]
  · exact .refl x
  · refine .trans ?_ (sendsOnly_notifyFetchers ..).frame
    exact (SendsOnly.refl x).frame_update rfl (fun _ => rfl) rfl rfl rfl rfl

theorem frame_addElement (cfg : Config) (x : Ctx) (p : Peer) (req : Json) :
    Frame x (addElement cfg x p req).1 := by
  rw [addElement_eq]
  cases addChecks cfg x.st p req with
  | error r => exact .refl x
  | ok e0 =>
    have hz := sendsOnly_findFetchersForElement cfg x e0
    dsimp only
    rcases addCore_cases cfg x p req e0 with ⟨_, hc⟩ | ⟨_, hc⟩ <;> rw [hc]
    · exact (hz.trans (sendsOnly_notifyFetchers ..)).frame.trans (frame_of_eq rfl rfl rfl)
    · exact hz.frame_update rfl (fun _ => rfl) rfl rfl rfl rfl

theorem frame_removeElement (x : Ctx) (e : Element) : Frame x (removeElement x e) := by
  rw [removeElement_eq]
  exact (sendsOnly_notifyFetchers x e "remove").frame_update rfl (fun _ => rfl) rfl rfl rfl rfl

theorem frame_removeElementReq (x : Ctx) (p : Peer) (req : Json) : Frame x (removeElementReq x p req).1 := by
  rcases removeElementReq_cases x p req with ⟨_, _, hc⟩ | ⟨_, _, e, _, _, hc⟩ <;> rw [hc]
  · exact .refl x
  · exact frame_removeElement x e

/-! ## fetch.c handlers -/

theorem frame_offerStep (cfg : Config) (fp : Peer) (f : Fetch) (oc : Nat) (y : Ctx) (e0 : Element) :
    Frame y (offerStep cfg fp f oc y e0) := by
  unfold offerStep
  extract_lets e z
  have hz : SendsOnly y z.1 := offerElement_induct (P := SendsOnly y) cfg e fp f (.refl y) fun _ => sendsOnly_send' ..
  exact hz.frame.trans ((SendsOnly.refl z.1).frame_update rfl (fun _ => rfl) rfl rfl rfl rfl)

theorem frame_offerAllElements (cfg : Config) (x : Ctx) (fp : Peer) (f : Fetch) :
    Frame x (offerAllElements cfg x fp f) := by
  rw [offerAllElements_eq]
  refine foldl_inv (Frame x) _ _ _ (.refl x) fun y owner _ hy => ?_
  exact foldl_inv (Frame x) _ _ _ hy fun y' e0 _ hy' => hy'.trans (frame_offerStep ..)

theorem frame_fetchReq (cfg : Config) (x : Ctx) (p : Peer) (req : Json) : Frame x (fetchReq cfg x p req).1 := by
  rcases fetchReq_cases cfg x p req with ⟨_, _, _, hc⟩ | ⟨_, _, _, _, _, _, hc⟩ <;> rw [hc]
  · exact .refl x
  · refine .trans ?_ (frame_offerAllElements ..)
    exact (SendsOnly.refl x).frame_update rfl (fun _ => rfl) rfl rfl rfl rfl

theorem frame_unfetchReq (x : Ctx) (p : Peer) (req : Json) : Frame x (unfetchReq x p req).1 := by
  rcases unfetchReq_cases x p req with ⟨_, hc⟩ | ⟨_, _, _, _, _, hc⟩ <;> rw [hc]
  · exact .refl x
  · refine frame_of_peers ?_ rfl rfl rfl rfl
    show (updatePeer (mapElements _ _) _ _).map pview = _
    rw [map_pview_updatePeer, map_pview_mapElements]
    exact fun _ => rfl

theorem frame_getReq (cfg : Config) (x : Ctx) (p : Peer) (req : Json) : Frame x (getReq cfg x p req).1 :=
  (getReq_fst cfg x p req).symm ▸ .refl x

/-! ## config.c, info.c, authenticate.c -/

theorem frame_configReq (x : Ctx) (p : Peer) (req : Json) : Frame x (configReq x p req).1 := by
  rcases configReq_cases x p req with ⟨_, hc⟩ | hc | ⟨_, hc⟩ <;> rw [hc]
  · exact .refl x
  · exact .refl x
  · exact (SendsOnly.refl x).frame_update rfl (fun _ => rfl) rfl rfl rfl rfl

theorem frame_infoReq (cfg : Config) (x : Ctx) (req : Json) : Frame x (infoReq cfg x req).1 := Frame.refl x

theorem frame_authenticateReq (cfg : Config) (x : Ctx) (p : Peer) (req : Json) :
    Frame x (authenticateReq cfg x p req).1 := by
  rcases authenticateReq_cases cfg x p req with ⟨_, _, hc⟩ | ⟨_, _, _, _, _, _, _, _, _, hc⟩ <;> rw [hc]
  · exact .refl x
  · exact (SendsOnly.refl x).frame_update rfl (fun _ => rfl) rfl rfl rfl rfl

theorem frame_passwdReq (x : Ctx) (p : Peer) (req : Json) : Frame x (passwdReq x p req).1 := by
  rcases passwdReq_cases x p req with ⟨_, hc⟩ | ⟨_, _, _, _, _, _, _, _, _, hc⟩ <;> rw [hc]
  · exact .refl x
  · exact frame_of_peers rfl rfl rfl rfl rfl

theorem frame_sendResponse (x : Ctx) (c : Nat) (r : Option Json) : Frame x (sendResponse x c r).1 := by
  cases r with
  | none => exact .refl x
  | some j => exact frame_send x c j

/-! ## the element side of routing

  An element found through the path index belongs to a connected peer, namely the one its `owner`
  field names (`EO`, an invariant of every reachable state).  Needed to say that an accepted
  set/call is really STORED in the owner's table.  `EO` is the smallest instance of the element
  invariant of `DaemonC14Elem`. -/

/-- every element of `q`'s list names `q` as its owner -/
def EOp (q : Peer) : Prop := ∀ e ∈ q.elements, e.owner = q.conn

/-- every element is in the list of the peer its `owner` field names -/
def EO (s : State) : Prop := ∀ p ∈ s.peers, EOp p

theorem eo_of_peers_eq {s s' : State} (h : s'.peers = s.peers) (he : EO s) : EO s' := by
  unfold EO; rw [h]; exact he

theorem eo_parseJsonRpc (cfg : Config) (x : Ctx) (c : Nat) (req : Json) (h : EO x.st) :
    EO (parseJsonRpc cfg x c req).1.st :=
  C14.ep_parseJsonRpc id cfg x c req h fun _ _ _ _ _ _ => rfl

theorem eo_init (us : List User) : EO { users := us } := fun _ hp => nomatch hp

theorem eo_step (cfg : Config) (s : State) (op : Op) (h : EO s) : EO (step cfg s op).1 :=
  C14.ep_step id cfg s op h (by cases op <;> first | trivial | exact fun _ _ _ _ _ _ _ _ => rfl)

theorem findElement_owner_live {s : State} (h : EO s) {path : Bytes} {e : Element}
    (he : findElement s path = some e) : ∃ q, findPeer s.peers e.owner = some q := by
  obtain ⟨_, q, _, hq, hm, _⟩ := findElement_some he
  exact ⟨q, h q (findPeer_mem hq) e hm ▸ findPeer_conn hq ▸ hq⟩

open Cjet.Daemon.C07 (Steps7 Live7 NoIssue steps_to7)

/-! ## model updates as view operations -/

theorem map_pview_updatePeer_view {f : Peer → Peer} {g : PV → PV} (h : ∀ p, pview (f p) = g (pview p))
    (ps : List Peer) (c : Nat) :
    (updatePeer ps c f).map pview = (ps.map pview).map (fun v => if v.conn == c then g v else v) := by
  rw [updatePeer, List.map_map, List.map_map]
  refine List.map_congr_left fun p _ => ?_
  show pview (if _ then _ else _) = if (pview p).conn == c then _ else _
  rw [pview_conn]
  split
  · exact h p
  · rfl

theorem map_pview_addRoute (ps : List Peer) (o : Nat) (r : Route) :
    (updatePeer ps o (fun q => { q with routes := q.routes ++ [r] })).map pview = vAdd (ps.map pview) o r :=
  map_pview_updatePeer_view (fun _ => rfl) ps o

theorem map_pview_removeRoute (ps : List Peer) (o : Nat) (rid : Bytes) :
    (removeRoute ps o rid).map pview = vRemove (ps.map pview) o rid :=
  map_pview_updatePeer_view (fun _ => rfl) ps o

theorem vTable_map_pview (ps : List Peer) (c : Nat) :
    vTable (ps.map pview) c = match findPeer ps c with | some p => p.routes | none => [] := by
  unfold vTable findPeer
  rw [List.find?_map]
  have : ((fun v : PV => v.conn == c) ∘ pview) = (fun p : Peer => p.conn == c) := rfl
  rw [this]
  cases List.find? (fun p : Peer => p.conn == c) ps <;> rfl

theorem vRoutes_map_pview (ps : List Peer) : vRoutes (ps.map pview) = ps.flatMap (·.routes) := by
  unfold vRoutes
  rw [List.flatMap_map]
  rfl

theorem mem_map_pview {ps : List Peer} {p : Peer} (h : p ∈ ps) : pview p ∈ ps.map pview :=
  List.mem_map_of_mem h

theorem findPeer_isSome_iff_conns {ps : List Peer} {c : Nat} :
    (findPeer ps c).isSome = true ↔ c ∈ (ps.map pview).map (·.conn) := by
  rw [findPeer_isSome_iff, List.map_map]
  rfl

/-! ## simulation -/

/-- `eo` stands for `EO` of the context the labels come from: under it every `issue` among them
    names a connected owner -/
structure Sim (eo : Prop) (ls : List Lbl) (a b : RS) : Prop where
  steps : Steps ls a b
  live : eo → Steps7 ls a b

theorem Sim.of_steps {eo : Prop} {ls : List Lbl} {a b : RS} (hs : Steps ls a b) (hn : ∀ l ∈ ls, NoIssue l) :
    Sim eo ls a b :=
  ⟨hs, fun _ => steps_to7 hs hn⟩

theorem Sim.append {e₁ e₂ : Prop} {l₁ l₂ : List Lbl} {a b c : RS} (h₁ : Sim e₁ l₁ a b) (h₂ : Sim e₂ l₂ b c)
    (he : e₁ → e₂) : Sim e₁ (l₁ ++ l₂) a c :=
  ⟨h₁.steps.append h₂.steps, fun h => (h₁.live h).append (h₂.live (he h))⟩

theorem Sim.addLog {eo : Prop} {ls : List Lbl} {a b : RS} (L : List Obs) (h : Sim eo ls a b) :
    Sim eo ls (a.addLog L) (b.addLog L) :=
  ⟨steps_addLog L h.steps, fun he => C07.steps7_addLog L (h.live he)⟩

def SimN (n : Nat) (eo : Prop) (Q : Lbl → Prop) (x y : Ctx) : Prop :=
  ∃ ls, ls.length ≤ n ∧ (∀ l ∈ ls, Q l) ∧ Sim eo ls (rs x) (rs y)

variable {n : Nat} {eo : Prop} {Q : Lbl → Prop} {x y z : Ctx}

theorem SimN.of_frame (h : Frame x y) : SimN n eo Q x y :=
  ⟨[], Nat.zero_le _, fun _ hm => absurd hm List.not_mem_nil, h.rs_eq, fun _ => h.rs_eq⟩

theorem SimN.single {l : Lbl} (hq : Q l) (hp : Pre l (rs x)) (hl : eo → Live7 l (rs x))
    (h : rs y = app l (rs x)) : SimN 1 eo Q x y :=
  ⟨[l], Nat.le_refl 1, fun _ hm => List.mem_singleton.mp hm ▸ hq,
    h ▸ ⟨.single hp, fun he => .single hp (hl he)⟩⟩

theorem SimN.mono {n' : Nat} {Q' : Lbl → Prop} (h : SimN n eo Q x y) (hn : n ≤ n') (hQ : ∀ l, Q l → Q' l) :
    SimN n' eo Q' x y :=
  let ⟨ls, h1, h2, h3⟩ := h
  ⟨ls, Nat.le_trans h1 hn, fun l hl => hQ l (h2 l hl), h3⟩

theorem SimN.frame (h : SimN n eo Q x y) (hf : Frame y z) : SimN n eo Q x z :=
  let ⟨ls, h1, h2, h3⟩ := h
  ⟨ls, h1, h2, hf.rs_eq ▸ h3⟩

theorem SimN.append {m : Nat} {eo' : Prop} (h₁ : SimN n eo Q x y) (h₂ : SimN m eo' Q y z) (he : eo → eo') :
    SimN (n + m) eo Q x z :=
  let ⟨l₁, a1, a2, a3⟩ := h₁
  let ⟨l₂, b1, b2, b3⟩ := h₂
  ⟨l₁ ++ l₂, by rw [List.length_append]; exact Nat.add_le_add a1 b1,
    fun l hl => (List.mem_append.mp hl).elim (a2 l) (b2 l), a3.append b3 he⟩

/-! ## set / call -/

/-- labels a set/call of peer `c` can produce -/
def IssueLbl (c : Nat) : Lbl → Prop
  | .tick => True
  | .full => True
  | .issue r _ => r.requester = c
  | .issueFail r _ => r.requester = c
  | _ => False

theorem newRoute_fresh (x : Ctx) (p : Peer) (req : Json) (e : Element) (hp : p ∈ x.st.peers) :
    Fresh (rs x) (newRoute x p req e) :=
  ⟨pview p, mem_map_pview hp, rfl, rfl, rfl⟩

theorem rs_stored_send (x : Ctx) (r : Route) (tns : Nat) (o : Nat) (m : Json) (ht : r.timer = x.st.nextTimer) :
    rs (send (stored x r tns) o m).1 = app (.issue r tns) (rs x) := by
  simp only [rs, send_st, tobs_send, app]
  simp only [stored, emit_st, emit_out, map_pview_addRoute, tickU, ht, tobs_cons_arm]

theorem rs_removeRoute (y : Ctx) (o : Nat) (rid : Bytes) (t : Nat) :
    rs (emit { y with st := { y.st with peers := removeRoute y.st.peers o rid } } (.timerDestroy t)) =
      { rs y with V := vRemove (rs y).V o rid, tl := .timerDestroy t :: (rs y).tl } := by
  simp only [rs, emit_st, emit_out, map_pview_removeRoute, tobs_cons_destroy]

theorem rs_drop (x : Ctx) (o : Nat) (r : Route) :
    rs (emit { x with st := { x.st with peers := removeRoute x.st.peers o r.rid } } (.timerDestroy r.timer)) =
      app (.drop o r) (rs x) :=
  rs_removeRoute x o r.rid r.timer

theorem sim_routeCore (cfg : Config) (x : Ctx) (p : Peer) (req : Json) (isState : Bool)
    (params : Json) (path : Bytes) (e : Element) (hp : p ∈ x.st.peers)
    (hlive : eo → e.owner ∈ (rs x).V.map (·.conn)) :
    SimN 1 eo (IssueLbl p.conn) x (routeCore cfg x p req isState params path e).1 := by
  have hf := newRoute_fresh x p req e hp
  rcases routeCore_cases cfg x p req isState params path e with
    ⟨_, _, hc⟩ | ⟨_, _, hc⟩ | ⟨tns, _, ⟨_, hc⟩ | ⟨_, ⟨_, hc⟩ | ⟨_, hc⟩⟩⟩ <;> rw [hc]
  · exact .single (l := .tick) trivial trivial (fun _ => trivial) rfl
  · exact .single (l := .tick) trivial trivial (fun _ => trivial) rfl
  · exact .single (l := .full) trivial trivial (fun _ => trivial) rfl
  · exact .single (l := .issue (newRoute x p req e) tns) rfl hf hlive (rs_stored_send _ _ _ _ _ rfl)
  · refine .single (l := .issueFail (newRoute x p req e) tns) rfl hf (fun _ => trivial) ?_
    rw [rs_removeRoute, rs_stored_send _ _ _ _ _ rfl]
    rfl

theorem sim_setOrCall (cfg : Config) (x : Ctx) (p : Peer) (req : Json) (isState : Bool) (hp : p ∈ x.st.peers) :
    SimN 1 (EO x.st) (IssueLbl p.conn) x (setOrCall cfg x p req isState).1 := by
  rcases setOrCall_cases cfg x p req isState with h | ⟨params, path, e, hc⟩
  · rw [h]; exact .of_frame (.refl x)
  · rw [setOrCall_of_checks hc]
    refine sim_routeCore cfg x p req isState params path e hp fun he => ?_
    obtain ⟨q, hq⟩ := findElement_owner_live he hc.el
    exact findPeer_isSome_iff_conns.mp (hq ▸ rfl)

/-! ## routing responses, timer expiry -/

theorem SimN.drop {o : Nat} {r : Route} (hq : Q (.drop o r)) (hp : r ∈ vTable (rs x).V o)
    (h : rs y = app (.drop o r) (rs x)) : SimN 1 eo Q x y :=
  .single hq hp (fun _ => trivial) h

theorem sim_routingResponse (x : Ctx) (p : Peer) (msg payload : Json) (typ : String)
    (hp : findPeer x.st.peers p.conn = some p) :
    SimN 1 eo (fun l => ∃ r, l = .drop p.conn r ∧ msg.getItem (k "id") = some (.str r.rid)) x
      (routingResponse x p msg payload typ).1 := by
  rcases routingResponse_cases x p msg payload typ with hc | hc | ⟨rid, r, hid, hr, hc⟩
  · rw [hc]; exact .of_frame (.refl x)
  · rw [hc]; exact .of_frame (.refl x)
  · cases beq_iff_eq.mp (List.find?_some (p := fun r : Route => r.rid == rid) hr)
    have hd : SimN 1 eo (fun l => ∃ r, l = .drop p.conn r ∧ msg.getItem (k "id") = some (.str r.rid)) x _ :=
      .drop ⟨r, rfl, hid⟩ (by rw [rs, vTable_map_pview, hp]; exact List.mem_of_find?_eq_some hr) (rs_drop x p.conn r)
    rcases hc with hc | ⟨_, _, _, _, hc⟩ <;> rw [hc]
    · exact hd
    · exact hd.frame (frame_send' ..)

theorem sim_timeoutFired (x : Ctx) (t : Nat) (hwf : (rs x).Wf) :
    SimN 1 eo (fun l => ∃ r, l = .drop r.owner r ∧ r.timer = t ∧ r ∈ vRoutes (rs x).V) x (timeoutFired x t) := by
  rcases timeoutFired_cases x t with hc | ⟨r, hr, hc⟩
  · rw [hc]; exact .of_frame (.refl x)
  · cases beq_iff_eq.mp (List.find?_some (p := fun r' : Route => r'.timer == t) hr)
    have hmem : r ∈ vRoutes (rs x).V := by
      rw [rs, vRoutes_map_pview]; exact List.mem_of_find?_eq_some hr
    refine .drop ⟨r, rfl, rfl, hmem⟩ (hwf.mem_table hmem) ?_
    rcases hc with hc | ⟨_, _, _, _, hc⟩ <;> rw [hc]
    · exact rs_drop x r.owner r
    · rw [← rs_drop x r.owner r]
      simp only [rs, emit_st, emit_out, send'_st, tobs_cons_destroy, tobs_send']

/-! ## free_peer_resources -/

theorem tobs_clearRoutes (l : List Route) (x : Ctx) (c : Nat) :
    tobs (clearRoutes x l c).out = (l.map (fun r => Obs.timerDestroy r.timer)).reverse ++ tobs x.out := by
  induction l generalizing x with
  | nil => rfl
  | cons r t ih =>
    have : tobs (clearRoute x r c).out = .timerDestroy r.timer :: tobs x.out := by
      rcases clearRoute_cases x r c with h | ⟨_, _, _, _, _, h⟩ <;> rw [h]
      · rfl
      · rw [tobs_send']; rfl
    rw [clearRoutes_cons, ih, this]
    simp

theorem vClose_eq (V : List PV) (c : Nat) :
    (((V.map (fun v => if v.conn == c then { v with routes := [] } else v)).map
      (fun v => { v with routes := v.routes.filter (·.requester != c) })).filter (·.conn != c)) = vClose V c := by
  unfold vClose
  induction V with
  | nil => rfl
  | cons v t ih =>
    simp only [List.map_cons, List.filter_cons]
    by_cases h : (v.conn == c) = true
    · have h' : (v.conn != c) = false := by simpa using h
      simp only [h, ↓reduceIte, h', Bool.false_eq_true]
      exact ih
    · have h' : (v.conn != c) = true := by simpa using h
      simp only [h, ↓reduceIte, h', Bool.false_eq_true]
      rw [ih]
      rfl

theorem freeTable_view (x : Ctx) (c : Nat) (p : Peer) :
    (freeTable x c p).st.peers.map pview =
      (x.st.peers.map pview).map (fun v => if v.conn == c then { v with routes := [] } else v) :=
  freeTable_st x c p ▸ map_pview_updatePeer_view (fun _ => rfl) x.st.peers c

theorem freeRequests_view (x : Ctx) (c : Nat) :
    (freeRequests x c).st.peers.map pview =
      (x.st.peers.map pview).map (fun v => { v with routes := v.routes.filter (·.requester != c) }) := by
  rw [freeRequests_st, List.map_map, List.map_map]
  rfl

theorem requestsOf_view (ps : List Peer) (c : Nat) :
    requestsOf ps c = (ps.map pview).flatMap (fun v => v.routes.filter (·.requester == c)) := by
  rw [requestsOf, List.flatMap_map]
  rfl

/-- the fetch and element phases of `free_peer_resources` -/
theorem frame_freeElements (x : Ctx) (c : Nat) (l : List Element) :
    Frame x (removeElements (unsubscribe x c) c l) := by
  refine removeElements_induct (P := Frame x) c l ?_ fun y e _ _ _ _ hy => hy.trans (frame_removeElement y e)
  refine frame_of_peers ?_ rfl rfl rfl rfl
  show (updatePeer (mapElements _ _) _ _).map pview = _
  rw [map_pview_updatePeer, map_pview_mapElements]
  exact fun _ => rfl

theorem deletePeer_view (x : Ctx) (c : Nat) :
    (deletePeer x c).st.peers.map pview = (x.st.peers.map pview).filter (·.conn != c) := by
  rw [List.filter_map]
  rfl

theorem rs_closePeer (x : Ctx) (c : Nat) (p : Peer) (hp : findPeer x.st.peers c = some p) :
    rs (closePeer x c) = app (.close c) (rs x) := by
  show rs (freePeerResources x c) = _
  rw [freePeerResources_phases hp]
  have hC := frame_freeElements (freeRequests (freeTable x c p) c) c p.elements
  simp only [rs, app, RS.mk.injEq]
  refine ⟨?_, ?_, ?_, ?_⟩
  · rw [deletePeer_view, hC.peers, freeRequests_view, freeTable_view, vClose_eq]
  · exact hC.uuid.trans (by rw [freeRequests_st, freeTable_st])
  · exact hC.nextTimer.trans (by rw [freeRequests_st, freeTable_st])
  · refine hC.tobs.trans ?_
    rw [freeRequests, tobs_clearRoutes, requestsOf_view, freeTable_view, freeTable, tobs_clearRoutes]
    simp only [vCloseRoutes, vMine, List.map_append, List.reverse_append, List.append_assoc]
    rw [vTable_map_pview, hp]

theorem sim_closePeer (x : Ctx) (c : Nat) (h : (findPeer x.st.peers c).isSome = true) :
    Sim eo [.close c] (rs x) (rs (closePeer x c)) := by
  obtain ⟨p, hp⟩ := Option.isSome_iff_exists.mp h
  rw [rs_closePeer x c p hp]
  exact .of_steps (.single ⟨pview p, mem_map_pview (findPeer_mem hp), findPeer_conn hp⟩)
    fun _ hl => List.mem_singleton.mp hl ▸ trivial

/-! ## parse.c -/

/-- `req` is a routing response (no method, a result or an error) carrying the id `rid` -/
def replyTo (rid : Bytes) (req : Json) : Bool :=
  (req.getItem (k "method")).isNone &&
  ((req.getItem (k "result")).isSome || (req.getItem (k "error")).isSome) &&
  (match req.getItem (k "id") with | some (.str s) => s == rid | _ => false)

/-- labels the processing of requests of peer `c` can produce; `isReply rid` tells whether one of
    them is a routing response with that id -/
def LblFrom (c : Nat) (isReply : Bytes → Bool) : Lbl → Prop
  | .tick => True
  | .full => True
  | .issue r _ => r.requester = c
  | .issueFail r _ => r.requester = c
  | .drop o r => o = c ∧ isReply r.rid = true
  | .close _ => False
  | .connect _ _ => False

theorem LblFrom.of_issue {c : Nat} {f : Bytes → Bool} {l : Lbl} (h : IssueLbl c l) : LblFrom c f l := by
  cases l <;> first | exact h | exact h.elim

theorem LblFrom.mono {c : Nat} {f g : Bytes → Bool} {l : Lbl} (hfg : ∀ rid, f rid = true → g rid = true)
    (h : LblFrom c f l) : LblFrom c g l := by
  cases l <;> first | exact h | exact ⟨h.1, hfg _ h.2⟩

theorem sim_handleMethod (cfg : Config) (x : Ctx) (p : Peer) (req : Json) (m : Bytes) (hp : p ∈ x.st.peers) :
    SimN 1 (EO x.st) (IssueLbl p.conn) x (handleMethod cfg x p req m).1 :=
  handleMethod_induct (P := fun y => SimN 1 (EO x.st) (IssueLbl p.conn) x y.1) cfg x p req m
    (fun _ => .of_frame (frame_changeState ..)) (fun _ => sim_setOrCall cfg x p req true hp)
    (fun _ => sim_setOrCall cfg x p req false hp) (fun _ => .of_frame (frame_addElement ..))
    (fun _ => .of_frame (frame_removeElementReq ..)) (fun _ => .of_frame (frame_fetchReq ..))
    (fun _ => .of_frame (frame_unfetchReq ..)) (fun _ => .of_frame (frame_getReq ..))
    (fun _ => .of_frame (frame_configReq ..)) (fun _ => .of_frame (frame_infoReq ..))
    (fun _ => .of_frame (frame_authenticateReq ..)) (fun _ => .of_frame (frame_passwdReq ..))
    (.of_frame (.refl x))

theorem sim_parseJsonRpc (cfg : Config) (x : Ctx) (c : Nat) (req : Json) :
    SimN 1 (EO x.st) (LblFrom c (fun rid => replyTo rid req)) x (parseJsonRpc cfg x c req).1 := by
  unfold parseJsonRpc
  split
  · exact .of_frame (.refl x)
  · next p hp =>
    cases findPeer_conn hp
    split
    · exact ((sim_handleMethod cfg x p req _ (findPeer_mem hp)).mono (Nat.le_refl 1)
        fun _ => LblFrom.of_issue).frame (frame_sendResponse ..)
    · exact .of_frame (frame_sendResponse ..)
    · next hmeth =>
      have key : ∀ (payload : Json) (typ : String),
          ((req.getItem (k "result")).isSome || (req.getItem (k "error")).isSome) = true →
          SimN 1 (EO x.st) (LblFrom p.conn (fun rid => replyTo rid req)) x
            (routingResponse x p req payload typ).1 := fun payload typ hre =>
        (sim_routingResponse x p req payload typ hp).mono (Nat.le_refl 1) fun l ⟨r, hl, hid⟩ =>
          hl ▸ ⟨rfl, by simp [replyTo, hmeth, hre, hid]⟩
      split
      · next hres => exact key _ _ (by simp [hres])
      · split
        · next herr => exact key _ _ (by simp [herr])
        · exact .of_frame (frame_sendResponse ..)

theorem sim_parseJsonArray (cfg : Config) (c : Nat) (l : List Json) (x : Ctx) :
    SimN l.length (EO x.st) (LblFrom c (fun rid => l.any (replyTo rid))) x (parseJsonArray cfg x c l).1 := by
  induction l generalizing x with
  | nil => exact .of_frame (.refl x)
  | cons j rest ih =>
    cases j with
    | obj m =>
      rw [parseJsonArray_cons_obj]
      have h1 := (sim_parseJsonRpc cfg x c (.obj m)).mono (Nat.le_refl 1)
        fun _ => LblFrom.mono (g := fun rid => (Json.obj m :: rest).any (replyTo rid)) fun rid hr => by simp [hr]
      split
      · exact List.length_cons ▸ Nat.add_comm .. ▸ h1.append
          ((ih _).mono (Nat.le_refl _) fun _ => LblFrom.mono fun rid hr => by
            simp only [List.any_cons, hr, Bool.or_true]) (eo_parseJsonRpc cfg x c _)
      · exact h1.mono (by simp) fun _ h => h
    | _ => exact .of_frame (.refl x)

/-- number of request objects of a message: an upper bound for the ids it can make the router generate -/
def msgWeight : Option Json → Nat
  | some (.arr l) => l.length
  | some (.obj _) => 1
  | _ => 0

/-- the message contains a routing response with id `rid` -/
def msgReplies (msg : Option Json) (rid : Bytes) : Bool :=
  match msg with
  | some (.arr l) => l.any (replyTo rid)
  | some (.obj m) => replyTo rid (.obj m)
  | _ => false

theorem sim_parseMessage (cfg : Config) (x : Ctx) (c : Nat) (msg : Option Json) :
    SimN (msgWeight msg) (EO x.st) (LblFrom c (msgReplies msg)) x (parseMessage cfg x c msg).1 := by
  unfold parseMessage
  split
  · exact sim_parseJsonArray cfg c _ x
  · exact sim_parseJsonRpc cfg x c _
  · exact .of_frame (.refl x)

end Cjet.Daemon.C03
