/-
  DaemonC08Noninterf — two runs that differ in password strings only (inside authenticate /
  passwd requests and in the password fields of the credential table) and in which every
  credential comparison has the same verdict produce the same outputs.
-/
import Cjet.Lemmas.DaemonC08Password

namespace Cjet.Daemon.C08

open Cjet Cjet.Json Cjet.Daemon

/-- the two credential tables agree in everything but the password fields -/
def PwOnly (us us' : List User) : Prop := us'.map UProj = us.map UProj

theorem PwOnly.refl (us : List User) : PwOnly us us := rfl

theorem PwOnly.findUser {us us' : List User} (h : PwOnly us us') (u : Bytes) :
    (findUser us u = none ∧ findUser us' u = none) ∨
    (∃ a a', findUser us u = some a ∧ findUser us' u = some a' ∧ UProj a' = UProj a) := by
  have e : ∀ l : List User, (Daemon.findUser l u).map UProj = (l.map UProj).find? (fun t => keyEq t.1 u) := fun l => by
    rw [List.find?_map]; rfl
  have e' := (e us').trans (h ▸ (e us).symm)
  cases h1 : Daemon.findUser us u <;> cases h2 : Daemon.findUser us' u <;> rw [h1, h2] at e'
  · exact Or.inl ⟨rfl, rfl⟩
  · cases e'
  · cases e'
  · exact Or.inr ⟨_, _, rfl, rfl, Option.some.inj e'⟩

theorem PwOnly.setPassword {us us' : List User} (h : PwOnly us us') (n n' pw pw' : Bytes) :
    PwOnly (setPassword us n pw) (setPassword us' n' pw') := by
  unfold PwOnly at *
  rw [setPassword_proj, setPassword_proj, h]

/-- every credential comparison an authenticate request causes has the same outcome in both runs -/
def Verdicts (us us' : List User) (req req' : Json) : Prop :=
  ∀ u pw pw', getCredentials req = .ok u pw → getCredentials req' = .ok u pw' →
    ∀ a a', findUser us u = some a → findUser us' u = some a' → (a.password == pw) = (a'.password == pw')

/-- `req'` is `req`, or both are authenticate / passwd requests with the same id and user that
    differ (at most) in the password they carry -/
def ReqRel (req req' : Json) : Prop :=
  req' = req ∨
  (methodOf req' = methodOf req ∧ (methodOf req = some (k "authenticate") ∨ methodOf req = some (k "passwd")) ∧
    req'.getItem (k "id") = req.getItem (k "id") ∧
    ∃ u pw pw', getCredentials req = .ok u pw ∧ getCredentials req' = .ok u pw')

theorem ReqRel.method {req req' : Json} (h : ReqRel req req') : methodOf req' = methodOf req := by
  rcases h with rfl | ⟨hm, _⟩
  · rfl
  · exact hm

theorem ReqRel.eq_of_method {req req' : Json} (h : ReqRel req req') (h1 : methodOf req ≠ some (k "authenticate"))
    (h2 : methodOf req ≠ some (k "passwd")) : req' = req :=
  h.elim id fun ⟨_, hmm, _⟩ => (hmm.elim h1 h2).elim

theorem ReqRel.creds {req req' : Json} (h : ReqRel req req') :
    req'.getItem (k "id") = req.getItem (k "id") ∧
    ((∃ r, getCredentials req = .err r ∧ getCredentials req' = .err r) ∨
     ∃ u pw pw', getCredentials req = .ok u pw ∧ getCredentials req' = .ok u pw') := by
  rcases h with rfl | ⟨_, _, hid, hc⟩
  · refine ⟨rfl, ?_⟩
    cases getCredentials req' with
    | err r => exact Or.inl ⟨r, rfl, rfl⟩
    | ok u pw => exact Or.inr ⟨u, pw, pw, rfl, rfl⟩
  · exact ⟨hid, Or.inr hc⟩

theorem errorFromRequest_id {req req' : Json} (hid : req'.getItem (k "id") = req.getItem (k "id")) (code : Int) (tag : String)
    (reason : Bytes) : errorFromRequest req' code tag reason = errorFromRequest req code tag reason := by
  unfold errorFromRequest; rw [hid]

theorem successFromRequest_id {req req' : Json} (hid : req'.getItem (k "id") = req.getItem (k "id")) :
    successFromRequest req' = successFromRequest req := by
  unfold successFromRequest resultFromRequest; rw [hid]

/-- result of the relational statements: the second run ends in the same context up to a
    credential table that still agrees with the first one's up to passwords, with the same verdict -/
def RelOut {α : Type} (r r' : Ctx × α) : Prop :=
  ∃ us'', PwOnly r.1.st.users us'' ∧ r' = (wu us'' r.1, r.2)

theorem RelOut.of_wu {α : Type} {f : Ctx → Ctx × α} (hf : ∀ us x, f (wu us x) = (wu us (f x).1, (f x).2))
    {x : Ctx} {us' : List User} (h : PwOnly x.st.users us') : RelOut (f x) (f (wu us' x)) :=
  ⟨us', users_of_wu f hf x ▸ h, hf us' x⟩

/-! ## authenticate, passwd -/

/-- the verdict of credentials_ok is the same in both runs -/
theorem credentialsOk_rel {us us' : List User} (h : PwOnly us us') {u pw pw' : Bytes}
    (hv : ∀ a a', findUser us u = some a → findUser us' u = some a' → (a.password == pw) = (a'.password == pw')) :
    credentialsOk us' u pw' = credentialsOk us u pw := by
  unfold credentialsOk
  rcases h.findUser u with ⟨h1, h2⟩ | ⟨a, a', h1, h2, hp⟩ <;> rw [h1, h2]
  · rfl
  · simp only [Option.bind_some]
    rw [hv a a' h1 h2, show a'.auth = a.auth from congrArg (·.2.1) hp]

/-- authenticate depends on the passwords through the verdict of credentials_ok only -/
theorem authenticateReq_rel (cfg : Config) (x : Ctx) (p : Peer) {req req' : Json} {us' : List User}
    (h : PwOnly x.st.users us') (hr : ReqRel req req') (hv : Verdicts x.st.users us' req req') :
    RelOut (authenticateReq cfg x p req) (authenticateReq cfg (wu us' x) p req') := by
  rw [authenticateReq_eq, authenticateReq_eq]
  obtain ⟨hid, ⟨r, hc, hc'⟩ | ⟨u, pw, pw', hc, hc'⟩⟩ := hr.creds <;> rw [hc, hc']
  · exact ⟨us', h, rfl⟩
  · dsimp only [wu_users]
    rw [credentialsOk_rel h (hv u pw pw' hc hc'), errorFromRequest_id hid, errorFromRequest_id hid, successFromRequest_id hid]
    cases (!p.fetches.isEmpty)
    · cases credentialsOk x.st.users u pw <;> exact ⟨us', h, rfl⟩
    · exact ⟨us', h, rfl⟩

theorem passwdVerdict_rel {us us' : List User} (h : PwOnly us us') (me : Option Bytes) (u : Bytes) :
    passwdVerdict us' me u = passwdVerdict us me u := by
  cases me with
  | none => rfl
  | some me =>
    have hadm : isAdmin us' me = isAdmin us me := by
      unfold isAdmin
      rcases h.findUser me with ⟨m1, m2⟩ | ⟨m, m', m1, m2, hm⟩ <;> rw [m1, m2]
      exact congrArg (·.2.2.2) hm
    unfold passwdVerdict
    rcases h.findUser u with ⟨h1, h2⟩ | ⟨t, t', h1, h2, hp⟩ <;> rw [h1, h2]
    dsimp only
    rw [hadm, show t'.readonly = t.readonly from congrArg (·.2.2.1) hp, show t'.name = t.name from congrArg Prod.fst hp]

/-- passwd: the answer does not depend on any password; the tables stay equal up to passwords -/
theorem passwdReq_rel (x : Ctx) (p : Peer) {req req' : Json} {us' : List User}
    (h : PwOnly x.st.users us') (hr : ReqRel req req') : RelOut (passwdReq x p req) (passwdReq (wu us' x) p req') := by
  rw [passwdReq_eq, passwdReq_eq]
  obtain ⟨hid, ⟨r, hc, hc'⟩ | ⟨u, pw, pw', hc, hc'⟩⟩ := hr.creds <;> rw [hc, hc']
  · exact ⟨us', h, rfl⟩
  · dsimp only [wu_users]
    rw [passwdVerdict_rel h]
    cases passwdVerdict x.st.users p.user u with
    | error reason => exact ⟨us', h, congrArg (Prod.mk _) (errorFromRequest_id hid ..)⟩
    | ok name => exact ⟨setPassword us' name pw', h.setPassword .., congrArg (Prod.mk _) (successFromRequest_id hid)⟩

/-! ## the dispatcher -/

/-- any method but authenticate / passwd commutes with replacing the credential table -/
theorem handleMethod_wu (cfg : Config) (us : List User) (x : Ctx) (p : Peer) (req : Json) (m : Bytes)
    (h1 : m ≠ k "authenticate") (h2 : m ≠ k "passwd") :
    handleMethod cfg (wu us x) p req m = (wu us (handleMethod cfg x p req m).1, (handleMethod cfg x p req m).2) :=
  handleMethod_induct₂ (P := fun m r r' => m ≠ k "authenticate" → m ≠ k "passwd" → r' = (wu us r.1, r.2))
    cfg x (wu us x) p p req req
    (fun _ _ => changeState_wu ..) (fun _ _ => setOrCall_wu ..) (fun _ _ => setOrCall_wu ..)
    (fun _ _ => addElement_wu ..) (fun _ _ => removeElementReq_wu ..) (fun _ _ => fetchReq_wu ..)
    (fun _ _ => unfetchReq_wu ..) (fun _ _ => getReq_wu ..) (fun _ _ => configReq_wu ..) (fun _ _ => infoReq_wu ..)
    (fun h _ => absurd rfl h) (fun _ h => absurd rfl h) (fun _ _ _ => rfl) m h1 h2

theorem handleMethod_rel (cfg : Config) (x : Ctx) (p : Peer) {req req' : Json} {us' : List User} (m : Bytes)
    (h : PwOnly x.st.users us') (hm : methodOf req = some m) (hr : ReqRel req req') (hv : Verdicts x.st.users us' req req') :
    RelOut (handleMethod cfg x p req m) (handleMethod cfg (wu us' x) p req' m) := by
  by_cases h1 : m = k "authenticate"
  · rw [h1, handleMethod_authenticate, handleMethod_authenticate]
    exact authenticateReq_rel cfg x p h hr hv
  by_cases h2 : m = k "passwd"
  · rw [h2, handleMethod_passwd, handleMethod_passwd]
    exact passwdReq_rel x p h hr
  obtain rfl := hr.eq_of_method (fun e => h1 (Option.some.inj (hm.symm.trans e))) (fun e => h2 (Option.some.inj (hm.symm.trans e)))
  exact RelOut.of_wu (f := fun y => handleMethod cfg y p req' m) (fun us y => handleMethod_wu cfg us y p req' m h1 h2) h

theorem sendResponse_rel {x : Ctx} {us'' : List User} (c : Nat) (r : Option Json) (h : PwOnly x.st.users us'') :
    RelOut (sendResponse x c r) (sendResponse (wu us'' x) c r) :=
  ⟨us'', (sendResponse_st x c r).symm ▸ h, sendResponse_wu us'' x c r⟩

/-- an object without a method name is an answer to a routed request, or refused -/
theorem parseJsonRpc_wu_nomethod (cfg : Config) (us : List User) (x : Ctx) (c : Nat) (req : Json)
    (hm : methodOf req = none) :
    parseJsonRpc cfg (wu us x) c req = (wu us (parseJsonRpc cfg x c req).1, (parseJsonRpc cfg x c req).2) := by
  cases hp : findPeer x.st.peers c with
  | none => rw [parseJsonRpc_noPeer hp, parseJsonRpc_noPeer (x := wu us x) hp]
  | some p =>
    have hp' : findPeer (wu us x).st.peers c = some p := hp
    cases hg : req.getItem (k "method") with
    | some v =>
      have hv : ∀ m, v ≠ .str m := fun m e => by rw [methodOf, hg, e] at hm; cases hm
      rw [parseJsonRpc_badMethod hp hg hv, parseJsonRpc_badMethod hp' hg hv]
      exact sendResponse_wu ..
    | none =>
      cases hr : req.getItem (k "result") with
      | some res =>
        rw [parseJsonRpc_result hp hg hr, parseJsonRpc_result hp' hg hr]
        exact routingResponse_wu ..
      | none =>
        cases he : req.getItem (k "error") with
        | some err =>
          rw [parseJsonRpc_error hp hg hr he, parseJsonRpc_error hp' hg hr he]
          exact routingResponse_wu ..
        | none =>
          rw [parseJsonRpc_neither hp hg hr he, parseJsonRpc_neither hp' hg hr he]
          exact sendResponse_wu ..

/-- one JSON-RPC object in two runs -/
theorem parseJsonRpc_rel (cfg : Config) (x : Ctx) (c : Nat) {req req' : Json} {us' : List User}
    (h : PwOnly x.st.users us') (hr : ReqRel req req') (hv : Verdicts x.st.users us' req req') :
    RelOut (parseJsonRpc cfg x c req) (parseJsonRpc cfg (wu us' x) c req') := by
  cases hm : methodOf req with
  | none =>
    obtain rfl := hr.eq_of_method (by rw [hm]; nofun) (by rw [hm]; nofun)
    exact RelOut.of_wu (f := fun y => parseJsonRpc cfg y c req') (fun us y => parseJsonRpc_wu_nomethod cfg us y c req' hm) h
  | some m =>
    cases hp : findPeer x.st.peers c with
    | none =>
      rw [parseJsonRpc_noPeer hp, parseJsonRpc_noPeer (x := wu us' x) hp]
      exact ⟨us', h, rfl⟩
    | some p =>
      rw [parseJsonRpc_of_methodOf hp hm, parseJsonRpc_of_methodOf (x := wu us' x) hp (hr.method.trans hm)]
      obtain ⟨us'', hus, heq⟩ := handleMethod_rel cfg x p m h hm hr hv
      rw [heq]
      exact sendResponse_rel c _ hus

/-! ## batches, messages, operations -/

theorem methodOf_some_obj {j : Json} {m : Bytes} (h : methodOf j = some m) : ∃ l, j = .obj l := by
  cases j with
  | obj l => exact ⟨l, rfl⟩
  | null | bool _ | num _ | str _ | arr _ => cases h

theorem ReqRel.obj {l : List (Bytes × Json)} {j' : Json} (h : ReqRel (.obj l) j') : ∃ l', j' = .obj l' := by
  rcases h with rfl | ⟨hm, hmm, _⟩
  · exact ⟨l, rfl⟩
  · rcases hmm with hmm | hmm <;> exact methodOf_some_obj (hm.trans hmm)

theorem ReqRel.nonobj {j j' : Json} (h : ReqRel j j') (hj : ∀ l, j ≠ .obj l) : j' = j :=
  h.eq_of_method (fun e => (methodOf_some_obj e).elim hj) (fun e => (methodOf_some_obj e).elim hj)

/-- the members of two batches are pairwise related, and every credential comparison has the
    same verdict in the contexts in which the members are processed -/
def ArrRel (cfg : Config) (c : Nat) : Ctx → List User → List Json → List Json → Prop
  | _, _, [], [] => True
  | x, us', j :: rest, j' :: rest' =>
      ReqRel j j' ∧ Verdicts x.st.users us' j j' ∧
      ArrRel cfg c (parseJsonRpc cfg x c j).1 (parseJsonRpc cfg (wu us' x) c j').1.st.users rest rest'
  | _, _, _, _ => False

theorem parseJsonArray_rel (cfg : Config) (c : Nat) (l l' : List Json) (x : Ctx) (us' : List User)
    (h : PwOnly x.st.users us') (hr : ArrRel cfg c x us' l l') :
    RelOut (parseJsonArray cfg x c l) (parseJsonArray cfg (wu us' x) c l') := by
  induction l generalizing l' x us' with
  | nil =>
    cases l' with
    | nil => exact ⟨us', h, rfl⟩
    | cons _ _ => exact hr.elim
  | cons j rest ih =>
    cases l' with
    | nil => exact hr.elim
    | cons j' rest' =>
      obtain ⟨hrel, hv, hrest⟩ := hr
      by_cases hj : ∃ m, j = .obj m
      · obtain ⟨m, rfl⟩ := hj
        obtain ⟨m', rfl⟩ := hrel.obj
        rw [parseJsonArray_cons_obj, parseJsonArray_cons_obj]
        obtain ⟨us'', hus, heq⟩ := parseJsonRpc_rel cfg x c h hrel hv
        rw [heq] at hrest ⊢
        cases (parseJsonRpc cfg x c (.obj m)).2 with
        | true => exact ih rest' _ us'' hus hrest
        | false => exact ⟨us'', hus, rfl⟩
      · have hj' : ∀ m, j ≠ .obj m := fun m e => hj ⟨m, e⟩
        obtain rfl := hrel.nonobj hj'
        rw [parseJsonArray_cons_other _ _ _ _ hj', parseJsonArray_cons_other _ _ _ _ hj']
        exact ⟨us', h, rfl⟩

/-- two messages of the same shape whose request objects are pairwise related -/
def MsgRel (cfg : Config) (c : Nat) (x : Ctx) (us' : List User) (msg msg' : Option Json) : Prop :=
  (∃ l l', msg = some (.arr l) ∧ msg' = some (.arr l') ∧ ArrRel cfg c x us' l l') ∨
  (∃ m j', msg = some (.obj m) ∧ msg' = some j' ∧ ReqRel (.obj m) j' ∧ Verdicts x.st.users us' (.obj m) j') ∨
  ((∀ l, msg ≠ some (.arr l)) ∧ (∀ m, msg ≠ some (.obj m)) ∧ msg' = msg)

theorem parseMessage_rel (cfg : Config) (c : Nat) (x : Ctx) (us' : List User) (msg msg' : Option Json)
    (h : PwOnly x.st.users us') (hr : MsgRel cfg c x us' msg msg') :
    RelOut (parseMessage cfg x c msg) (parseMessage cfg (wu us' x) c msg') := by
  rcases hr with ⟨l, l', rfl, rfl, ha⟩ | ⟨m, j', rfl, rfl, hrel, hv⟩ | ⟨h1, h2, rfl⟩
  · exact parseJsonArray_rel cfg c l l' x us' h ha
  · obtain ⟨m', rfl⟩ := hrel.obj
    exact parseJsonRpc_rel cfg x c h hrel hv
  · rw [parseMessage_other cfg x c h1 h2, parseMessage_other cfg (wu us' x) c h1 h2]
    exact ⟨us', h, rfl⟩

/-- two states that differ in the password fields of the credential table only -/
def StRel (s s' : State) : Prop := PwOnly s.users s'.users ∧ s' = { s with users := s'.users }

/-- two operations that differ in the password strings of authenticate / passwd requests only,
    with equal verdicts of all credential comparisons -/
def OpRel (cfg : Config) (s s' : State) (op op' : Op) : Prop :=
  op' = op ∧ (∀ c msg o, op = .message c msg o → MsgRel cfg c (mkCtx s o) s'.users msg msg) ∨
  (∃ c msg msg' o, op = .message c msg o ∧ op' = .message c msg' o ∧ MsgRel cfg c (mkCtx s o) s'.users msg msg')

theorem StRel.eq_with {s s' : State} (h : StRel s s') : ∃ us', PwOnly s.users us' ∧ s' = { s with users := us' } :=
  ⟨_, h.1, h.2⟩

theorem mkCtx_wu (s : State) (us' : List User) (o : Oracle) : mkCtx { s with users := us' } o = wu us' (mkCtx s o) := rfl

theorem StRel.of_comm {f : Ctx → Ctx} (hf : ∀ us x, f (wu us x) = wu us (f x)) {y : Ctx} {us'' : List User}
    (h : PwOnly y.st.users us'') :
    (f (wu us'' y)).out.reverse = (f y).out.reverse ∧ StRel (f y).st (f (wu us'' y)).st := by
  rw [hf]
  exact ⟨rfl, (congrArg (·.st.users) (hf y.st.users y) : (f y).st.users = y.st.users) ▸ h, rfl⟩

theorem step_message_rel (cfg : Config) {s : State} {us' : List User} (hpw : PwOnly s.users us') (c : Nat)
    (msg msg' : Option Json) (o : Oracle) (hm : MsgRel cfg c (mkCtx s o) us' msg msg') :
    (step cfg { s with users := us' } (.message c msg' o)).2 = (step cfg s (.message c msg o)).2 ∧
      StRel (step cfg s (.message c msg o)).1 (step cfg { s with users := us' } (.message c msg' o)).1 := by
  rw [step_message_eq, step_message_eq]
  dsimp only
  cases (findPeer s.peers c).isNone with
  | true => exact ⟨rfl, hpw, rfl⟩
  | false =>
    obtain ⟨us'', hus, heq⟩ := parseMessage_rel cfg c (mkCtx s o) us' msg msg' hpw hm
    rw [mkCtx_wu, heq]
    cases (parseMessage cfg (mkCtx s o) c msg).2 with
    | true => exact ⟨rfl, hus, rfl⟩
    | false =>
      simp only [Bool.false_eq_true, if_false]
      exact StRel.of_comm (f := (closePeer · c)) (fun us x => closePeer_wu us x c) hus

theorem step_rel (cfg : Config) {s s' : State} (h : StRel s s') (op op' : Op) (hop : OpRel cfg s s' op op') :
    (step cfg s' op').2 = (step cfg s op).2 ∧ StRel (step cfg s op).1 (step cfg s' op').1 := by
  obtain ⟨us', hpw, rfl⟩ := h.eq_with
  rcases hop with ⟨rfl, hsame⟩ | ⟨c, msg, msg', o, rfl, rfl, hm⟩
  · cases op' with
    | message c msg o => exact step_message_rel cfg hpw c msg msg o (hsame c msg o rfl)
    | connect c ws il a =>
      rw [step_connect_eq, step_connect_eq]
      by_cases hn : (findPeer s.peers c).isSome = true
      · rw [if_pos hn, if_pos hn]
        exact ⟨rfl, hpw, rfl⟩
      · rw [if_neg hn, if_neg hn]
        exact ⟨rfl, hpw, rfl⟩
    | disconnect c o =>
      rw [step_disconnect_eq, step_disconnect_eq, mkCtx_wu]
      by_cases hn : (findPeer s.peers c).isNone = true
      · rw [if_pos hn, if_pos hn]
        exact ⟨rfl, hpw, rfl⟩
      · rw [if_neg hn, if_neg hn]
        dsimp only
        exact StRel.of_comm (f := (closePeer · c)) (fun us x => closePeer_wu us x c) hpw
    | timerFire t o =>
      rw [step_timerFire_eq, step_timerFire_eq, mkCtx_wu]
      dsimp only
      exact StRel.of_comm (f := (timeoutFired · t)) (fun us x => timeoutFired_wu us x t) hpw
  · exact step_message_rel cfg hpw c msg msg' o hm

end Cjet.Daemon.C08
