/-
  C02: a small concrete scenario used by the non-vacuity examples of Props/C02.
  Peer 1 owns state "a"; peer 2 has an accepted, still unanswered `set` (id 5) routed to peer 1.
-/
import Cjet.Lemmas.DaemonC02Batch
import Cjet.Lemmas.DaemonC02Ledger

namespace Cjet.Daemon.C02.Ex

open Cjet Cjet.Json Cjet.Daemon

def n (i : Int) : Json := .num ⟨0, i⟩

def addA : Json :=
  .obj [(k "method", .str (k "add")), (k "params", .obj [(k "path", .str [0x61]), (k "value", n 1)]), (k "id", n 1)]

def setA : Json :=
  .obj [(k "method", .str (k "set")), (k "params", .obj [(k "path", .str [0x61]), (k "value", n 2)]), (k "id", n 5)]

def infoReq : Json := .obj [(k "method", .str (k "info")), (k "id", n 7)]

/-- the id the daemon generated for the routed `set`: "(null)_0_" (number origin id, uuid 0, one
    character cut) -/
def rid : Bytes := [40, 110, 117, 108, 108, 41, 95, 48, 95]

def replyA : Json := .obj [(k "id", .str rid), (k "result", .bool true)]

def junk : Json := .obj [(k "id", n 9), (k "foo", .null)]

def setup : List Op :=
  [.connect 1 false true [0x41], .connect 2 false true [0x42], .message 1 (some addA) {}, .message 2 (some setA) {}]

/-- reachable: the state after `setup` from the initial state -/
def sRouted : State := (run {} {} setup).1

/-- `sRouted`, evaluated once: the examples start from the value -/
theorem sRouted_eq : sRouted =
    { peers := [
        { conn := 1, ws := false, isLocal := true, addrTok := [0x41],
          elements := [{ path := [0x61], owner := 1, value := some (n 1), fetchOnly := false, timeoutNs := 5000000000,
                         fetchGroups := 0, setGroups := 0, callGroups := 0, fetchers := [none, none, none, none] }],
          routes := [{ rid := rid, requester := 2, owner := 1, originId := some (n 5), timer := 0 }] },
        { conn := 2, ws := false, isLocal := true, addrTok := [0x42] }],
      index := [([0x61], 1)], uuid := 1, nextTimer := 1 } := by
  with_unfolding_all rfl

/-- `true` iff some observation sends a response object to a connection other than `c` -/
def respToOther (c : Nat) (obs : List Obs) : Bool :=
  obs.any (fun o => match o with | .send d j _ => d != c && isResponse j | _ => false)

theorem respToOther_exists {c : Nat} {obs : List Obs} (h : respToOther c obs = true) :
    ∃ d j b, Obs.send d j b ∈ obs ∧ isResponse j = true ∧ d ≠ c := by
  obtain ⟨o, ho, hf⟩ := List.any_eq_true.1 h
  cases o with
  | send d j b =>
    simp only [Bool.and_eq_true, bne_iff_ne, ne_eq] at hf
    exact ⟨d, j, b, ho, hf.2, hf.1⟩
  | _ => simp at hf

theorem answerable_of_bool {req : Json} (h : answerableB req = true) : Answerable req :=
  answerableB_iff.1 h

deriving instance DecidableEq for Oracle

theorem info_ok : (parseJsonRpc {} (mkCtx sRouted {}) 1 infoReq).2 = true ∧
    restOracle (parseJsonRpc {} (mkCtx sRouted {}) 1 infoReq).1 = {} := by
  rw [sRouted_eq]
  decide +kernel

end Cjet.Daemon.C02.Ex
