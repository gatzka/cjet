/-
  DaemonC08Step — one operation of the daemon as a chain of units (one JSON-RPC object, one
  close, one timer expiry); invariants and output justification lifted to `step` and `run`.
  Along the chain the authentication fields of a peer change only in a unit that is a request of
  that very peer carrying a user name and the password stored for it, and the credential table
  changes in its password fields only.
-/
import Cjet.Lemmas.DaemonC08Handlers

namespace Cjet.Daemon.C08

open Cjet Cjet.Json Cjet.Daemon

/-! ## dispatch -/

/-- path and fetch groups declared by the request if it is an `add` request -/
def declOf (cfg : Config) (req : Json) : Option (Bytes × Nat) :=
  match req.getItem (k "method") with
  | some (.str m) => if m == k "add" then addDecl cfg req else none
  | _ => none

theorem Good.weaken {cfg : Config} {d : Option (Bytes × Nat)} {c : Nat} {req : Json} {x : Ctx} {r : Ctx × Option Json}
    (h : Good cfg none c req x r) : Good cfg d c req x r :=
  ⟨h.inv, h.out.mono (fun _ ho => J.weaken ho), h.resp, h.auth⟩

theorem handleMethod_good {cfg : Config} {x : Ctx} {p : Peer} {req : Json} {m : Bytes} {d : Option (Bytes × Nat)}
    (h : FInv cfg x.st) (hp : findPeer x.st.peers p.conn = some p) (hd : m = k "add" → d = addDecl cfg req) :
    Good cfg d p.conn req x (handleMethod cfg x p req m) :=
  handleMethod_induct cfg x p req m
    (fun _ => changeState_good h) (fun _ => setOrCall_good h) (fun _ => setOrCall_good h)
    (fun hm => hd hm ▸ addElement_good h) (fun _ => removeElementReq_good h hp) (fun _ => fetchReq_good h hp)
    (fun _ => unfetchReq_good h) (fun _ => getReq_good h) (fun _ => configReq_good h) (fun _ => infoReq_good h)
    (fun _ => authenticateReq_good h hp) (fun _ => passwdReq_good h) (Good.err h ..)

theorem sendResponse_good {cfg : Config} {d : Option (Bytes × Nat)} {c : Nat} {req : Json} {x : Ctx} {r : Ctx × Option Json}
    (h : Good cfg d c req x r) : Good cfg d c req x ((sendResponse r.1 c r.2).1, none) := by
  obtain ⟨y, resp⟩ := r
  refine ⟨by rw [sendResponse_st]; exact h.inv, ?_, nofun, by rw [sendResponse_st]; exact h.auth⟩
  cases resp with
  | none => exact h.out
  | some j => exact h.out.trans (OutExt.send _ _ _ fun _ => Or.inl (h.resp j rfl))

theorem parseJsonRpc_good {cfg : Config} {x : Ctx} {c : Nat} {req : Json} (h : FInv cfg x.st) :
    Good cfg (declOf cfg req) c req x ((parseJsonRpc cfg x c req).1, none) := by
  cases hp : findPeer x.st.peers c with
  | none => rw [parseJsonRpc_noPeer hp]; exact (Ok.refl h).good nofun
  | some p =>
    obtain rfl := findPeer_conn hp
    cases hm : req.getItem (k "method") with
    | some mj =>
      cases mj with
      | str m =>
        rw [parseJsonRpc_method hp hm]
        refine sendResponse_good (handleMethod_good h hp fun hm' => ?_)
        rw [declOf, hm, hm']
        exact if_pos (beq_self_eq_true _)
      | _ => rw [parseJsonRpc_badMethod hp hm (fun _ => nofun)]; exact sendResponse_good (r := (x, _)) (Good.err h ..)
    | none =>
      cases hr : req.getItem (k "result") with
      | some res => rw [parseJsonRpc_result hp hm hr]; exact (routingResponse_ok (Ok.refl h)).good nofun
      | none =>
        cases he : req.getItem (k "error") with
        | some err => rw [parseJsonRpc_error hp hm hr he]; exact (routingResponse_ok (Ok.refl h)).good nofun
        | none => rw [parseJsonRpc_neither hp hm hr he]; exact sendResponse_good (r := (x, _)) (Good.err h ..)

/-! ## units -/

inductive Unit where
  | req (x : Ctx) (c : Nat) (j : Json)
  | close (x : Ctx) (c : Nat)
  | timeout (x : Ctx) (t : Nat)

/-- the context in which the unit starts -/
def Unit.pre : Unit → Ctx
  | .req x _ _ => x
  | .close x _ => x
  | .timeout x _ => x

def Unit.post (cfg : Config) : Unit → Ctx
  | .req x c j => (parseJsonRpc cfg x c j).1
  | .close x c => closePeer x c
  | .timeout x t => timeoutFired x t

def Unit.decl (cfg : Config) : Unit → Option (Bytes × Nat)
  | .req _ _ j => declOf cfg j
  | _ => none

/-- effect of the unit on the authentication data -/
def Unit.authEff (cfg : Config) : Unit → Prop
  | .req x c j => AuthEff cfg x.st c j (parseJsonRpc cfg x c j).1.st
  | u => AuthSame u.pre.st (u.post cfg).st

def arrayUnits (cfg : Config) (x : Ctx) (c : Nat) : List Json → List Unit
  | [] => []
  | .obj l :: rest =>
    .req x c (.obj l) ::
      (if (parseJsonRpc cfg x c (.obj l)).2 then arrayUnits cfg (parseJsonRpc cfg x c (.obj l)).1 c rest else [])
  | _ :: _ => []

def msgUnits (cfg : Config) (x : Ctx) (c : Nat) : Option Json → List Unit
  | some (.arr l) => arrayUnits cfg x c l
  | some (.obj l) => [.req x c (.obj l)]
  | _ => []

/-- the units of one operation, in the order in which they run -/
def unitsOf (cfg : Config) (s : State) : Op → List Unit
  | .connect _ _ _ _ => []
  | .message c msg o =>
    if (findPeer s.peers c).isNone then []
    else msgUnits cfg (mkCtx s o) c msg ++
      (if (parseMessage cfg (mkCtx s o) c msg).2 then [] else [.close (parseMessage cfg (mkCtx s o) c msg).1 c])
  | .disconnect c o => if (findPeer s.peers c).isNone then [] else [.close (mkCtx s o) c]
  | .timerFire t o => [.timeout (mkCtx s o) t]

/-- `us` run one after the other lead from `x` to `x'` -/
inductive Chain (cfg : Config) : Ctx → List Unit → Ctx → Prop
  | nil (x : Ctx) : Chain cfg x [] x
  | cons {u : Unit} {us : List Unit} {x' : Ctx} : Chain cfg (u.post cfg) us x' → Chain cfg u.pre (u :: us) x'

theorem Chain.append {cfg : Config} {x y z : Ctx} {us vs : List Unit} (h1 : Chain cfg x us y) (h2 : Chain cfg y vs z) :
    Chain cfg x (us ++ vs) z := by
  induction h1 with
  | nil => exact h2
  | cons _ ih => exact Chain.cons (ih h2)

theorem Chain.single (cfg : Config) (u : Unit) : Chain cfg u.pre [u] (u.post cfg) := Chain.cons (Chain.nil _)

theorem arrayUnits_chain (cfg : Config) (c : Nat) (l : List Json) (x : Ctx) :
    Chain cfg x (arrayUnits cfg x c l) (parseJsonArray cfg x c l).1 := by
  induction l generalizing x with
  | nil => exact Chain.nil _
  | cons j rest ih =>
    cases j with
    | obj m =>
      rw [arrayUnits, parseJsonArray_cons_obj]
      cases (parseJsonRpc cfg x c (.obj m)).2 with
      | true => exact Chain.cons (u := .req x c (.obj m)) (ih _)
      | false => exact Chain.cons (u := .req x c (.obj m)) (Chain.nil _)
    | _ => exact Chain.nil _

theorem msgUnits_chain (cfg : Config) (c : Nat) (msg : Option Json) (x : Ctx) :
    Chain cfg x (msgUnits cfg x c msg) (parseMessage cfg x c msg).1 := by
  cases msg with
  | none => exact Chain.nil _
  | some j =>
    cases j with
    | arr l => exact arrayUnits_chain cfg c l x
    | obj l => exact Chain.single cfg (.req x c (.obj l))
    | _ => exact Chain.nil _

/-- The first case: a connect, or a message / disconnect of an unknown connection. -/
theorem step_chain (cfg : Config) (s : State) (op : Op) :
    (unitsOf cfg s op = [] ∧ (step cfg s op).2 = [] ∧
      ((step cfg s op).1 = s ∨ ∃ c ws il a, op = .connect c ws il a ∧ findPeer s.peers c = none ∧
        (step cfg s op).1 = { s with peers := s.peers ++ [{ conn := c, ws := ws, isLocal := il, addrTok := a }] })) ∨
    ∃ o x', Chain cfg (mkCtx s o) (unitsOf cfg s op) x' ∧ step cfg s op = (x'.st, x'.out.reverse) := by
  cases op with
  | connect c ws il a =>
    rw [step_connect_eq]
    cases hf : findPeer s.peers c with
    | some p => exact Or.inl ⟨rfl, rfl, Or.inl rfl⟩
    | none => exact Or.inl ⟨rfl, rfl, Or.inr ⟨c, ws, il, a, rfl, hf, rfl⟩⟩
  | message c msg o =>
    rw [step_message_eq, unitsOf]
    cases (findPeer s.peers c).isNone with
    | true => exact Or.inl ⟨rfl, rfl, Or.inl rfl⟩
    | false =>
      refine Or.inr ⟨o, ?_⟩
      have hch := msgUnits_chain cfg c msg (mkCtx s o)
      dsimp only
      cases (parseMessage cfg (mkCtx s o) c msg).2 with
      | true => exact ⟨_, by simpa using hch, rfl⟩
      | false => exact ⟨_, hch.append (Chain.single cfg (.close _ c)), rfl⟩
  | disconnect c o =>
    rw [step_disconnect_eq, unitsOf]
    cases (findPeer s.peers c).isNone with
    | true => exact Or.inl ⟨rfl, rfl, Or.inl rfl⟩
    | false => exact Or.inr ⟨o, _, Chain.single cfg (.close (mkCtx s o) c), rfl⟩
  | timerFire t o => exact Or.inr ⟨o, _, Chain.single cfg (.timeout (mkCtx s o) t), rfl⟩

/-! ## lifting along a chain -/

theorem chain_lift {cfg : Config} (I : State → Prop) (Q : Unit → Obs → Prop)
    (hstep : ∀ u : Unit, I u.pre.st → I (u.post cfg).st ∧ OutExt (Q u) u.pre (u.post cfg))
    {x x' : Ctx} {us : List Unit} (hc : Chain cfg x us x') (hI : I x.st) :
    I x'.st ∧ (∀ u ∈ us, I u.pre.st) ∧ ∃ new, x'.out = new ++ x.out ∧ ∀ o ∈ new, ∃ u ∈ us, Q u o := by
  induction hc with
  | nil x => exact ⟨hI, by simp, [], rfl, by simp⟩
  | cons hrest ih =>
    rename_i u us x'
    obtain ⟨i1, n1, e1, q1⟩ := hstep u hI
    obtain ⟨i2, a2, n2, e2, q2⟩ := ih i1
    refine ⟨i2, ?_, n2 ++ n1, by rw [e2, e1, List.append_assoc], ?_⟩
    · intro v hv
      rcases List.mem_cons.mp hv with rfl | hv
      · exact hI
      · exact a2 v hv
    · intro o ho
      rcases List.mem_append.mp ho with h | h
      · obtain ⟨v, hv, hq⟩ := q2 o h
        exact ⟨v, List.mem_cons_of_mem _ hv, hq⟩
      · exact ⟨u, List.mem_cons_self .., q1 o h⟩

/-! ## the invariant of the access-control proofs -/

structure Inv (cfg : Config) (s : State) : Prop where
  f : FInv cfg s
  a : AuthInv cfg s

theorem unit_good (cfg : Config) (u : Unit) (h : FInv cfg u.pre.st) :
    FInv cfg (u.post cfg).st ∧ OutExt (J cfg u.pre.st (u.decl cfg)) u.pre (u.post cfg) ∧ u.authEff cfg := by
  cases u with
  | req x c j => exact have g := parseJsonRpc_good (c := c) (req := j) h; ⟨g.inv, g.out, g.auth⟩
  | close x c => exact have g := closePeer_ok (d := none) (c := c) (Ok.refl h); ⟨g.inv, g.out, g.auth⟩
  | timeout x t => exact have g := timeoutFired_ok (d := none) (t := t) (Ok.refl h); ⟨g.inv, g.out, g.auth⟩

theorem AuthInv.of_unit {cfg : Config} {u : Unit} (h : AuthInv cfg u.pre.st) (he : u.authEff cfg) :
    AuthInv cfg (u.post cfg).st := by
  cases u with
  | req x c j => exact h.of_eff he
  | close x c => exact h.of_same he
  | timeout x t => exact h.of_same he

theorem unit_inv (cfg : Config) (u : Unit) (h : Inv cfg u.pre.st) :
    Inv cfg (u.post cfg).st ∧ OutExt (J cfg u.pre.st (u.decl cfg)) u.pre (u.post cfg) := by
  obtain ⟨a, b, c⟩ := unit_good cfg u h.f
  exact ⟨⟨a, h.a.of_unit c⟩, b⟩

theorem Inv.init (cfg : Config) (us : List User) : Inv cfg { users := us } :=
  ⟨⟨List.nodup_nil, fun _ ho => by cases ho⟩, fun _ hp => by cases hp⟩

theorem Inv.connect {cfg : Config} {s : State} (h : Inv cfg s) (c : Nat) (ws il : Bool) (a : Bytes)
    (hf : findPeer s.peers c = none) :
    Inv cfg { s with peers := s.peers ++ [{ conn := c, ws := ws, isLocal := il, addrTok := a }] } := by
  have hnot : c ∉ s.peers.map (·.conn) := findPeer_none_iff.1 hf
  refine ⟨⟨?_, fun o ho e he fk hfk => ?_⟩, fun p hp => ?_⟩
  · show ((s.peers ++ [_]).map (fun q : Peer => q.conn)).Nodup
    rw [List.map_append]
    exact List.nodup_append.2 ⟨h.f.nodup, by simp, fun a ha b hb hab =>
      hnot ((hab.trans (List.mem_singleton.1 hb) : a = c) ▸ ha)⟩
  · rcases List.mem_append.1 ho with ho | ho
    · exact (h.f.fetchers o ho e he fk hfk).transfer fun q hq hu => ⟨q, by rw [findPeer_append, hq]; rfl, hu, rfl⟩
    · cases List.mem_singleton.1 ho
      cases he
  · rcases List.mem_append.1 hp with hp | hp
    · exact h.a p hp
    · cases List.mem_singleton.1 hp
      exact Or.inl ⟨rfl, rfl, rfl, rfl⟩

/-- every output of an operation was sent by one of its units and is justified there; all units
    start in states satisfying the invariant -/
theorem step_inv (cfg : Config) (s : State) (op : Op) (h : Inv cfg s) :
    Inv cfg (step cfg s op).1 ∧ (∀ u ∈ unitsOf cfg s op, Inv cfg u.pre.st) ∧
      ∀ o ∈ (step cfg s op).2, ∃ u ∈ unitsOf cfg s op, J cfg u.pre.st (u.decl cfg) o := by
  rcases step_chain cfg s op with ⟨h1, h2, h3⟩ | ⟨o, x', hch, hs⟩
  · refine ⟨?_, by rw [h1]; nofun, by rw [h2]; nofun⟩
    rcases h3 with h3 | ⟨c, ws, il, a, _, hf, h3⟩ <;> rw [h3]
    · exact h
    · exact h.connect c ws il a hf
  · obtain ⟨i1, i2, new, e, q⟩ := chain_lift (cfg := cfg) (Inv cfg) (fun u => J cfg u.pre.st (u.decl cfg))
      (fun u hu => unit_inv cfg u hu) hch h
    rw [hs]
    refine ⟨i1, i2, fun o ho => q o ?_⟩
    rwa [List.mem_reverse, e, show (mkCtx s _).out = [] from rfl, List.append_nil] at ho

/-- states reachable from an initial state with credential table `us` -/
def Reach (cfg : Config) (us : List User) (s : State) : Prop := ∃ ops, s = (run cfg { users := us } ops).1

theorem Reach.inv {cfg : Config} {us : List User} {s : State} (h : Reach cfg us s) : Inv cfg s := by
  obtain ⟨ops, rfl⟩ := h
  exact run_inv (I := fun s _ => Inv cfg s) cfg ops (H := []) (fun s op _ h => (step_inv cfg s op h).1) (Inv.init cfg us)

theorem Reach.step {cfg : Config} {us : List User} {s : State} (h : Reach cfg us s) (op : Op) :
    Reach cfg us (step cfg s op).1 := by
  obtain ⟨ops, rfl⟩ := h
  exact ⟨ops ++ [op], by rw [run_append]; rfl⟩

/-! ## the authentication fields change by a verified authenticate only -/

/-- unit `u` is a request of the connection of `p'` that names a user of the credential table
    (found by the case-folded lookup), presents exactly the password stored for it, that record
    has an "auth" object, and the authentication fields of `p'` are the name presented and the
    three words get_groups derives from that object -/
def VerifiedAuth (cfg : Config) (u : Unit) (p' : Peer) : Prop :=
  ∃ x req name pw usr auth, u = .req x p'.conn req ∧ getCredentials req = .ok name pw ∧
    findUser x.st.users name = some usr ∧ usr.password = pw ∧ usr.auth = some auth ∧
    p'.user = some name ∧
    p'.fetchGroups = getGroups cfg (auth.getItem (k "fetchGroups")) ∧
    p'.setGroups = getGroups cfg (auth.getItem (k "setGroups")) ∧
    p'.callGroups = getGroups cfg (auth.getItem (k "callGroups"))

theorem VerifiedAuth.of_AV {cfg : Config} {u : Unit} {p p' : Peer} (h : VerifiedAuth cfg u p) (e : AV p' = AV p) :
    VerifiedAuth cfg u p' := by
  simp only [AV, Prod.mk.injEq] at e
  obtain ⟨e1, e2, e3, e4, e5⟩ := e
  unfold VerifiedAuth
  rw [e1, e2, e3, e4, e5]
  exact h

theorem unit_auth (cfg : Config) (u : Unit) (hI : FInv cfg u.pre.st) :
    ∀ p' ∈ (u.post cfg).st.peers, (∃ p ∈ u.pre.st.peers, AV p' = AV p) ∨ VerifiedAuth cfg u p' := by
  have heff := (unit_good cfg u hI).2.2
  intro p' hp'
  cases u with
  | req x c req =>
    rcases heff with hs | ⟨name, pw, usr, auth, h1, h2, h3, h4, _, hp⟩ | ⟨_, _, hp, _⟩
    · exact Or.inl (hs.2 p' hp')
    · rw [show (Unit.post cfg (.req x c req)).st.peers = _ from hp] at hp'
      obtain ⟨q, hq, rfl⟩ := mem_updatePeer.1 hp'
      split
      · next hqc =>
        exact Or.inr ⟨x, req, name, pw, usr, auth, by rw [← beq_iff_eq.1 hqc]; rfl, h1, h2, h3, h4, rfl, rfl, rfl, rfl⟩
      · exact Or.inl ⟨q, hq, rfl⟩
    · exact Or.inl ⟨p', hp ▸ hp', rfl⟩
  | close x c => exact Or.inl (heff.2 p' hp')
  | timeout x t => exact Or.inl (heff.2 p' hp')

theorem chain_auth {cfg : Config} {x x' : Ctx} {us : List Unit} (hc : Chain cfg x us x') (hI : FInv cfg x.st) :
    ∀ p' ∈ x'.st.peers, (∃ p ∈ x.st.peers, AV p' = AV p) ∨ ∃ u ∈ us, VerifiedAuth cfg u p' := by
  induction hc with
  | nil x => exact fun p' hp' => Or.inl ⟨p', hp', rfl⟩
  | cons hrest ih =>
    rename_i u us x'
    intro p' hp'
    rcases ih (unit_good cfg u hI).1 p' hp' with ⟨p1, hp1, e1⟩ | ⟨v, hv, hver⟩
    · rcases unit_auth cfg u hI p1 hp1 with ⟨p, hp, e2⟩ | hv
      · exact Or.inl ⟨p, hp, e1.trans e2⟩
      · exact Or.inr ⟨u, List.mem_cons_self .., hv.of_AV e1⟩
    · exact Or.inr ⟨v, List.mem_cons_of_mem _ hv, hver⟩

theorem step_auth {cfg : Config} {s : State} (hI : Inv cfg s) (op : Op) :
    ∀ p' ∈ (step cfg s op).1.peers,
      (∃ p ∈ s.peers, AV p' = AV p) ∨
      (∃ ws il a, op = .connect p'.conn ws il a ∧ p'.user = none ∧ p'.fetchGroups = 0 ∧ p'.setGroups = 0 ∧ p'.callGroups = 0) ∨
      (∃ u ∈ unitsOf cfg s op, VerifiedAuth cfg u p') := by
  intro p' hp'
  rcases step_chain cfg s op with ⟨_, _, h3 | ⟨c, ws, il, a, hop, _, h3⟩⟩ | ⟨o, x', hch, hs⟩
  · exact Or.inl ⟨p', h3 ▸ hp', rfl⟩
  · rw [h3] at hp'
    rcases List.mem_append.1 hp' with h | h
    · exact Or.inl ⟨p', h, rfl⟩
    · cases List.mem_singleton.1 h
      exact Or.inr (Or.inl ⟨ws, il, a, hop, rfl, rfl, rfl, rfl⟩)
  · rw [hs] at hp'
    exact (chain_auth hch hI.f p' hp').imp_right Or.inr

/-! ## the credential table changes in its password fields only -/

/-- everything of a credential record but the password -/
def UProj (u : User) : Bytes × Option Json × Bool × Bool := (u.name, u.auth, u.readonly, u.admin)

theorem setPassword_proj (us : List User) (name pw : Bytes) : (setPassword us name pw).map UProj = us.map UProj := by
  unfold setPassword
  rw [List.map_map]
  apply List.map_congr_left
  intro u _
  simp only [Function.comp]
  split <;> rfl

theorem AuthEff.users_proj {cfg : Config} {s s' : State} {c : Nat} {req : Json} (h : AuthEff cfg s c req s') :
    s'.users.map UProj = s.users.map UProj := by
  rcases h with h | ⟨_, _, _, _, _, _, _, _, hu, _⟩ | ⟨name, pw, _, hu⟩
  · rw [h.1]
  · rw [hu]
  · rw [hu, setPassword_proj]

theorem Unit.users_proj {cfg : Config} {u : Unit} (h : u.authEff cfg) :
    (u.post cfg).st.users.map UProj = u.pre.st.users.map UProj := by
  cases u with
  | req x c j => exact AuthEff.users_proj h
  | close x c => have := h.1; exact congrArg _ this
  | timeout x t => have := h.1; exact congrArg _ this

theorem chain_users {cfg : Config} {x x' : Ctx} {us : List Unit} (hc : Chain cfg x us x') (hI : FInv cfg x.st) :
    x'.st.users.map UProj = x.st.users.map UProj := by
  induction hc with
  | nil x => rfl
  | cons hrest ih =>
    rename_i u us x'
    obtain ⟨hpost, _, heff⟩ := unit_good cfg u hI
    exact (ih hpost).trans (Unit.users_proj heff)

theorem step_users {cfg : Config} {s : State} (hI : Inv cfg s) (op : Op) :
    (step cfg s op).1.users.map UProj = s.users.map UProj := by
  rcases step_chain cfg s op with ⟨_, _, h3 | ⟨_, _, _, _, _, _, h3⟩⟩ | ⟨o, x', hch, hs⟩
  · rw [h3]
  · rw [h3]
  · rw [hs]; exact chain_users hch hI.f

theorem run_users {cfg : Config} (ops : List Op) (s : State) (hI : Inv cfg s) :
    (run cfg s ops).1.users.map UProj = s.users.map UProj :=
  (run_inv (I := fun s' _ => Inv cfg s' ∧ s'.users.map UProj = s.users.map UProj) cfg ops (H := [])
    (fun s' op _ h => ⟨(step_inv cfg s' op h.1).1, (step_users h.1 op).trans h.2⟩) ⟨hI, rfl⟩).2

end Cjet.Daemon.C08
