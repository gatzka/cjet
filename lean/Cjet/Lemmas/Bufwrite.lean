import Cjet.Bufwrite
/-! Helper lemmas for `Cjet.Props.C10` (write side of buffered_socket.c). -/
namespace Cjet.Bufwrite

variable {α : Type}

/-! ## the kernel's answers -/

theorem res_took_le {k : KW} {m n : Nat} (h : k.res m = .took n) : n ≤ m := by
  cases k with
  | all => cases h; exact Nat.le_refl _
  | part j => cases h; exact Nat.min_le_right ..
  | block | err => cases h

theorem res_took_pos {k : KW} {m n : Nat} (hk : k.ok = true) (hm : 0 < m) (h : k.res m = .took n) : 1 ≤ n := by
  cases k with
  | all => cases h; exact hm
  | part j => cases h; exact Nat.le_min.mpr ⟨of_decide_eq_true hk, hm⟩
  | block | err => cases h

theorem nextAnswer_ok (ks : List KW) (h : ∀ k ∈ ks, k.ok = true) :
    (nextAnswer ks).1.ok = true ∧ ∀ k ∈ (nextAnswer ks).2, k.ok = true := by
  cases ks with
  | nil => exact ⟨rfl, nofun⟩
  | cons k ks => exact ⟨h k List.mem_cons_self, fun k' hk' => h k' (List.mem_cons_of_mem _ hk')⟩

/-! ## `copy_iovec_to_write_buffer` -/

/-- After the size check the element-wise copy cannot refuse and queues exactly the unsent
    tail of the frame. -/
theorem copyIovec_spec (cap : Nat) (buf : List α) (cs : List (List α)) (ivw : Nat)
    (h : buf.length + (cs.flatten.length - ivw) ≤ cap) :
    copyIovec cap buf cs ivw = (buf ++ cs.flatten.drop ivw, true) := by
  induction cs generalizing buf ivw with
  | nil => simp [copyIovec]
  | cons c cs ih =>
    rw [List.flatten_cons, List.length_append] at h
    rw [copyIovec, List.flatten_cons, List.drop_append]
    split
    · -- the cut is inside `c`: its tail fits, and the following elements are copied whole
      next hlt =>
      rw [if_neg (by rw [List.length_drop]; omega), ih, List.drop_zero, Nat.sub_eq_zero_of_le (Nat.le_of_lt hlt),
        List.drop_zero, List.append_assoc]
      rw [List.length_append, List.length_drop]; omega
    ·
      next hge =>
      rw [ih _ _ (by omega), List.drop_eq_nil_of_le (Nat.le_of_not_lt hge), List.nil_append]

/-- The per-element free-space check keeps the buffer within its capacity in every case. -/
theorem copyIovec_le (cap : Nat) (buf : List α) (cs : List (List α)) (ivw : Nat) (h : buf.length ≤ cap) :
    (copyIovec cap buf cs ivw).1.length ≤ cap := by
  fun_induction copyIovec cap buf cs ivw with
  | case1 => exact h
  | case2 buf c cs ivw _ piece hbig => exact h
  | case3 buf c cs ivw _ piece hfit ih => exact ih (by rw [List.length_append]; omega)
  | case4 buf c cs ivw _ ih => exact ih h

/-- What one operation guarantees when it was asked to send `extra` behind `w.pending`. -/
structure Post (cap : Nat) (w : Writer α) (extra : List α) (r : Res α) : Prop where
  /-- success: everything is either at the kernel or queued, in order -/
  ok : r.rc = 0 → r.w.failed = false ∧ r.out ++ r.w.pending = w.pending ++ extra
  /-- failure on a live connection: nothing of `extra` was sent or queued -/
  refused : r.rc ≠ 0 → r.w.failed = false → r.out ++ r.w.pending = w.pending
  /-- the connection was marked failed: failure is reported, what the kernel got is a prefix -/
  dead : r.w.failed = true → r.rc ≠ 0 ∧ ∃ t, r.out ++ t = w.pending ++ extra
  /-- the write buffer never holds more than its capacity -/
  le : w.pending.length ≤ cap → r.w.pending.length ≤ cap

section
variable {cap : Nat} {w : Writer α} {extra p out : List α} {ks : List KW} {c : Nat}

theorem Post.accepted (h : out ++ p = w.pending ++ extra) (hle : w.pending.length ≤ cap → p.length ≤ cap) :
    Post cap w extra ⟨⟨p, false⟩, 0, out, ks, c⟩ :=
  ⟨fun _ => ⟨rfl, h⟩, fun h0 => absurd rfl h0, nofun, hle⟩

theorem Post.rejected (h : out ++ p = w.pending) (hle : w.pending.length ≤ cap → p.length ≤ cap) :
    Post cap w extra ⟨⟨p, false⟩, -1, out, ks, c⟩ :=
  ⟨nofun, fun _ _ => h, nofun, hle⟩

theorem Post.killed (h : ∃ t, out ++ t = w.pending ++ extra) (hle : w.pending.length ≤ cap → p.length ≤ cap) :
    Post cap w extra ⟨⟨p, true⟩, -1, out, ks, c⟩ :=
  ⟨nofun, nofun, fun _ => ⟨nofun, h⟩, hle⟩

end

/-- `hrc`: `r` reports failure only by marking the connection failed, so the whole never refuses. -/
theorem Post.after_sent {cap c : Nat} {w : Writer α} {extra sent rest : List α} {r : Res α}
    (hs : sent ++ rest = w.pending ++ extra) (hle : w.pending.length ≤ cap → rest.length ≤ cap)
    (h : Post cap ⟨rest, false⟩ [] r) (hrc : r.rc = if r.w.failed then -1 else 0) :
    Post cap w extra { r with out := sent ++ r.out, calls := c } :=
  have hsplit : ∀ t, r.out ++ t = rest ++ [] → sent ++ r.out ++ t = w.pending ++ extra := fun t e => by
    rw [List.append_assoc, e, List.append_nil, hs]
  ⟨fun h0 => ⟨(h.ok h0).1, hsplit _ (h.ok h0).2⟩, fun h0 hf => absurd (by rw [hrc, hf]; rfl) h0,
    fun hf => ⟨(h.dead hf).1, (h.dead hf).2.imp hsplit⟩, fun hc => h.le (hle hc)⟩

/-! ## `send_buffer` -/

theorem sendLoop_rc (orig : List α) (ks : List KW) (rem : List α) :
    (sendLoop orig ks rem).rc = if (sendLoop orig ks rem).w.failed then -1 else 0 := by
  fun_induction sendLoop orig ks rem with
  | case3 k ks a rem n hk r ih => exact ih
  | _ => rfl

theorem sendLoop_spec (cap : Nat) (orig : List α) (ks : List KW) (rem : List α) :
    Post cap ⟨rem, false⟩ [] (sendLoop orig ks rem) := by
  fun_induction sendLoop orig ks rem with
  | case1 ks => exact .accepted rfl id
  | case2 a rem | case4 k ks a rem hk => exact .accepted (List.append_nil _).symm id
  | case3 k ks a rem n hk r ih =>
    exact .after_sent ((List.take_append_drop ..).trans (List.append_nil _).symm)
      (Nat.le_trans (List.drop_sublist ..).length_le) ih (sendLoop_rc ..)
  | case5 k ks a rem hk => exact .killed ⟨_, (List.append_nil _).symm⟩ (Nat.le_trans (List.length_take_le ..))

/-- Under the kernel contract the loop of `send_buffer` makes at most one kernel call per
    pending byte, however long the answer script is. -/
theorem sendLoop_calls (orig : List α) (ks : List KW) (rem : List α) (hks : ∀ k ∈ ks, k.ok = true) :
    (sendLoop orig ks rem).calls ≤ rem.length := by
  fun_induction sendLoop orig ks rem with
  | case3 k ks a rem n hk r ih =>
    have hn := res_took_pos (hks k List.mem_cons_self) (Nat.succ_pos _) hk
    have ih : r.calls ≤ (a :: rem).length - n := List.length_drop ▸ ih fun k' h => hks k' (List.mem_cons_of_mem _ h)
    show r.calls + 1 ≤ rem.length + 1
    rw [List.length_cons] at ih
    omega
  | _ => simp

/-- Every kernel call consumes one answer (or the implicit would-block after the script ended). -/
theorem sendLoop_consumes (orig : List α) (ks : List KW) (rem : List α) :
    (sendLoop orig ks rem).rest.length + (sendLoop orig ks rem).calls ≤ ks.length + 1 := by
  fun_induction sendLoop orig ks rem with
  | case3 k ks a rem n hk r ih => exact Nat.succ_le_succ ih
  | _ => simp

theorem sendBuffer_of_failed (w : Writer α) (ks : List KW) (hw : w.failed = true) :
    sendBuffer w ks = ⟨w, -1, [], ks, 0⟩ :=
  if_pos hw

theorem sendBuffer_rc (w : Writer α) (ks : List KW) :
    (sendBuffer w ks).rc = if (sendBuffer w ks).w.failed then -1 else 0 := by
  cases hw : w.failed with
  | true => rw [sendBuffer_of_failed w ks hw, hw]; rfl
  | false =>
    rw [sendBuffer, if_neg (by simp [hw])]
    exact sendLoop_rc ..

theorem sendBuffer_post (cap : Nat) (w : Writer α) (ks : List KW) (hw : w.failed = false) :
    Post cap w [] (sendBuffer w ks) := by
  obtain ⟨p, _⟩ := w
  cases hw
  exact sendLoop_spec cap p ks p

theorem sendBuffer_calls (w : Writer α) (ks : List KW) (hks : ∀ k ∈ ks, k.ok = true) :
    (sendBuffer w ks).calls ≤ w.pending.length := by
  rw [sendBuffer]
  split
  · exact Nat.zero_le _
  · exact sendLoop_calls _ _ _ hks

/-! ## `buffered_socket_writev` -/

theorem writev_of_failed (cap : Nat) (w : Writer α) (f : List (List α)) (ks : List KW) (hw : w.failed = true) :
    writev cap w f ks = ⟨w, -1, [], ks, 0⟩ :=
  if_pos hw

theorem writev_spec (cap : Nat) (w : Writer α) (f : List (List α)) (ks : List KW) (hw : w.failed = false) :
    Post cap w f.flatten (writev cap w f ks) ∧
    ((∀ k ∈ ks, k.ok = true) → (writev cap w f ks).calls ≤ (w.pending ++ f.flatten).length) := by
  obtain ⟨p, _⟩ := w
  cases hw
  rw [writev, if_neg Bool.false_ne_true]
  dsimp only
  by_cases h0 : (p ++ f.flatten).length = 0
  · rw [if_pos h0]
    exact ⟨.accepted (List.eq_nil_of_length_eq_zero h0).symm fun _ => Nat.zero_le _, fun _ => Nat.zero_le _⟩
  rw [if_neg h0]
  have hpos := Nat.pos_of_ne_zero h0
  cases hk : (nextAnswer ks).1.res (p ++ f.flatten).length with
  | fail => exact ⟨.rejected rfl id, fun _ => hpos⟩
  | took n =>
    have hn := res_took_le hk
    dsimp only
    by_cases hfull : n = (p ++ f.flatten).length
    · rw [if_pos hfull]
      exact ⟨.accepted (List.append_nil _) fun _ => Nat.zero_le _, fun _ => hpos⟩
    rw [if_neg hfull]
    by_cases hbig : (p ++ f.flatten).length - n > cap
    · -- the unsent rest does not fit: dead iff part of the frame is already out
      rw [if_pos hbig]
      have hle : p.length ≤ cap → (p.drop n).length ≤ cap := Nat.le_trans (List.drop_sublist ..).length_le
      refine ⟨?_, fun _ => hpos⟩
      by_cases hnp : n ≤ p.length
      · rw [decide_eq_false (Nat.not_lt.mpr (Nat.le_of_eq (Nat.sub_eq_zero_of_le hnp)))]
        exact .rejected (by rw [List.take_append_of_le_length hnp, List.take_append_drop]) hle
      · rw [decide_eq_true (Nat.sub_pos_of_lt (Nat.lt_of_not_le hnp))]
        exact .killed ⟨_, List.take_append_drop ..⟩ hle
    · -- the unsent rest fits: the copy queues exactly `(p ++ f.flatten).drop n`, which is then flushed
      have hfit : (p ++ f.flatten).length - n ≤ cap := Nat.le_of_not_gt hbig
      rw [if_neg hbig, copyIovec_spec _ _ _ _ (by rw [List.length_append] at hn hfit; rw [List.length_drop]; omega),
        ← List.drop_append]
      dsimp only
      refine ⟨.after_sent (List.take_append_drop ..) (fun _ => List.length_drop ▸ hfit)
        (sendBuffer_post cap ⟨(p ++ f.flatten).drop n, false⟩ _ rfl) (sendBuffer_rc ..), fun hks => ?_⟩
      -- the gathered write moved `n ≥ 1` bytes; the flush pays for the rest
      have hn1 := res_took_pos (nextAnswer_ok ks hks).1 hpos hk
      have := sendBuffer_calls ⟨(p ++ f.flatten).drop n, false⟩ _ (nextAnswer_ok ks hks).2
      rw [List.length_drop] at this
      exact Nat.le_trans (Nat.succ_le_succ this) (Nat.succ_le_of_lt (Nat.sub_lt hpos hn1))
  | again =>
    dsimp only
    by_cases hbig : (p ++ f.flatten).length > cap
    · rw [if_pos hbig]
      exact ⟨.rejected rfl id, fun _ => hpos⟩
    · rw [if_neg hbig, copyIovec_spec _ _ _ _ (by rw [Nat.sub_zero, ← List.length_append]; exact Nat.le_of_not_gt hbig),
        List.drop_zero]
      exact ⟨.accepted rfl fun _ => Nat.le_of_not_gt hbig, fun _ => hpos⟩

theorem writev_post (cap : Nat) (w : Writer α) (f : List (List α)) (ks : List KW) (hw : w.failed = false) :
    Post cap w f.flatten (writev cap w f ks) :=
  (writev_spec cap w f ks hw).1

theorem writev_calls (cap : Nat) (w : Writer α) (f : List (List α)) (ks : List KW) (hks : ∀ k ∈ ks, k.ok = true) :
    (writev cap w f ks).calls ≤ (w.pending ++ f.flatten).length := by
  cases hw : w.failed with
  | true => rw [writev_of_failed cap w f ks hw]; exact Nat.zero_le _
  | false => exact (writev_spec cap w f ks hw).2 hks

/-! ## histories -/

theorem streamOf_append (cs : List (List (List α))) (f : List (List α)) :
    streamOf (cs ++ [f]) = streamOf cs ++ f.flatten := by
  simp [streamOf]

theorem length_streamOf (cs : List (List (List α))) : (streamOf cs).length = (cs.map frameLen).sum := by
  induction cs with
  | nil => simp [streamOf]
  | cons c cs ih =>
    simp only [streamOf, List.map_cons, List.flatten_cons, List.length_append, List.sum_cons] at ih ⊢
    rw [ih]; rfl

/-- Invariant of a whole history. -/
structure Inv (cap : Nat) (r : Run α) : Prop where
  le : r.w.pending.length ≤ cap
  live : r.w.failed = false → r.accepted ++ r.w.pending = streamOf r.completed
  dead : r.w.failed = true → ∃ t, r.accepted ++ t = streamOf r.completed ++ r.torn.flatten

theorem inv_init (cap : Nat) : Inv cap ({} : Run α) :=
  ⟨Nat.zero_le _, fun _ => rfl, nofun⟩

theorem step_of_failed (cap : Nat) (r : Run α) (op : Op α) (h : r.w.failed = true) :
    (step cap r op).w = r.w ∧ (step cap r op).accepted = r.accepted ∧ (step cap r op).completed = r.completed ∧
      (step cap r op).torn = r.torn := by
  cases op with
  | writev f ks => simp [step, writev_of_failed cap r.w f ks h, h]
  | writable ks => simp [step, writable, sendBuffer_of_failed r.w ks h]

theorem Inv.of_post {cap : Nat} {r r' : Run α} {extra : List α} {x : Res α} (h : Inv cap r)
    (hw : r.w.failed = false) (post : Post cap r.w extra x) (hw' : r'.w = x.w)
    (hacc : r'.accepted = r.accepted ++ x.out)
    (hlive : x.w.failed = false → streamOf r'.completed = streamOf r.completed ++ if x.rc = 0 then extra else [])
    (hdead : x.w.failed = true → ∃ u, streamOf r'.completed ++ r'.torn.flatten = streamOf r.completed ++ extra ++ u) :
    Inv cap r' := by
  have hl := h.live hw
  refine ⟨hw' ▸ post.le h.le, fun hf => ?_, fun hf => ?_⟩
  · rw [hw'] at hf ⊢
    rw [hacc, hlive hf, List.append_assoc, ← hl]
    split
    · next h0 => rw [(post.ok h0).2, List.append_assoc]
    · next h0 => rw [post.refused h0 hf, List.append_nil]
  · rw [hw'] at hf
    obtain ⟨_, t, ht⟩ := post.dead hf
    obtain ⟨u, hu⟩ := hdead hf
    exact ⟨t ++ u, by rw [hacc, hu, List.append_assoc, ← List.append_assoc x.out, ht, ← hl]; simp only [List.append_assoc]⟩

theorem inv_step (cap : Nat) (r : Run α) (op : Op α) (h : Inv cap r) : Inv cap (step cap r op) := by
  cases hw : r.w.failed with
  | true =>
    obtain ⟨e1, e2, e3, e4⟩ := step_of_failed cap r op hw
    exact ⟨e1 ▸ h.le, by rw [e1, e2, e3]; exact h.live, by rw [e1, e2, e3, e4]; exact h.dead⟩
  | false =>
    cases op with
    | writev f ks =>
      refine h.of_post hw (writev_post cap r.w f ks hw) rfl rfl (fun _ => ?_) (fun hf => ⟨[], ?_⟩)
      · show streamOf (if _ then _ else _) = _
        split
        · exact streamOf_append ..
        · exact (List.append_nil _).symm
      · have h0 := ((writev_post cap r.w f ks hw).dead hf).1
        show streamOf (if _ then _ else _) ++ (if _ then _ else _ : List (List α)).flatten = _
        rw [if_neg h0, hw, hf, List.append_nil]
        rfl
    | writable ks =>
      exact h.of_post hw (sendBuffer_post cap r.w ks hw) rfl rfl (fun _ => by rw [ite_self]; exact (List.append_nil _).symm)
        (fun _ => ⟨r.torn.flatten, by rw [List.append_nil]; rfl⟩)

theorem inv_foldl (cap : Nat) (ops : List (Op α)) (r : Run α) (h : Inv cap r) :
    Inv cap (ops.foldl (step cap) r) := by
  induction ops generalizing r with
  | nil => exact h
  | cons op ops ih => exact ih _ (inv_step cap r op h)

theorem inv_run (cap : Nat) (ops : List (Op α)) : Inv cap (run cap ops) :=
  inv_foldl cap ops _ (inv_init cap)

theorem completed_sublist (cap : Nat) (ops : List (Op α)) (r : Run α) :
    ∃ x, x.Sublist (offered ops) ∧ (ops.foldl (step cap) r).completed = r.completed ++ x := by
  induction ops generalizing r with
  | nil => exact ⟨[], .refl _, (List.append_nil _).symm⟩
  | cons op ops ih =>
    obtain ⟨x, hx, he⟩ := ih (step cap r op)
    cases op with
    | writable ks => exact ⟨x, hx, he⟩
    | writev f ks =>
      have hc : (step cap r (.writev f ks)).completed =
          if (writev cap r.w f ks).rc = 0 then r.completed ++ [f] else r.completed := rfl
      rw [hc] at he
      split at he
      · exact ⟨f :: x, hx.cons_cons f, he.trans (List.append_assoc ..)⟩
      · exact ⟨x, hx.cons f, he⟩

end Cjet.Bufwrite
