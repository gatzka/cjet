import Cjet.Lemmas.HoptableWF

/-! Helper lemmas for C17: the transcribed operations (`lookup`, `get`, `probe`, `firstBit`,
`findCloser`, `displace`, `put`, `remove`); every store sequence of `put`, `find_closer_entry` and
`remove` is one case of `WF.exchange`. -/

set_option linter.unusedSectionVars false

namespace Cjet.Hoptable

section
variable {K V : Type} [DecidableEq K] [Inhabited V]

/-! ### field projections of a written slot -/

@[simp] theorem size_setHop (t : Table K V) (i : Nat) (h : BitVec W) : (setHop t i h).size = t.size := size_upd _ _ _
@[simp] theorem size_setKey (t : Table K V) (i : Nat) (k : Option K) : (setKey t i k).size = t.size := size_upd _ _ _
@[simp] theorem size_setVal (t : Table K V) (i : Nat) (v : V) : (setVal t i v).size = t.size := size_upd _ _ _

theorem proj_upd {α : Type} (f : Slot K V → α) (t : Table K V) (i j : Nat) (s : Slot K V)
    (h : f s = f (slot t i)) : f (slot (upd t i s) j) = f (slot t j) := by
  rw [slot_upd]; split
  · rename_i e; rw [h, e.1]
  · rfl

theorem proj_upd_self {α : Type} (f : Slot K V → α) {t : Table K V} {i : Nat} (hi : i < t.size) (j : Nat)
    (s : Slot K V) : f (slot (upd t i s) j) = if j = i then f s else f (slot t j) := by
  rw [slot_upd]; simp only [hi, and_true]; split <;> rfl

@[simp] theorem key_setHop (t : Table K V) (i j : Nat) (h : BitVec W) :
    (slot (setHop t i h) j).key = (slot t j).key := proj_upd (·.key) t i j _ rfl
@[simp] theorem val_setHop (t : Table K V) (i j : Nat) (h : BitVec W) :
    (slot (setHop t i h) j).val = (slot t j).val := proj_upd (·.val) t i j _ rfl
@[simp] theorem hop_setKey (t : Table K V) (i j : Nat) (k : Option K) :
    (slot (setKey t i k) j).hop = (slot t j).hop := proj_upd (·.hop) t i j _ rfl
@[simp] theorem val_setKey (t : Table K V) (i j : Nat) (k : Option K) :
    (slot (setKey t i k) j).val = (slot t j).val := proj_upd (·.val) t i j _ rfl
@[simp] theorem hop_setVal (t : Table K V) (i j : Nat) (v : V) :
    (slot (setVal t i v) j).hop = (slot t j).hop := proj_upd (·.hop) t i j _ rfl
@[simp] theorem key_setVal (t : Table K V) (i j : Nat) (v : V) :
    (slot (setVal t i v) j).key = (slot t j).key := proj_upd (·.key) t i j _ rfl

theorem hop_setHop {t : Table K V} {i : Nat} (hi : i < t.size) (j : Nat) (h : BitVec W) :
    (slot (setHop t i h) j).hop = if j = i then h else (slot t j).hop := proj_upd_self (·.hop) hi j _
theorem key_setKey {t : Table K V} {i : Nat} (hi : i < t.size) (j : Nat) (k : Option K) :
    (slot (setKey t i k) j).key = if j = i then k else (slot t j).key := proj_upd_self (·.key) hi j _
theorem val_setVal {t : Table K V} {i : Nat} (hi : i < t.size) (j : Nat) (v : V) :
    (slot (setVal t i v) j).val = if j = i then v else (slot t j).val := proj_upd_self (·.val) hi j _

variable {N : Nat} {hash : K → Nat} {t t' : Table K V}

/-! ### lookup and get -/

theorem lookup_some (hN : 0 < N) {k : K} {p : Nat} (hk : hash k < N)
    (h : lookup N hash t k = some p) :
    ∃ d, d < W ∧ Bit t (hash k) d ∧ (hash k + d) % N = p ∧ (slot t p).key = some k :=
  scan_some hN t k W _ _ p hk h

theorem lookup_some_live (hN : 0 < N) {k : K} {p : Nat} (hk : hash k < N)
    (h : lookup N hash t k = some p) : Live N t p ∧ (slot t p).key = some k ∧ p < N := by
  obtain ⟨d, hd, hb, hp, hkey⟩ := lookup_some hN hk h
  exact ⟨⟨hash k, hk, d, hd, hb, hp⟩, hkey, hp ▸ Nat.mod_lt _ hN⟩

theorem lookup_none (hN : 0 < N) (wf : WF N hash t) {k : K} (hk : hash k < N)
    (h : lookup N hash t k = none) : ∀ v, ¬ Maps N t k v := by
  intro v m
  obtain ⟨_, d, hd, hb, hkey, _⟩ := wf.maps_home m
  exact scan_none hN t k W _ _ hk h (fun d hd => BitVec.getLsbD_of_ge _ d hd) d hb hkey

theorem lookup_eq_none (hN : 0 < N) {k : K} (hk : hash k < N) (habs : ∀ v, ¬ Maps N t k v) :
    lookup N hash t k = none := by
  cases hl : lookup N hash t k with
  | none => rfl
  | some p =>
    obtain ⟨hlive, hkey, _⟩ := lookup_some_live hN hk hl
    exact absurd (maps_of_live hlive hkey) (habs _)

theorem lookup_of_live (hN : 0 < N) (wf : WF N hash t) {k : K} {p : Nat} (hk : hash k < N)
    (hl : Live N t p) (hkey : (slot t p).key = some k) : lookup N hash t k = some p := by
  cases h : lookup N hash t k with
  | none => exact absurd (maps_of_live hl hkey) (lookup_none hN wf hk h _)
  | some q =>
    obtain ⟨hlq, hkq, _⟩ := lookup_some_live hN hk h
    rw [wf.unique q p k hlq hl hkq hkey]

theorem get_iff_maps' (hN : 0 < N) (wf : WF N hash t) {k : K} (hk : hash k < N) (v : V) :
    get N hash t k = some v ↔ Maps N t k v := by
  unfold get
  cases hl : lookup N hash t k with
  | none => exact ⟨nofun, fun m => absurd m (lookup_none hN wf hk hl v)⟩
  | some p =>
    obtain ⟨hlive, hkey, _⟩ := lookup_some_live hN hk hl
    have m0 := maps_of_live hlive hkey
    simp only [Option.map_some, Option.some.injEq]
    exact ⟨fun h => h ▸ m0, wf.maps_fun m0⟩

theorem get_eq_of_maps (hN : 0 < N) (wf : WF N hash t) (wf' : WF N hash t') {k : K} (hk : hash k < N)
    (h : ∀ v, Maps N t' k v ↔ Maps N t k v) : get N hash t' k = get N hash t k :=
  Option.ext fun v => by rw [get_iff_maps' hN wf' hk, get_iff_maps' hN wf hk, h]

/-! ### probe -/

theorem probe_spec (hN : 0 < N) (t : Table K V) (r fd pos : Nat) (hpos : pos < N) :
    ∃ d, d ≤ r ∧ probe N t r fd pos = (fd + d, (pos + d) % N) ∧
      (∀ d', d' < d → (slot t ((pos + d') % N)).key ≠ none) ∧
      (d < r → (slot t ((pos + d) % N)).key = none) := by
  fun_induction probe N t r fd pos with
  | case1 fd pos => exact ⟨0, Nat.le_refl _, by rw [Nat.add_zero, Nat.add_zero, Nat.mod_eq_of_lt hpos], nofun, nofun⟩
  | case2 r fd pos hnone =>
    refine ⟨0, Nat.zero_le _, ?_, nofun, fun _ => ?_⟩ <;> simp only [Nat.add_zero, Nat.mod_eq_of_lt hpos]
    simpa using hnone
  | case3 r fd pos hsome ih =>
    obtain ⟨d, hd, he, h4, h5⟩ := ih (Nat.mod_lt _ hN)
    have hmod : ∀ x, ((pos + 1) % N + x) % N = (pos + (x + 1)) % N := fun x => by
      rw [Nat.mod_add_mod, Nat.add_assoc, Nat.add_comm 1 x]
    refine ⟨d + 1, Nat.succ_le_succ hd, by rw [he, hmod, Nat.add_assoc, Nat.add_comm 1 d], fun d' hd' => ?_,
      fun hlt => hmod d ▸ h5 (Nat.lt_of_succ_lt_succ hlt)⟩
    cases d' with
    | zero => rw [Nat.add_zero, Nat.mod_eq_of_lt hpos]; exact fun e => hsome (by simp [e])
    | succ d' => exact hmod d' ▸ h4 d' (Nat.lt_of_succ_lt_succ hd')

/-- the probe of `put`: the distance of the first empty slot of the window of bucket `h` -/
theorem probe_window (hN : 0 < N) (t : Table K V) (A : Nat) {h : Nat} (hh : h < N) :
    (probe N t A 0 h).2 = (h + (probe N t A 0 h).1) % N ∧
      (∀ d, d < (probe N t A 0 h).1 → (slot t ((h + d) % N)).key ≠ none) ∧
      ((probe N t A 0 h).1 < A → (slot t (probe N t A 0 h).2).key = none) := by
  obtain ⟨d, _, he, h4, h5⟩ := probe_spec hN t A 0 h hh
  rw [he, Nat.zero_add]
  exact ⟨rfl, h4, h5⟩

/-! ### firstBit -/

theorem firstBit_some (hop : BitVec W) :
    ∀ (r i j : Nat), firstBit hop r i = some j → i ≤ j ∧ j < i + r ∧ hop.getLsbD j = true := by
  intro r i j h
  fun_induction firstBit hop r i with
  | case1 => cases h
  | case2 r i hb => cases h; exact ⟨Nat.le_refl _, by omega, hb⟩
  | case3 r i _ ih => obtain ⟨h1, h2, h3⟩ := ih h; exact ⟨by omega, by omega, h3⟩

theorem firstBit_none (hop : BitVec W) :
    ∀ (r i : Nat), firstBit hop r i = none → ∀ j, i ≤ j → j < i + r → hop.getLsbD j = false := by
  intro r i h j h1 h2
  fun_induction firstBit hop r i with
  | case1 => omega
  | case2 => cases h
  | case3 r i hb ih =>
    by_cases e : j = i
    · subst e; simpa using hb
    · exact ih h (by omega) (by omega)

/-! ### find_closer_entry -/

/-- what one successful `find_closer_entry` call does -/
structure MoveRel (N : Nat) (hash : K → Nat) (clr : Bool) (t t' : Table K V) (fp fp' cdmax : Nat) : Prop where
  wf' : WF N hash t'
  maps : ∀ k v, Maps N t' k v ↔ Maps N t k v
  notlive : ¬ Live N t' fp'
  live : ∀ q, Live N t' q ↔ ((Live N t q ∧ q ≠ fp') ∨ q = fp)
  wasLive : Live N t fp'
  key : ∀ j, (slot t' j).key =
    if clr = true ∧ j = fp' then none else if j = fp then (slot t fp').key else (slot t j).key
  nostale : clr = true → NoStale N t → NoStale N t'
  dist : ∃ cd' i, 0 < cd' ∧ cd' ≤ cdmax ∧ i < cd' ∧ fp' = (subWrap N fp cd' + i) % N

theorem findCloser_some (hN : 0 < N) (clr : Bool) (wf : WF N hash t) {fp : Nat} (hfp : fp < N)
    (hnl : ¬ Live N t fp) :
    ∀ (cd : Nat) (fp' : Nat) (t' : Table K V), cd < W → cd < N →
      findCloser N clr t fp cd = some (fp', t') → MoveRel N hash clr t t' fp fp' cd := by
  intro cd fp' t' hcdW hcdN h
  fun_induction findCloser N clr t fp cd with
  | case1 => cases h
  | case2 cd c hop i hfb hp t1 t2 t3 t4 =>
    obtain ⟨rfl, rfl⟩ : hp = fp' ∧ t4 = t' := by simpa using h
    obtain ⟨_, hi, hbit⟩ := firstBit_some _ _ _ _ hfb
    have hiW : i < W := getLsbD_lt_W _ _ hbit
    have hc : c < N := subWrap_lt hN
    have hfpeq : (c + (cd + 1)) % N = fp := by rw [Nat.add_comm]; exact add_subWrap hcdN hfp
    have hhpN : hp < N := Nat.mod_lt _ hN
    have hlhp : Live N t hp := ⟨c, hc, i, hiW, hbit, rfl⟩
    have hne : hp ≠ fp := fun e => hnl (e ▸ hlhp)
    have hsz := wf.size
    -- pointwise description of the new table
    have hH : ∀ j, (slot t4 j).hop = if j = c then (hop &&& ~~~(1#W <<< i)) ||| (1#W <<< (cd + 1))
        else (slot t j).hop := by
      intro j
      simp only [t4, t3, t2, t1]
      cases clr <;> simp only [hop_setKey, hop_setVal, hop_setHop, size_setKey, size_setVal, hsz, hc, if_true,
        Bool.false_eq_true, if_false]
    have hKK : ∀ j, (slot t4 j).key =
        if clr = true ∧ j = hp then none else if j = fp then (slot t hp).key else (slot t j).key := by
      intro j
      simp only [t4, t3, t2, t1]
      cases clr <;> simp only [key_setKey, key_setVal, key_setHop, size_setKey, size_setVal, size_setHop, hsz, hfp, hhpN,
        if_true, Bool.false_eq_true, if_false, true_and, false_and]
    have hVV : ∀ j, (slot t4 j).val = if j = fp then (slot t hp).val else (slot t j).val := by
      intro j
      simp only [t4, t3, t2, t1]
      cases clr <;> simp only [val_setKey, val_setVal, val_setHop, size_setKey, hsz, hfp, if_true,
        Bool.false_eq_true, if_false]
    obtain ⟨_, kk, (hkk : (slot t hp).key = some kk), hhk⟩ := wf.bits c hc i hiW hbit
    have m0 := maps_of_live hlhp hkk
    -- the entry of slot `hp` is taken out of bit `i` of bucket `c` and put into slot `fp` as bit `cd + 1`
    obtain ⟨hwf', hlive, hmaps, hns⟩ := wf.exchange (t' := t4) (out := True) (ins := True) (hp := hp)
      (by simp only [t4, t3, t2, t1]
          cases clr <;> simp only [size_setKey, size_setVal, size_setHop, hsz, if_true, Bool.false_eq_true, if_false])
      (fun _ => ⟨hc, hiW, hbit, rfl⟩)
      (fun _ => ⟨hc, hcdW, hcdN, hfpeq, hhk, by rw [hKK, if_neg fun e => hne e.2.symm, if_pos rfl, hkk],
        by rw [hVV, if_pos rfl]⟩)
      (fun _ hl => absurd hl hnl) (fun _ _ _ => ⟨trivial, hkk⟩)
      (fun h' d' => by
        unfold Bit
        rw [hH]
        by_cases e : h' = c
        · rw [if_pos e, getLsbD_setBit _ hcdW, getLsbD_clearBit]; simp [e, hop]
        · simp [e])
      (fun j h1 h2 => by rw [hKK, if_neg fun e => h1 trivial e.2, if_neg (h2 trivial)])
      (fun j _ h2 => by rw [hVV, if_neg (h2 trivial)])
    exact {
      wf' := hwf', wasLive := hlhp, key := hKK
      maps := fun k' v' => by
        rw [hmaps, hkk]
        constructor
        · rintro (⟨_, rfl, rfl⟩ | ⟨_, m⟩)
          · exact m0
          · exact m
        · intro m
          by_cases e : kk = k'
          · exact .inl ⟨trivial, e.symm, wf.maps_fun m (e ▸ m0)⟩
          · exact .inr ⟨fun _ h => e (Option.some.inj h), m⟩
      notlive := fun hl => ((hlive hp).1 hl).elim (fun h => h.2 trivial rfl) (fun h => hne h.2)
      live := fun q => by simpa using hlive q
      nostale := fun hc' => hns fun _ _ => by rw [hKK, if_pos ⟨hc', rfl⟩]
      dist := ⟨cd + 1, i, Nat.succ_pos _, Nat.le_refl _, Nat.zero_add (cd + 1) ▸ hi, rfl⟩ }
  | case3 cd c hop hfb ih =>
    have := ih (by omega) (by omega) h
    obtain ⟨cd', i, h1, h2, h3, h4⟩ := this.dist
    exact { this with dist := ⟨cd', i, h1, by omega, h3, h4⟩ }

theorem findCloser_none (clr : Bool) (t : Table K V) (fp : Nat) :
    ∀ (cd : Nat), findCloser N clr t fp cd = none →
      ∀ cd', 0 < cd' → cd' ≤ cd → ∀ i, i < cd' → ¬ Bit t (subWrap N fp cd') i := by
  intro cd h cd' h1 h2 i hi
  fun_induction findCloser N clr t fp cd with
  | case1 => omega
  | case2 => cases h
  | case3 cd c hop hfb ih =>
    by_cases e : cd' = cd + 1
    · subst e
      have := firstBit_none _ _ _ hfb i (by omega) (by omega)
      unfold Bit; rw [this]; simp
    · exact ih h (by omega)

/-! ### the displacement loop and `put` -/

/-- `find_closer_entry` starts below the hop range -/
theorem closerStart_lt : W - Cjet.Generated.Hoptable.closerStartSub < W := Nat.sub_lt (by decide) (by decide)

/-- loop invariant of `displace` relative to the table `t0` before the `put` -/
structure DispInv (N : Nat) (hash : K → Nat) (t0 t : Table K V) (h fp fd : Nat) : Prop where
  wf : WF N hash t
  maps : ∀ k v, Maps N t k v ↔ Maps N t0 k v
  fpN : fp < N
  notlive : ¬ Live N t fp
  pos : (h + fd) % N = fp
  fdN : fd < N

theorem displace_spec (hN : 0 < N) (clr : Bool) {t0 : Table K V} {h : Nat} {k : K} {v : V}
    (hh : h < N) (hhash : hash k = h) (habs : ∀ v, ¬ Maps N t0 k v) :
    ∀ (f : Nat) (t : Table K V) (fp fd : Nat), DispInv N hash t0 t h fp fd →
      WF N hash (displace N clr h k v f t fp fd).2 ∧
      (clr = true → NoStale N t → NoStale N (displace N clr h k v f t fp fd).2) ∧
      ((displace N clr h k v f t fp fd).1 = .ok →
        ∀ k' v', Maps N (displace N clr h k v f t fp fd).2 k' v' ↔ (k' = k ∧ v' = v) ∨ (k' ≠ k ∧ Maps N t0 k' v')) ∧
      ((displace N clr h k v f t fp fd).1 = .full →
        ∀ k' v', Maps N (displace N clr h k v f t fp fd).2 k' v' ↔ Maps N t0 k' v') := by
  intro f t fp fd inv
  fun_induction displace N clr h k v f t fp fd with
  | case1 | case3 => exact ⟨inv.wf, fun _ ns => ns, nofun, fun _ => inv.maps⟩
  | case2 f t fp fd hfd t1 t2 t3 =>
    have hsz := inv.wf.size
    have hfpN := inv.fpN
    -- the new entry is put into the free slot `fp` as bit `fd` of its home bucket
    obtain ⟨h1, _, h3, h4⟩ := inv.wf.exchange (t' := t3) (out := False) (ins := True) (c := h) (i := fd) (hp := fp)
      (k := k) (v := v) (by simp [t3, t2, t1, hsz]) nofun
      (fun _ => ⟨hh, hfd, inv.fdN, inv.pos, hhash, by simp [t3, t2, t1, key_setKey, hsz, hfpN],
        by simp [t3, t2, t1, val_setVal, hsz, hfpN]⟩)
      (fun _ hl => absurd hl inv.notlive) (fun _ v' m => absurd ((inv.maps k v').1 m) (habs v'))
      (fun h' d' => by
        unfold Bit
        by_cases e : h' = h
        · subst e; simp [t3, t2, t1, hop_setHop, hsz, hh, getLsbD_setBit _ hfd]
        · simp [t3, t2, t1, hop_setHop, hsz, hh, e])
      (fun j _ hj => by simp [t3, t2, t1, key_setKey, hsz, hfpN, hj trivial])
      (fun j _ hj => by simp [t3, t2, t1, val_setVal, hsz, hfpN, hj trivial])
    -- reduce `(rc, t3).2` here: left to the unifier, it unfolds the table operations first
    dsimp only
    refine ⟨h1, fun _ => h4 nofun, fun _ k' v' => ?_, nofun⟩
    rw [h3 k' v', inv.maps k' v']
    simp only [true_and, false_imp_iff]
    exact or_congr_right ⟨fun m => ⟨fun e => habs v' (e ▸ m), m⟩, And.right⟩
  | case4 f t fp fd hfd fp' t' hfc ih =>
    have mr := findCloser_some hN clr inv.wf inv.fpN inv.notlive _ fp' t' closerStart_lt
      (Nat.lt_of_lt_of_le closerStart_lt (Nat.le_trans (Nat.le_of_not_lt hfd) (Nat.le_of_lt inv.fdN))) hfc
    obtain ⟨h1, h2, h3, h4⟩ := ih
      { wf := mr.wf'
        maps := fun k v => (mr.maps k v).trans (inv.maps k v)
        fpN := live_lt hN mr.wasLive
        notlive := mr.notlive
        pos := add_subWrap hh (live_lt hN mr.wasLive)
        fdN := subWrap_lt hN }
    exact ⟨h1, fun hc ns => h2 hc (mr.nostale hc ns), h3, h4⟩

theorem put_of_lookup_some {A : Nat} (clr : Bool) {k : K} (v : V) {pos : Nat} (hl : lookup N hash t k = some pos) :
    put N A hash clr t k v = ⟨.ok, (slot t pos).val, setVal t pos v⟩ := by
  simp only [put, hl]

theorem put_of_lookup_none {A : Nat} (clr : Bool) {k : K} (v : V) (hl : lookup N hash t k = none) :
    put N A hash clr t k v =
      if (probe N t A 0 (hash k)).1 < A then
        ⟨(displace N clr (hash k) k v N t (probe N t A 0 (hash k)).2 (probe N t A 0 (hash k)).1).1, default,
         (displace N clr (hash k) k v N t (probe N t A 0 (hash k)).2 (probe N t A 0 (hash k)).1).2⟩
      else ⟨.full, default, t⟩ := by
  simp only [put, hl]

theorem put_spec (hN : 0 < N) {A : Nat} (hAN : A ≤ N) (clr : Bool) (wf : WF N hash t) {k : K}
    (hk : hash k < N) (v : V) :
    WF N hash (put N A hash clr t k v).tab ∧
    (clr = true → NoStale N t → NoStale N (put N A hash clr t k v).tab) ∧
    ((put N A hash clr t k v).rc = .ok → ∀ k' v', Maps N (put N A hash clr t k v).tab k' v' ↔
      (k' = k ∧ v' = v) ∨ (k' ≠ k ∧ Maps N t k' v')) ∧
    ((put N A hash clr t k v).rc = .full →
      (∀ k' v', Maps N (put N A hash clr t k v).tab k' v' ↔ Maps N t k' v') ∧ ∀ v, ¬ Maps N t k v) ∧
    (put N A hash clr t k v).prev = (get N hash t k).getD default := by
  have hsz := wf.size
  cases hl : lookup N hash t k with
  | some pos =>
    obtain ⟨d, hd, hb, hp, hkey⟩ := lookup_some hN hk hl
    have hposN : pos < t.size := hsz ▸ hp ▸ Nat.mod_lt _ hN
    -- the entry of `k` is taken out and put back with the new value
    obtain ⟨h1, _, h3, h4⟩ := wf.exchange (t' := setVal t pos v) (out := True) (ins := True) (by simp [hsz])
      (fun _ => ⟨hk, hd, hb, hp⟩)
      (fun _ => ⟨hk, hd, (wf.bits _ hk d hd hb).1, hp, rfl, by rw [key_setVal, hkey], by rw [val_setVal hposN, if_pos rfl]⟩)
      (fun _ _ => ⟨trivial, rfl⟩) (fun _ _ _ => ⟨trivial, hkey⟩)
      (fun h' d' => by
        rw [show Bit (setVal t pos v) h' d' ↔ Bit t h' d' by unfold Bit; rw [hop_setVal]]
        by_cases e : h' = hash k ∧ d' = d
        · simpa [e] using hb
        · simp [e])
      (fun j _ _ => key_setVal ..)
      (fun j hj _ => by rw [val_setVal hposN, if_neg (hj trivial)])
    rw [put_of_lookup_some clr v hl]
    refine ⟨h1, fun _ => h4 fun _ h => absurd rfl (h trivial), fun _ k' v' => ?_, nofun, by simp [get, hl]⟩
    simpa [hkey, @eq_comm _ k k'] using h3 k' v'
  | none =>
    have habs := lookup_none hN wf hk hl
    obtain ⟨hp3, hp4, hp5⟩ := probe_window hN t A hk
    have hprev : (default : V) = (get N hash t k).getD default := by simp [get, hl]
    rw [put_of_lookup_none clr v hl]
    split
    · rename_i hlt
      obtain ⟨h1, h2, h3, h4⟩ := displace_spec hN clr hk rfl habs N t _ _
        { wf := wf
          maps := fun _ _ => Iff.rfl
          fpN := hp3 ▸ Nat.mod_lt _ hN
          notlive := wf.not_live_of_none (hp5 hlt)
          pos := hp3.symm
          fdN := Nat.lt_of_lt_of_le hlt hAN }
      exact ⟨h1, h2, h3, fun e => ⟨h4 e, habs⟩, hprev⟩
    · exact ⟨wf, fun _ ns => ns, nofun, fun _ => ⟨fun _ _ => Iff.rfl, habs⟩, hprev⟩

/-! ### remove -/

theorem remove_of_lookup_none {k : K} (hl : lookup N hash t k = none) : remove N hash t k = (none, t) := by
  unfold lookup at hl
  simp only [remove, hl]

theorem remove_of_lookup_some {k : K} {pos : Nat} (hl : lookup N hash t k = some pos) :
    remove N hash t k = (some (slot t pos).val,
      setHop (setVal (setKey t pos none) pos default) (hash k)
        ((slot t (hash k)).hop &&& ~~~(1#W <<< subWrap N pos (hash k)))) := by
  unfold lookup at hl
  simp only [remove, hl]

theorem remove_spec_full (hN : 0 < N) (wf : WF N hash t) {k : K} (hk : hash k < N) :
    WF N hash (remove N hash t k).2 ∧ (NoStale N t → NoStale N (remove N hash t k).2) ∧
    (∀ v, (remove N hash t k).1 = some v ↔ Maps N t k v) ∧
    (∀ v, ¬ Maps N (remove N hash t k).2 k v) ∧
    (∀ k', k' ≠ k → ∀ v', Maps N (remove N hash t k).2 k' v' ↔ Maps N t k' v') := by
  have hsz := wf.size
  cases hl : lookup N hash t k with
  | none =>
    have habs := lookup_none hN wf hk hl
    rw [remove_of_lookup_none hl]
    exact ⟨wf, id, fun v => ⟨nofun, fun m => absurd m (habs v)⟩, habs, fun _ _ _ => Iff.rfl⟩
  | some pos =>
    obtain ⟨d, hd, hb, hp, hkey⟩ := lookup_some hN hk hl
    obtain ⟨hdN, _⟩ := wf.bits _ hk d hd hb
    have hposN : pos < N := hp ▸ Nat.mod_lt _ hN
    have hdist : subWrap N pos (hash k) = d := by rw [← hp]; exact subWrap_add hk hdN
    rw [remove_of_lookup_some hl, hdist]
    dsimp only
    obtain ⟨h1, _, h3, h4⟩ := wf.exchange (t' := setHop (setVal (setKey t pos none) pos default) (hash k)
          ((slot t (hash k)).hop &&& ~~~(1#W <<< d))) (out := True) (ins := False) (c' := 0) (cd := 0) (fp := pos)
        (k := k) (v := default) (by simp [hsz])
      (fun _ => ⟨hk, hd, hb, hp⟩) nofun nofun nofun
      (fun h' d' => by
        unfold Bit
        by_cases e : h' = hash k
        · subst e; rw [hop_setHop (by simp [hsz, hk]), if_pos rfl, getLsbD_clearBit]; simp
        · simp [hop_setHop, hsz, hk, e])
      (fun j hj _ => by simp [key_setKey, hsz, hposN, hj trivial])
      (fun j hj _ => by simp [val_setVal, hsz, hposN, hj trivial])
    have m0 := maps_of_live ⟨hash k, hk, d, hd, hb, hp⟩ hkey
    have h3' : ∀ k' v', Maps N _ k' v' ↔ k' ≠ k ∧ Maps N t k' v' := fun k' v' => by
      simpa [hkey, @eq_comm _ k k'] using h3 k' v'
    exact ⟨h1, h4 fun _ _ => by simp [key_setKey, hsz, hposN],
      fun v => ⟨fun e => Option.some.inj e ▸ m0, fun m => by rw [wf.maps_fun m0 m]⟩,
      fun v m => ((h3' k v).1 m).1 rfl, fun k' hk' v' => (h3' k' v').trans (and_iff_right hk')⟩

end
end Cjet.Hoptable
