import Cjet.Http
/-!
Helper lemmas for `Cjet.Props.C13`: the ledger invariant of the HTTP connection lifecycle
(`Cjet.Http`, version `fixed`).  For every phase the invariant pins the complete ledger.  Each code
path that releases or acquires is characterised once, by an equation that holds when the objects it
goes through are live; `step` is then shown to map each phase's invariant to some phase's
invariant, for every event and every value of the event's inputs.
-/
namespace Cjet.Http

-- the linters walk the info trees of the large record terms below for minutes; they add nothing here
set_option linter.all false

def live1 : Cell := ⟨true, 1, 0⟩
def gone1 : Cell := ⟨false, 1, 1⟩

/-! ### list facts about the two global lists -/

theorem erase_mine (C : List Ref) (h : Ref.mine ∉ C) : (C ++ [Ref.mine]).erase .mine = C := by
  rw [List.erase_append_right _ h]; simp

theorem erase_absent (C : List Ref) (h : Ref.mine ∉ C) : C.erase .mine = C :=
  List.erase_of_not_mem h

theorem contains_absent (C : List Ref) (h : Ref.mine ∉ C) : C.contains .mine = false := by
  simpa using h

theorem isOther_mine : isOther .mine = false := rfl

theorem isOther_of_ne {r : Ref} (h : r ≠ .mine) : isOther r = true := by
  cases r <;> simp_all [isOther]

theorem filter_other (O : List Ref) (h : Ref.mine ∉ O) : O.filter isOther = O := by
  apply List.filter_eq_self.mpr
  intro r hr
  exact isOther_of_ne (fun e => h (e ▸ hr))

theorem filter_not_other (O : List Ref) (h : Ref.mine ∉ O) : O.filter (fun r => !isOther r) = [] := by
  apply List.filter_eq_nil_iff.mpr
  intro r hr
  simp [isOther_of_ne (fun e => h (e ▸ hr))]

theorem mine_not_mem_others (l : List Nat) : Ref.mine ∉ l.map Ref.other := by
  simp

theorem responseCode_cases (c : Nat) : responseCode c = 400 ∨ responseCode c = 404 ∨ responseCode c = 500 := by
  unfold responseCode
  split <;> (try split) <;> simp

/-! ### the code paths, on a state in which the objects they go through are live -/

section paths
variable {s : St} {O C : List Ref}

theorem exec_touch_conn (hc : s.conn = live1) :
    s.exec (.touch .conn) = { s with trace := s.trace ++ [.touch .conn] } := by
  simp [St.exec, apply, St.need, St.cell, hc, live1]

theorem exec_touch_peer (hp : s.peer = live1) :
    s.exec (.touch .peer) = { s with trace := s.trace ++ [.touch .peer] } := by
  simp [St.exec, apply, St.need, St.cell, hp, live1]

theorem exec_status (hf : s.fd = live1) (hb : s.bs = live1) (hc : s.conn = live1) (code : Nat) (ok : Bool) :
    s.exec (.status code ok) =
      { s with sent := if ok then s.sent ++ [code] else s.sent, trace := s.trace ++ [.status code ok] } := by
  cases ok <;> simp [St.exec, apply, St.need, St.cell, hf, hb, hc, live1]

theorem exec_setReader (hb : s.bs = live1) (r : Reader) :
    s.exec (.setReader r) = { s with reader := r, trace := s.trace ++ [.setReader r] } := by
  simp [St.exec, apply, St.need, St.cell, hb, live1]

theorem freeConnection_eq (hC : Ref.mine ∉ C) (hf : s.fd = live1) (hb : s.bs = live1) (hc : s.conn = live1)
    (hl : s.connList = C ++ [.mine]) :
    freeConnection s =
      { s with fd := gone1, bs := gone1, conn := gone1, connList := C,
               trace := s.trace ++ [.touch .conn, .touch .bs, .epollDel, .closeFd, .release .bs, .unlistConn,
                 .release .conn] } := by
  simp [freeConnection, bufferedSocketClose, St.exec, apply, St.need, St.cell, St.setCell, St.listed,
    hf, hb, hc, hl, live1, gone1, erase_mine C hC, hC]

theorem exec_closeFrame (hf : s.fd = live1) (hb : s.bs = live1) (hc : s.conn = live1) (hp : s.peer = live1) :
    s.exec .closeFrame = { s with trace := s.trace ++ [.closeFrame] } := by
  simp [St.exec, apply, St.need, St.cell, hf, hb, hc, hp, live1]

theorem freeWebsocketPeer_eq (hO : Ref.mine ∉ O) (hp : s.peer = live1) (hr : s.rt = live1)
    (hpl : s.peerList = O ++ [.mine]) :
    freeWebsocketPeer s =
      { s with peer := gone1, rt := gone1, peerList := O, peerCount := s.peerCount - 1,
               trace := s.trace ++ [.touch .peer, .release .rt, .unregisterPeer, .release .peer] } := by
  simp [freeWebsocketPeer, St.exec, apply, St.need, St.cell, St.setCell, St.listed, hp, hr, hpl, live1, gone1,
    erase_mine O hO, hO]

theorem closeAndFreePeer_eq (hO : Ref.mine ∉ O) (hC : Ref.mine ∉ C) (hf : s.fd = live1) (hb : s.bs = live1)
    (hc : s.conn = live1) (hp : s.peer = live1) (hr : s.rt = live1) (hl : s.connList = C ++ [.mine])
    (hpl : s.peerList = O ++ [.mine]) :
    closeAndFreePeer s =
      { s with fd := gone1, bs := gone1, conn := gone1, peer := gone1, rt := gone1, connList := C, peerList := O,
               peerCount := s.peerCount - 1,
               trace := s.trace ++ .touch .peer :: ((if s.upgradeComplete then [.closeFrame] else []) ++
                 [.touch .conn, .touch .bs, .epollDel, .closeFd, .release .bs, .unlistConn, .release .conn,
                  .touch .peer, .release .rt, .unregisterPeer, .release .peer]) } := by
  cases hu : s.upgradeComplete <;>
    simp (disch := assumption) only [closeAndFreePeer, websocketClose, exec_touch_peer, exec_closeFrame, hu,
      freeConnection_eq hC, freeWebsocketPeer_eq hO, Bool.false_eq_true, ↓reduceIte] <;>
    simp

theorem allocWebsocketPeer_ok_eq (hb : s.bs = live1) (hc : s.conn = live1) (hp : s.peer = {}) (hr : s.rt = {}) :
    allocWebsocketPeer .ok s =
      ({ s with peer := live1, rt := live1, peerList := s.peerList ++ [.mine], peerCount := s.peerCount + 1,
                upgradeComplete := false, handler := .peer, reader := .headerLine,
                trace := s.trace ++ [.acquire .peer, .touch .conn, .acquire .rt, .registerPeer, .setHandler .peer,
                  .setReader .headerLine] }, true) := by
  simp [allocWebsocketPeer, St.exec, apply, St.need, St.cell, St.setCell, hb, hc, hp, hr, live1]

theorem allocWebsocketPeer_noTableMem_eq (hc : s.conn = live1) (hp : s.peer = {}) (hpl : Ref.mine ∉ s.peerList) :
    allocWebsocketPeer .noTableMem s =
      ({ s with peer := gone1, trace := s.trace ++ [.acquire .peer, .touch .conn, .release .peer] }, false) := by
  simp [allocWebsocketPeer, St.exec, apply, St.need, St.cell, St.setCell, St.listed, hc, hp, hpl, live1, gone1]

end paths

/-! ### the invariant, phase by phase -/

/-- Status lines written by a connection that has ended: any number of 101s (at most one in a real
    run) followed by at most one error status. -/
def SentDone (l : List Nat) : Prop :=
  ∃ pre : List Nat, (∀ x ∈ pre, x = 101) ∧
    (l = pre ∨ ∃ c, (c = 400 ∨ c = 404 ∨ c = 500) ∧ l = pre ++ [c])

theorem sentDone_of_all {l : List Nat} (h : ∀ x ∈ l, x = 101) : SentDone l := ⟨l, h, Or.inl rfl⟩

theorem sentDone_nil : SentDone [] := sentDone_of_all (by simp)

theorem sentDone_snoc {l : List Nat} (h : ∀ x ∈ l, x = 101) (c : Nat) :
    SentDone (l ++ [responseCode c]) :=
  ⟨l, h, Or.inr ⟨_, responseCode_cases c, rfl⟩⟩

theorem all101_ite {l : List Nat} (h : ∀ x ∈ l, x = 101) (ok : Bool) :
    ∀ x ∈ (if ok then l ++ [101] else l), x = 101 := by
  cases ok <;> simpa [or_imp, forall_and] using h

/-- the connection is set up, no peer is registered, the next line is a start line; `pr`: the peer cell (empty, or come and gone) -/
abbrev connSt (O C : List Ref) (pr : Cell) (se : List Nat) (sc : Nat) (uh : Bool) (tr : List Act) : St :=
  { phase := .start, fd := live1, bs := live1, conn := live1, peer := pr, connList := C ++ [.mine], peerList := O,
    peerCount := O.length, reader := .startLine, statusCode := sc, urlHandler := uh, sent := se, trace := tr }

/-- The peer exists and is registered, in the header phase (`up = false`) or the WebSocket phase (`up = true`). -/
abbrev peerSt (O C : List Ref) (up : Bool) (se : List Nat) (sc : Nat) (tr : List Act) : St :=
  { phase := if up then .ws else .headers, fd := live1, bs := live1, conn := live1, peer := live1, rt := live1,
    connList := C ++ [.mine], peerList := O ++ [.mine], peerCount := O.length + 1, handler := .peer,
    reader := if up then .frame else .headerLine, statusCode := sc, upgradeComplete := up, sent := se, trace := tr }

/-- `acc`: the descriptor is known to have been accepted; `tm`: SIGTERM was seen (then the other peers and
    connections are gone as well) -/
structure InvDone (O C : List Ref) (acc tm : Bool) (s : St) : Prop where
  ph : s.phase = .done
  fd : s.fd = gone1 ∨ acc = false ∧ s.fd = {}
  bs : s.bs = gone1 ∨ s.bs = {}
  conn : s.conn = gone1 ∨ s.conn = {}
  peer : s.peer = gone1 ∨ s.peer = {}
  rt : s.rt = gone1 ∨ s.rt = {}
  cl : s.connList = if tm then [] else C
  pl : s.peerList = if tm then [] else O
  pc : s.peerCount = if tm then 0 else (O.length : Int)
  fl : s.faults = []
  se : SentDone s.sent

/-- The ledger invariant: the complete state in the phases in which the connection lives (up to status code and
    trace), the ledger once it has ended.  With `acc = true` the connection is past the accept: it is not
    listening, and once it has ended its descriptor was closed. -/
inductive Inv (O C : List Ref) : Bool → Bool → St → Prop
  | listening : Inv O C false false (init O C)
  | start {acc} (sc : Nat) (tr : List Act) : Inv O C acc false (connSt O C {} [] sc false tr)
  | peer {acc} (up : Bool) {se : List Nat} (hse : ∀ x ∈ se, x = 101) (sc : Nat) (tr : List Act) :
      Inv O C acc false (peerSt O C up se sc tr)
  | done {s acc tm} : InvDone O C acc tm s → Inv O C acc tm s

section
variable {O C : List Ref} {acc tm : Bool} {s : St}

theorem Inv.faults (h : Inv O C acc tm s) : s.faults = [] := by
  cases h with
  | done h => exact h.fl
  | _ => rfl

theorem Inv.done_of_phase (h : Inv O C acc tm s) (hp : s.phase = .done) : InvDone O C acc tm s := by
  cases h with
  | done h => exact h
  | listening | start => cases hp
  | peer up => cases up <;> cases hp

theorem settled_of_cell {c : Cell} (h : c = gone1 ∨ c = {}) : c.live = false ∧ c.rel = c.acq ∧ c.acq ≤ 1 := by
  rcases h with rfl | rfl <;> decide

theorem settled_of_done (h : InvDone O C acc tm s) : s.allSettled := by
  intro o
  cases o
  · exact settled_of_cell (h.fd.imp_right And.right)
  · exact settled_of_cell h.bs
  · exact settled_of_cell h.conn
  · exact settled_of_cell h.peer
  · exact settled_of_cell h.rt

end

section
variable {O C : List Ref} (hO : Ref.mine ∉ O) (hC : Ref.mine ∉ C) {acc : Bool}

/-! #### the endings -/

include hC in
theorem start_ends {pr : Cell} (hpr : pr = gone1 ∨ pr = {}) {se : List Nat} (hse : SentDone se) (sc : Nat) (uh : Bool)
    (tr : List Act) : InvDone O C acc false (freeConnection (connSt O C pr se sc uh tr)).ended := by
  rw [freeConnection_eq hC rfl rfl rfl rfl]
  exact ⟨rfl, .inl rfl, .inl rfl, .inl rfl, hpr, .inr rfl, rfl, rfl, rfl, rfl, hse⟩

include hO hC in
/-- `handle_error` / `free_websocket_peer_on_error` end a connection whose peer is registered. -/
theorem peer_ends (up : Bool) {se : List Nat} (hse : SentDone se) (sc : Nat) (tr : List Act) :
    InvDone O C acc false (closeAndFreePeer (peerSt O C up se sc tr)).ended := by
  rw [closeAndFreePeer_eq hO hC rfl rfl rfl rfl rfl rfl rfl]
  exact ⟨rfl, .inl rfl, .inl rfl, .inl rfl, .inl rfl, .inl rfl, rfl, rfl, Int.add_sub_cancel .., rfl, hse⟩

/-! #### SIGTERM -/

theorem terminate_eq {s : St} (hp : Ref.mine ∉ s.peerList) (hc : Ref.mine ∉ s.connList) :
    terminate s =
      { s with phase := .done, peerList := [], connList := [], peerCount := s.peerCount - s.peerList.length,
               trace := s.trace ++ [.otherPeersClosed, .otherConnsClosed] } := by
  simp [terminate, St.exec, apply, St.ended, filter_other _ hp, filter_not_other _ hp, filter_not_other _ hc]

include hO hC in
theorem term_listening : InvDone O C false true (terminate (init O C)) := by
  rw [terminate_eq hO hC]
  exact ⟨rfl, .inr ⟨rfl, rfl⟩, .inr rfl, .inr rfl, .inr rfl, .inr rfl, rfl, rfl, Int.sub_self _, rfl, sentDone_nil⟩

include hO hC in
theorem term_done {s : St} {tm : Bool} (h : InvDone O C acc tm s) : InvDone O C acc true (terminate s) := by
  rw [terminate_eq (by rw [h.pl]; cases tm <;> simp [hO]) (by rw [h.cl]; cases tm <;> simp [hC])]
  exact ⟨rfl, h.fd, h.bs, h.conn, h.peer, h.rt, rfl, rfl, by cases tm <;> simp [h.pl, h.pc], h.fl, h.se⟩

include hO hC in
theorem term_start (sc : Nat) (tr : List Act) : InvDone O C acc true (terminate (connSt O C {} [] sc false tr)) := by
  generalize hs : terminate _ = t
  simp [terminate, connSt, St.exec, apply, St.ended, filter_other O hO, filter_not_other O hO, filter_not_other C hC,
    isOther_mine, freeConnection_eq (C := [])] at hs
  subst hs
  exact ⟨rfl, .inl rfl, .inl rfl, .inl rfl, .inr rfl, .inr rfl, rfl, rfl, by simp, rfl, sentDone_nil⟩

include hO hC in
theorem term_peer (up : Bool) {se : List Nat} (hse : ∀ x ∈ se, x = 101) (sc : Nat) (tr : List Act) :
    InvDone O C acc true (terminate (peerSt O C up se sc tr)) := by
  generalize hs : terminate _ = t
  simp [terminate, peerSt, St.exec, apply, St.ended, filter_other O hO, filter_not_other O hO, filter_not_other C hC,
    isOther_mine, closeAndFreePeer_eq (O := []) (C := C), hC] at hs
  subst hs
  exact ⟨rfl, .inl rfl, .inl rfl, .inl rfl, .inl rfl, .inl rfl, rfl, rfl, by simp; omega, rfl, sentDone_of_all hse⟩

/-! #### one event, phase by phase -/

include hC in
theorem accept_inv (a : Accept) : Inv O C acc false (handleHttp fixed a (init O C)) := by
  generalize hs : handleHttp fixed a (init O C) = t
  cases a <;>
    simp [handleHttp, init, St.exec, apply, St.need, St.cell, St.setCell, St.listed, St.ended, fixed, erase_mine C hC,
      hC] at hs <;>
    subst hs
  · exact .start _ _
  all_goals
    -- the buffered socket and the connection object: never acquired, or released once
    refine .done ⟨rfl, .inl rfl, ?_, ?_, .inr rfl, .inr rfl, rfl, rfl, rfl, rfl, sentDone_nil⟩ <;>
      first | exact .inr rfl | exact .inl rfl

theorem fixed_createAfterStartLine : fixed.createAfterStartLine = true := rfl
theorem fixed_callbacksWithCreate : fixed.callbacksWithCreate = true := rfl

/-- `on_url` of the version `fixed` only records the verdict: a status, or that a handler was found -/
theorem onUrl_fixed (f u : Bool) (c : Create) (s : St) :
    onUrl fixed f u c s =
      ({ s with statusCode := if u then (if f then s.statusCode else 404) else 400,
                urlHandler := (u && f) || s.urlHandler }, u && f) := by
  cases u <;> cases f <;> rfl

theorem ite_statusCode (c : Prop) [Decidable c] (s : St) (n : Nat) :
    (if c then { s with statusCode := n } else s) = { s with statusCode := if c then n else s.statusCode } := by
  split <;> rfl

include hO hC in
theorem startLine_inv (sc : Nat) (tr : List Act) (p f u d : Bool) (c : Create) :
    Inv O C acc false (readStartLine fixed p f u d c (connSt O C {} [] sc false tr)) := by
  have ht := exec_touch_conn (s := connSt O C {} [] sc false tr) rfl
  have hse (c : Nat) : SentDone ([] ++ [responseCode c]) := sentDone_snoc (by simp) c
  cases p
  · -- the line does not parse: an error status, then `free_connection`
    refine .done ?_
    -- first the default status, while the state it is set in is still one term
    simp only [readStartLine, ite_statusCode]
    simp (disch := rfl) only [fixed_callbacksWithCreate, onUrl_fixed, ht, Bool.not_true, Bool.and_false,
      Bool.not_false, Bool.false_eq_true, ↓reduceIte, sendHttpError, exec_status]
    exact start_ends hC (.inr rfl) (hse _) _ _ _
  · cases hu : u && f <;>
      simp only [readStartLine, fixed_callbacksWithCreate, fixed_createAfterStartLine, onUrl_fixed, ht, Bool.not_true,
        Bool.and_false, Bool.false_eq_true, ↓reduceIte, Bool.or_false, Bool.true_and, hu]
    · -- no handler for the URL: the next line is a start line again
      exact .start _ _
    · cases c
      · -- the handler's `create` succeeds: the header phase begins
        simp (disch := rfl) only [allocWebsocketPeer_ok_eq, ↓reduceIte]
        exact .peer false (se := []) (by simp) _ _
      · simp (disch := rfl) only [allocWebsocketPeer, Bool.false_eq_true, ↓reduceIte, sendHttpError, exec_status]
        exact .done (start_ends hC (.inr rfl) (hse _) _ _ _)
      · simp (disch := first | rfl | exact hO) only [allocWebsocketPeer_noTableMem_eq, Bool.false_eq_true, ↓reduceIte,
          sendHttpError, exec_status]
        exact .done (start_ends hC (.inl rfl) (hse _) _ _ _)

include hO hC in
theorem headerLine_inv {se : List Nat} (hse : ∀ x ∈ se, x = 101) (sc : Nat) (tr : List Act) (p u : Bool)
    (w : Option Bool) : Inv O C acc false (readHeaderLine p u w (peerSt O C false se sc tr)) := by
  unfold readHeaderLine
  extract_lets s1 s2 s3
  -- the parser ran: the two touches, and the 101 if one was written, leave the state as it is but for `sent`
  obtain ⟨se2, hse2, tr2, h2⟩ : ∃ se2, (∀ x ∈ se2, x = 101) ∧ ∃ tr2, s2 = peerSt O C false se2 sc tr2 := by
    rcases w with _ | ok <;> simp (disch := rfl) only [s2, s1, exec_touch_peer, exec_touch_conn, exec_status]
    · exact ⟨se, hse, _, rfl⟩
    · exact ⟨_, all101_ite hse ok, _, rfl⟩
  clear_value s2
  subst h2
  cases p
  · simp (disch := rfl) only [sendHttpError, exec_status, ↓reduceIte]
    exact .done (peer_ends hO hC false (sentDone_snoc hse2 _) _ _)
  · cases u
    · -- more header lines to come
      simp (disch := rfl) only [Bool.not_true, Bool.false_eq_true, ↓reduceIte, exec_setReader]
      exact .peer false hse2 _ _
    · -- the upgrade is complete: the WebSocket phase begins
      simp (disch := rfl) only [Bool.not_true, Bool.false_eq_true, ↓reduceIte, s3, exec_setReader]
      exact .peer true hse2 _ _

def isTerm : Event → Bool
  | .term => true
  | _ => false

include hO hC in
/-- in each phase: SIGTERM, the events the phase can produce, and all others, which leave the state as it is -/
theorem inv_step {s : St} {tm : Bool} (h : Inv O C acc tm s) (e : Event) :
    Inv O C acc (isTerm e || tm) (step fixed s e) := by
  cases h with
  | listening =>
    cases e with
    | term => exact .done (term_listening hO hC)
    | accept a => exact accept_inv hC a
    | _ => exact .listening
  | start sc tr =>
    cases e with
    | term => exact .done (term_start hO hC sc tr)
    | startLine p f u d c => exact startLine_inv hO hC sc tr p f u d c
    | eof | readError | lineTooLong => exact .done (start_ends hC (.inr rfl) sentDone_nil _ _ _)
    | _ => exact .start sc tr
  | peer up hse sc tr =>
    cases up
    · cases e with
      | term => exact .done (term_peer hO hC false hse sc tr)
      | headerLine p u w => exact headerLine_inv hO hC hse sc tr p u w
      | eof | readError | lineTooLong => exact .done (peer_ends hO hC false (sentDone_of_all hse) _ _)
      | _ => exact .peer false hse sc tr
    · cases e with
      | term => exact .done (term_peer hO hC true hse sc tr)
      | wsEnd => exact .done (peer_ends hO hC true (sentDone_of_all hse) _ _)
      | _ => exact .peer true hse sc tr
  | done h =>
    cases e with
    | term => exact .done (term_done hO hC h)
    | _ => simp only [step, h.ph]; exact .done h

include hO hC in
theorem inv_run {s : St} {tm : Bool} (h : Inv O C acc tm s) (evs : List Event) :
    Inv O C acc (evs.any isTerm || tm) (run fixed s evs) := by
  induction evs generalizing s tm with
  | nil => exact h
  | cons e evs ih =>
    have := ih (inv_step hO hC h e)
    rwa [Bool.or_left_comm, ← Bool.or_assoc] at this

end

/-! ### the invariant along runs from the state before the accept -/

theorem inv_of_run (o c : List Nat) (evs : List Event) :
    ∃ tm, tm = evs.any isTerm ∧
      Inv (o.map Ref.other) (c.map Ref.other) false tm (run fixed (before o c) evs) :=
  ⟨_, Bool.or_false _, inv_run (mine_not_mem_others o) (mine_not_mem_others c) .listening evs⟩

theorem inv_of_accepted (o c : List Nat) (a : Accept) (evs : List Event) :
    ∃ tm, tm = evs.any isTerm ∧
      Inv (o.map Ref.other) (c.map Ref.other) true tm (run fixed (before o c) (.accept a :: evs)) :=
  have hC := mine_not_mem_others c
  ⟨_, Bool.or_false _, inv_run (mine_not_mem_others o) hC (accept_inv hC a) evs⟩

end Cjet.Http
