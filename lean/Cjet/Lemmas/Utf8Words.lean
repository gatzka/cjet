/-
  Helper lemmas for property C18, part 2: the word fast paths (a masked comparison of a word is a
  bytewise masked comparison, `leBytes_and`; soundness of `fastSkip32` / `fastSkip64`; word loop =
  byte loop) and the splitting of the buffer by the auto-aligned front end.
-/
import Cjet.Lemmas.Utf8

namespace Cjet.Utf8
open Cjet.Generated.Utf8

/-! ## 5. words -/

def leBytes : Nat → Nat → List UInt8
  | 0, _ => []
  | n + 1, x => UInt8.ofNat x :: leBytes n (x / 256)

def leNat : List UInt8 → Nat
  | [] => 0
  | b :: bs => b.toNat + 256 * leNat bs

theorem leNat_lt : ∀ (bs : List UInt8) (n : Nat), bs.length = n → leNat bs < 256 ^ n
  | [], _, rfl => Nat.one_pos
  | b :: bs, _, rfl => by
    have := leNat_lt bs _ rfl
    have := b.toNat_lt
    rw [leNat, List.length_cons, Nat.pow_succ]
    omega

theorem leBytes_leNat : ∀ bs : List UInt8, leBytes bs.length (leNat bs) = bs
  | [] => rfl
  | b :: bs => by
    have := b.toNat_lt
    have h1 : UInt8.ofNat (b.toNat + 256 * leNat bs) = b :=
      UInt8.toNat_inj.mp (by simp)
    have h2 : (b.toNat + 256 * leNat bs) / 256 = leNat bs := by omega
    rw [leNat, List.length_cons, leBytes, h1, h2, leBytes_leNat bs]

theorem leBytes_and (n : Nat) : ∀ x m : Nat,
    leBytes n (x &&& m) = List.zipWith (· &&& ·) (leBytes n x) (leBytes n m) := by
  induction n with
  | zero => intro x m; rfl
  | succ n ih =>
    intro x m
    rw [leBytes, leBytes, leBytes, List.zipWith_cons_cons, UInt8.ofNat_and, ← ih]
    congr 2
    exact Nat.and_div_two_pow (n := 8)

theorem bytes32_eq (w : UInt32) : bytes32 w = leBytes 4 w.toNat := by
  simp only [bytes32, leBytes, byteAt32, List.cons.injEq, and_true, ← UInt8.toNat_inj]
  simp [Nat.shiftRight_eq_div_pow, Nat.div_div_eq_div_mul, Nat.and_two_pow_sub_one_eq_mod _ 8]

theorem bytes64_eq (w : UInt64) : bytes64 w = leBytes 8 w.toNat := by
  simp only [bytes64, leBytes, byteAt64, List.cons.injEq, and_true, ← UInt8.toNat_inj]
  simp [Nat.shiftRight_eq_div_pow, Nat.div_div_eq_div_mul, Nat.and_two_pow_sub_one_eq_mod _ 8]

theorem le32_toNat (b0 b1 b2 b3 : UInt8) : (le32 b0 b1 b2 b3).toNat = leNat [b0, b1, b2, b3] := by
  have h : b0.toNat + 256 * b1.toNat + 65536 * b2.toNat + 16777216 * b3.toNat =
      leNat [b0, b1, b2, b3] := by
    simp [leNat, Nat.mul_add, ← Nat.mul_assoc, Nat.add_assoc]
  rw [le32, h, UInt32.toNat_ofNat']
  exact Nat.mod_eq_of_lt (leNat_lt [b0, b1, b2, b3] 4 rfl)

theorem le64_toNat (b0 b1 b2 b3 b4 b5 b6 b7 : UInt8) :
    (le64 b0 b1 b2 b3 b4 b5 b6 b7).toNat = leNat [b0, b1, b2, b3, b4, b5, b6, b7] := by
  have h : b0.toNat + 256 * b1.toNat + 65536 * b2.toNat + 16777216 * b3.toNat
      + 4294967296 * b4.toNat + 1099511627776 * b5.toNat + 281474976710656 * b6.toNat
      + 72057594037927936 * b7.toNat = leNat [b0, b1, b2, b3, b4, b5, b6, b7] := by
    simp [leNat, Nat.mul_add, ← Nat.mul_assoc, Nat.add_assoc]
  rw [le64, h, UInt64.toNat_ofNat']
  exact Nat.mod_eq_of_lt (leNat_lt [b0, b1, b2, b3, b4, b5, b6, b7] 8 rfl)

theorem bytes32_le32 (b0 b1 b2 b3 : UInt8) : bytes32 (le32 b0 b1 b2 b3) = [b0, b1, b2, b3] := by
  rw [bytes32_eq, le32_toNat]; exact leBytes_leNat [b0, b1, b2, b3]

theorem bytes64_le64 (b0 b1 b2 b3 b4 b5 b6 b7 : UInt8) :
    bytes64 (le64 b0 b1 b2 b3 b4 b5 b6 b7) = [b0, b1, b2, b3, b4, b5, b6, b7] := by
  rw [bytes64_eq, le64_toNat]; exact leBytes_leNat [b0, b1, b2, b3, b4, b5, b6, b7]

/-! ### the fast-path predicates -/

theorem cls_ascii : ∀ b : UInt8, b &&& 0x80 = 0 → utf8_1 b = true :=
  forall_u8 (by decide +kernel)

theorem cls_tail (b : UInt8) (h : b &&& 0xC0 = 0x80) : utf8Tail b = true := by
  have := notCont_eq b
  simp only [notCont, h, bne_self_eq_false] at this
  simpa using this.symm

theorem cls_lead2 : ∀ b : UInt8, b &&& 0xE0 = 0xC0 → 1 < b.toNat % 32 →
    inRange 0xC2 0xDF b = true :=
  forall_u8 (by decide +kernel)

/-- `(tmp & (0x1F << k)) > (1 << k)` says that the 5-bit field at bit `k` is larger than 1. -/
theorem field_gt (n k : Nat) (h : 2 ^ k < n &&& (31 * 2 ^ k)) : 1 < n / 2 ^ k % 32 := by
  have h1 : (n &&& 31 * 2 ^ k) / 2 ^ k = n / 2 ^ k % 32 := by
    rw [Nat.and_div_two_pow, Nat.mul_div_cancel _ (Nat.two_pow_pos k)]
    exact Nat.and_two_pow_sub_one_eq_mod _ 5
  have h2 : (n &&& 31 * 2 ^ k) % 2 ^ k = 0 := by
    rw [Nat.and_mod_two_pow, Nat.mul_mod_left, Nat.and_zero]
  have h3 := Nat.div_add_mod (n &&& 31 * 2 ^ k) (2 ^ k)
  rw [h1, h2] at h3
  rw [← h3] at h
  by_cases hq : n / 2 ^ k % 32 ≤ 1
  · have : 2 ^ k * (n / 2 ^ k % 32) ≤ 2 ^ k * 1 := Nat.mul_le_mul_left _ hq
    omega
  · omega

/-- The field larger than 1 excludes the overlong leads `C0`, `C1`. -/
theorem lead2_of_field {x : Nat} {b : UInt8} (k : Nat) (hb : b.toNat = x / 2 ^ k % 256)
    (hm : b &&& 0xE0 = 0xC0) (g : 2 ^ k < x &&& 31 * 2 ^ k) : inRange 0xC2 0xDF b = true :=
  cls_lead2 b hm (by have := field_gt x k g; omega)

theorem run_ascii (b : UInt8) (rest : List UInt8) (h : utf8_1 b = true) :
    runBytes init (b :: rest) = runBytes init rest := by
  simp [runBytes_cons, isByteValid_init, h]

theorem run_pair (b0 b1 : UInt8) (rest : List UInt8) (h0 : inRange 0xC2 0xDF b0 = true)
    (h1 : utf8Tail b1 = true) : runBytes init (b0 :: b1 :: rest) = runBytes init rest := by
  simp [runBytes_cons, (isByteValid_init_lead b0).1 h0, isByteValid_two,
    secondRange_lead2 b0 b1 h0, h1]

section
-- consuming the bytes of a skipped word: ASCII bytes one by one, lead and tail bytes in pairs
attribute [local simp] leBytes runBytes_nil run_ascii run_pair cls_ascii cls_tail

/-- Whenever the 32-bit fast path skips a word, feeding its four bytes to the byte checker from
    the initial state accepts them and ends in the initial state again. -/
theorem fastSkip32_sound (w : UInt32) (h : fastSkip32 w = true) :
    runBytes init (bytes32 w) = (true, init) := by
  rw [bytes32_eq]
  simp only [fastSkip32, Bool.or_eq_true, Bool.and_eq_true, beq_iff_eq, decide_eq_true_eq,
    ← UInt32.toNat_inj, GT.gt, UInt32.lt_iff_toNat_lt, UInt32.toNat_and] at h
  generalize w.toNat = x at h
  -- `hb`: the bytes of `x`, masked bytewise, are the bytes of the value compared with
  rcases h with (((h | ⟨h, g⟩) | ⟨h, g⟩) | ⟨h, g⟩) | ⟨⟨h, g⟩, g'⟩ <;>
    have hb := h ▸ (leBytes_and 4 x _).symm
  · simp [fastZone1] at hb
    simp [hb]
  · simp [fastZone21] at hb
    have l0 := lead2_of_field 0 (by simp) hb.1 g
    simp [hb, l0]
  · simp [fastZone22] at hb
    have l1 := lead2_of_field 8 (by simp) hb.2.1 g
    simp [hb, l1]
  · simp [fastZone23] at hb
    have l2 := lead2_of_field 16 (by simp [Nat.div_div_eq_div_mul]) hb.2.2.1 g
    simp [hb, l2]
  · simp [fastZone24] at hb
    have l0 := lead2_of_field 0 (by simp) hb.1 g
    have l2 := lead2_of_field 16 (by simp [Nat.div_div_eq_div_mul]) hb.2.2.1 g'
    simp [hb, l0, l2]

theorem fastSkip64_sound (w : UInt64) (h : fastSkip64 w = true) :
    runBytes init (bytes64 w) = (true, init) := by
  rw [bytes64_eq]
  simp only [fastSkip64, Bool.or_eq_true, Bool.and_eq_true, beq_iff_eq, decide_eq_true_eq,
    ← UInt64.toNat_inj, GT.gt, UInt64.lt_iff_toNat_lt, UInt64.toNat_and] at h
  generalize w.toNat = x at h
  rcases h with h | ⟨⟨⟨⟨h, g0⟩, g2⟩, g4⟩, g6⟩ <;> have hb := h ▸ (leBytes_and 8 x _).symm
  · simp [fastZone1_64] at hb
    simp [hb]
  · simp [fastZone2_64] at hb
    have l0 := lead2_of_field 0 (by simp) hb.1 g0
    have l2 := lead2_of_field 16 (by simp [Nat.div_div_eq_div_mul]) hb.2.2.1 g2
    have l4 := lead2_of_field 32 (by simp [Nat.div_div_eq_div_mul]) hb.2.2.2.2.1 g4
    have l6 := lead2_of_field 48 (by simp [Nat.div_div_eq_div_mul]) hb.2.2.2.2.2.2.1 g6
    simp [hb, l0, l2, l4, l6]

end

/-! ### word loop = byte loop -/

theorem wordLoop_eq_runBytes {W : Type} (skip : W → Bool) (bytesOf : W → List UInt8)
    (hs : ∀ w, skip w = true → runBytes init (bytesOf w) = (true, init))
    (ws : List W) : ∀ (c : Checker), c.ok = true →
      wordLoop skip bytesOf c ws = runBytes c (ws.flatMap bytesOf) := by
  induction ws with
  | nil => intro c _; simp [wordLoop, runBytes_nil]
  | cons w ws ih =>
    intro c hc
    rw [wordLoop, List.flatMap_cons, runBytes_append]
    by_cases hsk : (c.next == 1 && skip w) = true
    · simp only [hsk, if_true]
      simp only [Bool.and_eq_true, beq_iff_eq] at hsk
      have hci := ok_next_one c hc hsk.1
      subst hci
      rw [hs w hsk.2]
      simpa using ih init ok_init
    · simp only [hsk]
      have hok := ok_runBytes c (bytesOf w) hc
      rcases hr : runBytes c (bytesOf w) with ⟨r, c'⟩
      rw [hr] at hok
      cases r
      · simp
      · simpa using ih c' hok

theorem word32Seq_eq_byteSeq (c : Checker) (hc : c.ok = true) (ws : List UInt32) (k : Bool) :
    word32Seq c ws k = byteSeq c (ws.flatMap bytes32) k := by
  rw [word32Seq, byteSeq_eq_finish, wordLoop_eq_runBytes _ _ fastSkip32_sound ws c hc]

theorem word64Seq_eq_byteSeq (c : Checker) (hc : c.ok = true) (ws : List UInt64) (k : Bool) :
    word64Seq c ws k = byteSeq c (ws.flatMap bytes64) k := by
  rw [word64Seq, byteSeq_eq_finish, wordLoop_eq_runBytes _ _ fastSkip64_sound ws c hc]

theorem ok_word32Seq (c : Checker) (hc : c.ok = true) (ws : List UInt32) (k : Bool) :
    (word32Seq c ws k).2.ok = true := by
  rw [word32Seq_eq_byteSeq c hc]; exact ok_byteSeq c _ k hc

theorem ok_word64Seq (c : Checker) (hc : c.ok = true) (ws : List UInt64) (k : Bool) :
    (word64Seq c ws k).2.ok = true := by
  rw [word64Seq_eq_byteSeq c hc]; exact ok_byteSeq c _ k hc

/-! ## 6. the auto-aligned front end -/

/-- Loading whole words from a byte array and feeding each word's bytes in the order of the inner
    loop reproduces the array (little-endian host). -/
theorem flatMap_bytes32_words32 : ∀ (m : Nat) (xs : List UInt8), xs.length = 4 * m →
    (words32 xs).flatMap bytes32 = xs
  | 0, xs, h => by rw [List.length_eq_zero_iff.mp h]; rfl
  | m + 1, b0 :: b1 :: b2 :: b3 :: rest, h => by
    show (le32 b0 b1 b2 b3 :: words32 rest).flatMap bytes32 = _
    rw [List.flatMap_cons, bytes32_le32,
      flatMap_bytes32_words32 m rest (by simp only [List.length_cons] at h; omega)]
    rfl

theorem flatMap_bytes64_words64 : ∀ (m : Nat) (xs : List UInt8), xs.length = 8 * m →
    (words64 xs).flatMap bytes64 = xs
  | 0, xs, h => by rw [List.length_eq_zero_iff.mp h]; rfl
  | m + 1, b0 :: b1 :: b2 :: b3 :: b4 :: b5 :: b6 :: b7 :: rest, h => by
    show (le64 b0 b1 b2 b3 b4 b5 b6 b7 :: words64 rest).flatMap bytes64 = _
    rw [List.flatMap_cons, bytes64_le64,
      flatMap_bytes64_words64 m rest (by simp only [List.length_cons] at h; omega)]
    rfl

/-- After a rejection without `is_complete` the two may leave different checker states. -/
def Agree (k : Bool) (x y : Bool × Checker) : Prop :=
  x.1 = y.1 ∧ ((k = true ∨ x.1 = true) → x = y)

/-- The shape of the word branches of the auto-aligned front end: three unconditional calls,
    results and-ed, then the `is_complete` epilogue. -/
def threePart (c : Checker) (pre mid post : List UInt8) (k : Bool) : Bool × Checker :=
  let r1 := runBytes c pre
  let r2 := runBytes r1.2 mid
  let r3 := runBytes r2.2 post
  autoEpilogue (r1.1 && r2.1 && r3.1, r3.2) k

/-- The epilogue of the front end is the `is_complete` epilogue of the entry points, except that
    it also re-initialises after a rejection. -/
theorem finish_eq_autoEpilogue (r : Bool × Checker) (k : Bool) (hf : r.1 = false → r.2 = init) :
    finish r k = autoEpilogue r k := by
  rcases r with ⟨_ | _, c⟩
  · rw [show c = init from hf rfl]; cases k <;> rfl
  · rfl

theorem autoEpilogue_true (v : Bool) (c : Checker) (hok : c.ok = true) :
    autoEpilogue (v, c) true = (v && atBoundary c, init) := by
  simp only [autoEpilogue, atBoundary, Bool.true_and, bne]
  cases hb : c.start == ucFinish
  · simp
  · rw [ok_start_finish c hok (beq_iff_eq.mp hb)]; simp

theorem runBytes_append3 (c : Checker) (pre mid post : List UInt8) :
    let r1 := runBytes c pre
    let r2 := runBytes r1.2 mid
    let r3 := runBytes r2.2 post
    runBytes c (pre ++ (mid ++ post)) =
      (r1.1 && r2.1 && r3.1, if r1.1 && r2.1 && r3.1 then r3.2 else init) := by
  have hf : ∀ c bs, (runBytes c bs).1 = false → runBytes c bs = (false, init) :=
    fun c bs h => Prod.ext h (runBytes_false c bs h)
  simp only [runBytes_append]
  cases h1 : (runBytes c pre).1
  · simpa using hf _ _ h1
  · cases h2 : (runBytes (runBytes c pre).2 mid).1
    · simpa using hf _ _ h2
    · cases h3 : (runBytes (runBytes (runBytes c pre).2 mid).2 post).1
      · simpa using hf _ _ h3
      · simp [← h3]

theorem threePart_spec (c : Checker) (hc : c.ok = true) (pre mid post : List UInt8) (k : Bool) :
    Agree k (threePart c pre mid post k) (byteSeq c (pre ++ mid ++ post) k) := by
  have ok3 := ok_runBytes _ post (ok_runBytes _ mid (ok_runBytes c pre hc))
  rw [byteSeq_eq_finish, List.append_assoc, runBytes_append3 c pre mid post, threePart]
  generalize (runBytes (runBytes (runBytes c pre).2 mid).2 post).2 = c3 at *
  generalize ((runBytes c pre).1 && _ && _) = v
  cases v
  · -- rejected: the byte path is in the initial state, and so is the front end if `k`
    cases k
    · exact ⟨rfl, by simp [autoEpilogue]⟩
    · rw [autoEpilogue_true false c3 ok3]; exact ⟨rfl, fun _ => rfl⟩
  · exact ⟨rfl, fun _ => rfl⟩

theorem split3 (bs : List UInt8) (p n : Nat) :
    bs.take p ++ (bs.drop p).take n ++ bs.drop (p + n) = bs := by
  rw [List.append_assoc, ← List.drop_drop, List.take_append_drop, List.take_append_drop]

theorem threePart_take_drop (c : Checker) (hc : c.ok = true) (bs : List UInt8) (p n : Nat)
    (k : Bool) :
    Agree k (threePart c (bs.take p) ((bs.drop p).take n) (bs.drop (p + n)) k) (byteSeq c bs k) := by
  have := threePart_spec c hc (bs.take p) ((bs.drop p).take n) (bs.drop (p + n)) k
  rwa [split3] at this

/-- `main_length << s` bytes, `main_length = length >> s`, are whole words of `2 ^ s` bytes. -/
theorem length_take_shift (xs : List UInt8) (s : Nat) :
    (xs.take ((xs.length >>> s) <<< s)).length = 2 ^ s * (xs.length >>> s) := by
  rw [List.length_take, Nat.shiftLeft_eq, Nat.shiftRight_eq_div_pow,
    Nat.min_eq_left (Nat.div_mul_le_self _ _), Nat.mul_comm]

theorem word32Seq_words32 (c : Checker) (hc : c.ok = true) (xs : List UInt8) (m : Nat)
    (h : xs.length = 4 * m) : word32Seq c (words32 xs) false = runBytes c xs := by
  rw [word32Seq_eq_byteSeq c hc, flatMap_bytes32_words32 m xs h, byteSeq_false_eq]

theorem word64Seq_words64 (c : Checker) (hc : c.ok = true) (xs : List UInt8) (m : Nat)
    (h : xs.length = 8 * m) : word64Seq c (words64 xs) false = runBytes c xs := by
  rw [word64Seq_eq_byteSeq c hc, flatMap_bytes64_words64 m xs h, byteSeq_false_eq]

/-- `case 8:` of the front end: bytes up to the boundary, whole words, remaining bytes. -/
theorem autoWords64_spec (addr : Nat) (c : Checker) (hc : c.ok = true) (bs : List UInt8) (k : Bool) :
    Agree k (autoEpilogue (autoWords64 addr c bs) k) (byteSeq c bs k) := by
  have h := threePart_take_drop c hc bs (8 - addr % 8)
    (((bs.length - (8 - addr % 8)) >>> 3) <<< 3) k
  simp only [autoWords64, byteSeq_false_eq]
  rwa [word64Seq_words64 _ (ok_runBytes c _ hc) _ _
    (by rw [← List.length_drop]; exact length_take_shift _ 3)]

/-- `case 4:`. -/
theorem autoWords32_spec (addr : Nat) (c : Checker) (hc : c.ok = true) (bs : List UInt8) (k : Bool) :
    Agree k (autoEpilogue (autoWords32 addr c bs) k) (byteSeq c bs k) := by
  have h := threePart_take_drop c hc bs (4 - addr % 4)
    (((bs.length - (4 - addr % 4)) >>> 2) <<< 2) k
  simp only [autoWords32, byteSeq_false_eq]
  rwa [word32Seq_words32 _ (ok_runBytes c _ hc) _ _
    (by rw [← List.length_drop]; exact length_take_shift _ 2)]

/-- The default branch (`bytewidth` neither 8 nor 4, or fewer than 8 bytes): the epilogue of the
    front end never fires after `cjet_is_byte_sequence_valid` has run its own — in any state. -/
theorem auto_default (c : Checker) (bs : List UInt8) (k : Bool) :
    autoEpilogue (byteSeq c bs k) k = byteSeq c bs k := by
  rw [byteSeq_eq_finish, finish_eq_autoEpilogue _ _ (runBytes_false c bs)]
  unfold autoEpilogue
  split
  · simp
  · rfl

theorem autoSwitch_spec (bw addr : Nat) (c : Checker) (hc : c.ok = true) (bs : List UInt8) (k : Bool) :
    Agree k (autoEpilogue (autoSwitch bw addr c bs k) k) (byteSeq c bs k) := by
  unfold autoSwitch
  split
  · exact autoWords64_spec addr c hc bs k
  · split
    · exact autoWords32_spec addr c hc bs k
    · rw [auto_default]; exact ⟨rfl, fun _ => rfl⟩

theorem autoAligned_spec (width addr : Nat) (c : Checker) (hc : c.ok = true) (bs : List UInt8)
    (k : Bool) : Agree k (autoAligned width addr c bs k) (byteSeq c bs k) :=
  autoSwitch_spec _ addr c hc bs k

theorem ok_autoAligned (width addr : Nat) (c : Checker) (hc : c.ok = true) (bs : List UInt8)
    (k : Bool) : (autoAligned width addr c bs k).2.ok = true := by
  have sw : ∀ bw, (autoSwitch bw addr c bs k).2.ok = true := by
    intro bw
    unfold autoSwitch
    split
    · simp only [autoWords64]
      exact ok_byteSeq _ _ _ (ok_word64Seq _ (ok_byteSeq c _ _ hc) _ _)
    · split
      · simp only [autoWords32]
        exact ok_byteSeq _ _ _ (ok_word32Seq _ (ok_byteSeq c _ _ hc) _ _)
      · exact ok_byteSeq c bs k hc
  have ep : ∀ r : Bool × Checker, r.2.ok = true → (autoEpilogue r k).2.ok = true := by
    intro r hr
    rw [autoEpilogue]
    split
    · exact ok_init
    · exact hr
  exact ep _ (sw _)

end Cjet.Utf8
