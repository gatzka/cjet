/-
  C04 — from the handlers to one request object (`parseJsonRpc_eff`), what a whole message of peer
  `c` — object, batch or garbage — does to the state (`Own`), and `step` and `run`: the invariant,
  and who can change what.
-/
import Cjet.Lemmas.DaemonC04Handlers

namespace Cjet.Daemon.C04

open Cjet Cjet.Json Cjet.Daemon

/-! ## one request object -/

theorem handleMethod_eff (cfg : Config) {x : Ctx} {p : Peer} {c : Nat} (req : Json) (m : Bytes)
    (hp : findPeer x.st.peers c = some p) : Eff c x req (handleMethod cfg x p req m) :=
  handleMethod_induct cfg x p req m (fun _ => changeState_eff hp) (fun _ => (setOrCall_frame ..).chg)
    (fun _ => (setOrCall_frame ..).chg) (fun _ => addElement_eff hp) (fun _ => removeElementReq_eff hp)
    (fun _ => (fetchReq_inv ..).chg) (fun _ => (unfetchReq_frame ..).chg)
    (fun _ => (getReq_frame ..).chg) (fun _ => (configReq_frame ..).chg) (fun _ => Eff.refused _)
    (fun _ => (authenticateReq_frame ..).chg) (fun _ => (passwdReq_frame ..).chg) (Eff.refused _)

theorem Frame.sendResponse {x y : Ctx} (h : Frame x y) (c : Nat) (resp : Option Json) :
    Frame x (sendResponse y c resp).1 := by
  cases resp with
  | none => exact h
  | some j => exact h.send c j

theorem QuietOut.sendSuccess {x y : Ctx} (h : QuietOut x y) (c : Nat) (req : Json) :
    QuietOut x (sendResponse y c (successFromRequest req)).1 := by
  obtain ⟨new, hnew, hall⟩ := h
  cases hs : successFromRequest req with
  | none => exact ⟨new, hnew, hall⟩
  | some j =>
    refine ⟨_ :: new, (send_out_snd y c j).trans (congrArg _ hnew), fun o ho => ?_⟩
    rcases List.mem_cons.1 ho with rfl | ho
    · rintro c' j' b' ⟨⟩
      exact success_has_no_error hs
    · exact hall o ho

/-- Summary for one request object: the response, too, is free of error objects if the store changed. -/
theorem parseJsonRpc_eff (cfg : Config) (x : Ctx) (c : Nat) (req : Json) :
    Chg c x (parseJsonRpc cfg x c req).1 True := by
  cases hp : findPeer x.st.peers c with
  | none => rw [parseJsonRpc_noPeer hp]; exact (Frame.refl x).chg
  | some p =>
    cases hm : req.getItem (k "method") with
    | none =>
      cases hr : req.getItem (k "result") with
      | some res => rw [parseJsonRpc_result hp hm hr]; exact (routingResponse_frame ..).chg
      | none =>
        cases he : req.getItem (k "error") with
        | some err => rw [parseJsonRpc_error hp hm hr he]; exact (routingResponse_frame ..).chg
        | none => rw [parseJsonRpc_neither hp hm hr he]; exact ((Frame.refl x).sendResponse ..).chg
    | some j =>
      cases j with
      | str m =>
        rw [parseJsonRpc_method hp hm]
        obtain ⟨hext, hcases⟩ := handleMethod_eff cfg req m hp
        refine ⟨hext.trans ⟨_, sendResponse_out ..⟩, fun hwf => ?_⟩
        rw [sendResponse_st]
        refine (hcases hwf).imp_right fun ⟨hmut, hresp, hq⟩ => ⟨hmut, trivial, ?_⟩
        exact hresp ▸ hq.sendSuccess c req
      | _ => rw [parseJsonRpc_badMethod hp hm nofun]; exact ((Frame.refl x).sendResponse ..).chg

/-! ## what a message of `c` can do to the state -/

/-- `s'` is well-formed, has the same peers, and the element lists of all peers but `c` are unchanged -/
structure Own (c : Nat) (s s' : State) : Prop where
  wfs : WFS s'
  conns : (image s'.peers).map (·.1) = (image s.peers).map (·.1)
  others : (image s'.peers).filter (·.1 != c) = (image s.peers).filter (·.1 != c)

theorem Own.refl {c : Nat} {s : State} (h : WFS s) : Own c s s := ⟨h, rfl, rfl⟩

theorem Own.trans {c : Nat} {s1 s2 s3 : State} (h1 : Own c s1 s2) (h2 : Own c s2 s3) : Own c s1 s3 :=
  ⟨h2.wfs, h2.conns.trans h1.conns, h2.others.trans h1.others⟩

theorem Own.of_frame {c : Nat} {s s' : State} (h : store s' = store s) (hwf : WFS s) : Own c s s' := by
  have hi := (store_eq_iff.1 h).1
  exact ⟨wfs_of_store_eq h hwf, by rw [hi], by rw [hi]⟩

theorem Own.of_mut {c : Nat} {s s' : State} (h : Mut c (store s) (store s')) (hwf : WFS s) : Own c s s' :=
  ⟨h.wfp hwf, h.conns, h.others⟩

theorem parseJsonRpc_own (cfg : Config) (x : Ctx) (c : Nat) (req : Json) (hwf : WFS x.st) :
    Own c x.st (parseJsonRpc cfg x c req).1.st := by
  rcases (parseJsonRpc_eff cfg x c req).2 hwf with h | ⟨h, _⟩
  · exact Own.of_frame h hwf
  · exact Own.of_mut h hwf

theorem parseJsonArray_own (cfg : Config) (c : Nat) (l : List Json) (x : Ctx) (hwf : WFS x.st) :
    Own c x.st (parseJsonArray cfg x c l).1.st := by
  induction l generalizing x with
  | nil => exact Own.refl hwf
  | cons j rest ih =>
    cases j with
    | obj m =>
      have h1 := parseJsonRpc_own cfg x c (.obj m) hwf
      rw [parseJsonArray_cons_obj]
      split
      · exact h1.trans (ih _ h1.wfs)
      · exact h1
    | _ => exact Own.refl hwf

theorem parseMessage_own (cfg : Config) (x : Ctx) (c : Nat) (msg : Option Json) (hwf : WFS x.st) :
    Own c x.st (parseMessage cfg x c msg).1.st := by
  unfold parseMessage
  split
  · exact parseJsonArray_own cfg c _ x hwf
  · exact parseJsonRpc_own cfg x c _ hwf
  · exact Own.refl hwf

/-! ## `step` and `run` -/

theorem wfs_init (us : List User) : WFS ({ users := us } : State) := wfp_nil

theorem closePeer_spec {x : Ctx} (c : Nat) (hwf : WFS x.st) :
    WFS (closePeer x c).st ∧ image (closePeer x c).st.peers = (image x.st.peers).filter (·.1 != c) :=
  freePeerResources_spec hwf

/-- a message of `c`: well-formedness is kept and no list but `c`'s changes -/
theorem step_message (cfg : Config) {s : State} (c : Nat) (msg : Option Json) (o : Oracle) (hwf : WFS s) :
    WFS (step cfg s (.message c msg o)).1 ∧
    (image (step cfg s (.message c msg o)).1.peers).filter (·.1 != c) = (image s.peers).filter (·.1 != c) := by
  rw [step_message_eq]
  split
  · exact ⟨hwf, rfl⟩
  · have h1 := parseMessage_own cfg (mkCtx s o) c msg hwf
    dsimp only
    split
    · exact ⟨h1.wfs, h1.others⟩
    · have h2 := closePeer_spec c h1.wfs
      refine ⟨h2.1, ?_⟩
      rw [h2.2, List.filter_filter]
      simp only [Bool.and_self]
      exact h1.others

theorem step_disconnect {cfg : Config} {s : State} {c : Nat} {o : Oracle} (hwf : WFS s) :
    WFS (step cfg s (.disconnect c o)).1 ∧
    image (step cfg s (.disconnect c o)).1.peers = (image s.peers).filter (·.1 != c) := by
  rw [step_disconnect_eq]
  split
  · next hnone => exact ⟨hwf, (filter_conn_of_gone (Option.isNone_iff_eq_none.1 hnone)).symm⟩
  · exact closePeer_spec (x := mkCtx s o) c hwf

theorem step_timerFire {cfg : Config} {s : State} {t : Nat} {o : Oracle} :
    store (step cfg s (.timerFire t o)).1 = store s :=
  (timeoutFired_frame (mkCtx s o) t).store

theorem step_connect {cfg : Config} {s : State} {c : Nat} {ws isLocal : Bool} {addr : Bytes} (hwf : WFS s) :
    WFS (step cfg s (.connect c ws isLocal addr)).1 ∧
    absElems (step cfg s (.connect c ws isLocal addr)).1 = absElems s := by
  rw [step_connect_eq]
  split
  · exact ⟨hwf, rfl⟩
  · next hnone =>
    have hnew : c ∉ (image s.peers).map (·.1) :=
      image_conns _ ▸ findPeer_none_iff.1 (Option.not_isSome_iff_eq_none.1 hnone)
    constructor
    · show WFP (image (s.peers ++ [_])) _
      rw [image_append]
      exact wfp_connect hwf hnew
    · rw [absElems_eq_imElems, absElems_eq_imElems]
      show imElems (image (s.peers ++ [_])) = _
      rw [image_append, imElems, List.flatMap_append]
      exact List.append_nil _

theorem wfs_step (cfg : Config) (s : State) (op : Op) (hwf : WFS s) : WFS (step cfg s op).1 := by
  cases op with
  | connect c ws isLocal addr => exact (step_connect hwf).1
  | message c msg o => exact (step_message cfg c msg o hwf).1
  | disconnect c o => exact (step_disconnect hwf).1
  | timerFire t o => exact wfs_of_store_eq step_timerFire hwf

theorem wfs_run (cfg : Config) (ops : List Op) (s : State) (hwf : WFS s) : WFS (run cfg s ops).1 :=
  run_inv (I := fun s _ => WFS s) (H := []) cfg ops (fun s op _ => wfs_step cfg s op) hwf

/-! ## transfer to the abstraction -/

theorem absElems_filter_owner {s : State} (hwf : WFS s) (c : Nat) :
    (absElems s).filter (fun x => x.2.owner != c) = imElems ((image s.peers).filter (·.1 != c)) := by
  rw [absElems_eq_imElems]
  exact imElems_filter_owner (WFP.owner hwf) c

theorem absElems_others {s s' : State} {c : Nat} (hwf : WFS s) (hwf' : WFS s')
    (h : (image s'.peers).filter (·.1 != c) = (image s.peers).filter (·.1 != c)) :
    (absElems s').filter (fun x => x.2.owner != c) = (absElems s).filter (fun x => x.2.owner != c) := by
  rw [absElems_filter_owner hwf, absElems_filter_owner hwf', h]

theorem absElems_closed {s s' : State} {c : Nat} (hwf : WFS s)
    (h : image s'.peers = (image s.peers).filter (·.1 != c)) :
    absElems s' = (absElems s).filter (fun x => x.2.owner != c) := by
  rw [absElems_filter_owner hwf, absElems_eq_imElems, h]

end Cjet.Daemon.C04
