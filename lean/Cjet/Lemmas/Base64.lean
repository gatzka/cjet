import Cjet.Base64
/-! Length of the base64 encoding; the specification decoder inverts `b64_encode_buffer` (`decode_encode`):
    the encoder's bit operations are digits in bases 4, 16 and 64 (`sextets`), which `decQuad` puts together again. -/
namespace Cjet.Base64
open Cjet.Generated.Ws

theorem encTriple_length (a b c n : Nat) : (encTriple a b c n).length = 4 := by simp [encTriple]

theorem encode_length (bs : Bytes) : (encode bs).length = encodedLength bs.length := by
  fun_induction encode bs with
  | case1 => simp [encodedLength]
  | case2 a => simp [encodedLength, encTriple]
  | case3 a b => simp [encodedLength, encTriple]
  | case4 a b c rest ih =>
    simp only [List.length_append, encTriple_length, ih, encodedLength, List.length_cons]
    omega

theorem charIndex_tableChar {i : Nat} (h : i < 64) : charIndex (tableChar i) = some i := by
  have : ∀ i : Fin 64, charIndex (tableChar i.val) = some i.val := by decide +kernel
  exact this ⟨i, h⟩

theorem and_shiftRight (b k n : Nat) (h : b < 2 ^ (k + n)) : (b &&& ((2 ^ n - 1) <<< k)) >>> k = b / 2 ^ k := by
  rw [Nat.shiftRight_and_distrib, Nat.shiftLeft_shiftRight, Nat.and_two_pow_sub_one_eq_mod, Nat.shiftRight_eq_div_pow,
    Nat.mod_eq_of_lt (Nat.div_lt_of_lt_mul (by rwa [← Nat.pow_add]))]

theorem and_shiftLeft_or (a q k n : Nat) (h : q < 2 ^ k) : ((a &&& (2 ^ n - 1)) <<< k) ||| q = a % 2 ^ n * 2 ^ k + q := by
  rw [← Nat.shiftLeft_add_eq_or_of_lt h, Nat.and_two_pow_sub_one_eq_mod, Nat.shiftLeft_eq]

theorem sextets (a b c : Nat) (hb : b < 256) (hc : c < 256) :
    a >>> 2 = a / 4 ∧
    ((a &&& 0x03) <<< 4) ||| ((b &&& 0xf0) >>> 4) = (a % 4) * 16 + b / 16 ∧
    ((b &&& 0x0f) <<< 2) ||| ((c &&& 0xc0) >>> 6) = (b % 16) * 4 + c / 64 ∧
    c &&& 0x3f = c % 64 := by
  have hb4 : (b &&& 0xf0) >>> 4 = b / 16 := and_shiftRight b 4 4 hb
  have hc6 : (c &&& 0xc0) >>> 6 = c / 64 := and_shiftRight c 6 2 hc
  rw [hb4, hc6]
  exact ⟨Nat.shiftRight_eq_div_pow a 2, and_shiftLeft_or a _ 4 2 (by omega), and_shiftLeft_or b _ 2 4 (by omega),
    Nat.and_two_pow_sub_one_eq_mod c 6⟩

theorem charIndex_pad : charIndex pad = none := by decide

theorem tableChar_ne_pad {i : Nat} (h : i < 64) : (tableChar i == pad) = false := by
  cases hp : tableChar i == pad with
  | false => rfl
  | true =>
    have hi := charIndex_tableChar h
    rw [eq_of_beq hp, charIndex_pad] at hi
    cases hi

theorem decQuad_three {v0 v1 v2 v3 : Nat} (h0 : v0 < 64) (h1 : v1 < 64) (h2 : v2 < 64) (h3 : v3 < 64) :
    decQuad (tableChar v0) (tableChar v1) (tableChar v2) (tableChar v3) =
      some [UInt8.ofNat (v0 * 4 + v1 / 16), UInt8.ofNat ((v1 % 16) * 16 + v2 / 4), UInt8.ofNat ((v2 % 4) * 64 + v3)] := by
  simp [decQuad, charIndex_tableChar h0, charIndex_tableChar h1, charIndex_tableChar h2,
    charIndex_tableChar h3, tableChar_ne_pad h2, tableChar_ne_pad h3]

theorem decQuad_two {v0 v1 v2 : Nat} (h0 : v0 < 64) (h1 : v1 < 64) (h2 : v2 < 64) :
    decQuad (tableChar v0) (tableChar v1) (tableChar v2) pad =
      some [UInt8.ofNat (v0 * 4 + v1 / 16), UInt8.ofNat ((v1 % 16) * 16 + v2 / 4)] := by
  simp [decQuad, charIndex_tableChar h0, charIndex_tableChar h1, charIndex_tableChar h2,
    tableChar_ne_pad h2]

theorem decQuad_one {v0 v1 : Nat} (h0 : v0 < 64) (h1 : v1 < 64) :
    decQuad (tableChar v0) (tableChar v1) pad pad = some [UInt8.ofNat (v0 * 4 + v1 / 16)] := by
  simp [decQuad, charIndex_tableChar h0, charIndex_tableChar h1]

theorem two_digits (p q m : Nat) (h : q < m) : (p * m + q) / m = p ∧ (p * m + q) % m = q := by
  rw [Nat.mul_comm, Nat.mul_add_div (by omega), Nat.mul_add_mod, Nat.div_eq_of_lt h, Nat.mod_eq_of_lt h]
  exact ⟨rfl, rfl⟩

theorem sextets_inv (a b c : Nat) (hb : b < 256) (hc : c < 256) :
    a / 4 * 4 + (a % 4 * 16 + b / 16) / 16 = a ∧
    (a % 4 * 16 + b / 16) % 16 * 16 + (b % 16 * 4 + c / 64) / 4 = b ∧
    (b % 16 * 4 + c / 64) % 4 * 64 + c % 64 = c := by
  obtain ⟨d1, m1⟩ := two_digits (a % 4) (b / 16) 16 (Nat.div_lt_of_lt_mul hb)
  obtain ⟨d2, m2⟩ := two_digits (b % 16) (c / 64) 4 (Nat.div_lt_of_lt_mul hc)
  rw [d1, m1, d2, m2]
  exact ⟨Nat.div_add_mod' a 4, Nat.div_add_mod' b 16, Nat.div_add_mod' c 64⟩

theorem decode_encTriple (a b c : Nat) (ha : a < 256) (hb : b < 256) (hc : c < 256) :
    (∀ rest y, decode rest = some y →
      decode (encTriple a b c 3 ++ rest) = some (UInt8.ofNat a :: UInt8.ofNat b :: UInt8.ofNat c :: y)) ∧
    decode (encTriple a b c 2) = some [UInt8.ofNat a, UInt8.ofNat b] ∧
    decode (encTriple a b c 1) = some [UInt8.ofNat a] := by
  obtain ⟨e0, e1, e2, e3⟩ := sextets a b c hb hc
  obtain ⟨i0, i1, i2⟩ := sextets_inv a b c hb hc
  have h0 : a / 4 < 64 := Nat.div_lt_of_lt_mul ha
  have h1 : a % 4 * 16 + b / 16 < 64 := by omega
  have h2 : b % 16 * 4 + c / 64 < 64 := by omega
  have h3 : c % 64 < 64 := Nat.mod_lt c (by decide)
  have q3 := decQuad_three h0 h1 h2 h3
  rw [i0, i1, i2] at q3
  have q2 := decQuad_two h0 h1 h2
  rw [i0, i1] at q2
  have q1 := decQuad_one h0 h1
  rw [i0] at q1
  simp only [encTriple, Nat.reduceGT, reduceIte, e0, e1, e2, e3, decode, q2, q1, and_self, and_true]
  intro rest y hr
  cases rest with
  | nil => cases hr; exact q3
  | cons r rs =>
    simp only [List.cons_append, List.nil_append, decode, tableChar_ne_pad h2, tableChar_ne_pad h3, Bool.or_self,
      Bool.false_eq_true, reduceIte, q3, hr]

theorem decode_encode (bs : Bytes) : decode (encode bs) = some bs := by
  fun_induction encode bs with
  | case1 => rfl
  | case2 a => simpa using (decode_encTriple a.toNat 0 0 a.toNat_lt (by decide) (by decide)).2.2
  | case3 a b => simpa using (decode_encTriple a.toNat b.toNat 0 a.toNat_lt b.toNat_lt (by decide)).2.1
  | case4 a b c rest ih =>
    simpa using (decode_encTriple a.toNat b.toNat c.toNat a.toNat_lt b.toNat_lt c.toNat_lt).1 _ _ ih

end Cjet.Base64
