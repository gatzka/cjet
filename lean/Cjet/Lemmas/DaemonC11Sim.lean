/-
  Cjet.Lemmas.DaemonC11Sim — "same but for the send results": two working contexts with the same
  state, the same refusal flags and the same outputs up to the result flags of the sends (the
  oracle lists may be anything).  Every function of the model that ignores the result of its sends
  maps related contexts to related contexts; so does every request handler except the routed send
  of set/call, which also returns the same response: the branch a handler takes is read off the
  state, which related contexts share.
-/
import Cjet.Lemmas.DaemonC05Run

namespace Cjet.Daemon.C11

open Cjet Cjet.Json Cjet.Daemon Cjet.Daemon.C05

/-- same state, same table-refusal flags, same outputs up to send results; oracles arbitrary -/
def Sim (x y : Ctx) : Prop :=
  x.st = y.st ∧ x.indexFull = y.indexFull ∧ x.routeFull = y.routeFull ∧ x.out.map strip = y.out.map strip

/-- related contexts and equal second components -/
def SimR {α : Type} (a b : Ctx × α) : Prop := Sim a.1 b.1 ∧ a.2 = b.2

theorem Sim.refl (x : Ctx) : Sim x x := ⟨rfl, rfl, rfl, rfl⟩
theorem Sim.symm {x y : Ctx} (h : Sim x y) : Sim y x := ⟨h.1.symm, h.2.1.symm, h.2.2.1.symm, h.2.2.2.symm⟩
theorem Sim.trans {x y z : Ctx} (h1 : Sim x y) (h2 : Sim y z) : Sim x z :=
  ⟨h1.1.trans h2.1, h1.2.1.trans h2.2.1, h1.2.2.1.trans h2.2.2.1, h1.2.2.2.trans h2.2.2.2⟩

/-- replacing the oracle list does not leave the relation -/
theorem Sim.of_sends (x : Ctx) (l : List Bool) : Sim x { x with sends := l } := ⟨rfl, rfl, rfl, rfl⟩

theorem Sim.st_out {x y : Ctx} (h : Sim x y) : y.st = x.st ∧ y.out.map strip = x.out.map strip :=
  ⟨h.1.symm, h.2.2.2.symm⟩

theorem SimR.st_out {α : Type} {a b : Ctx × α} (h : SimR a b) :
    b.1.st = a.1.st ∧ b.1.out.map strip = a.1.out.map strip ∧ b.2 = a.2 :=
  ⟨h.1.1.symm, h.1.2.2.2.symm, h.2.symm⟩

theorem Sim.out_length {x y : Ctx} (h : Sim x y) : x.out.length = y.out.length := by
  have := congrArg List.length h.2.2.2
  simpa using this

theorem Sim.send' {x y : Ctx} (h : Sim x y) (c : Nat) (j : Json) : Sim (send' x c j) (send' y c j) := by
  obtain ⟨h1, h2, h3, h4⟩ := h
  refine ⟨by simpa using h1, by simpa using h2, by simpa using h3, ?_⟩
  rw [send'_out_eq, send'_out_eq, List.map_cons, List.map_cons, h4]
  rfl

theorem Sim.send {x y : Ctx} (h : Sim x y) (c : Nat) (j : Json) : Sim (send x c j).1 (send y c j).1 :=
  h.send' c j

theorem Sim.emit {x y : Ctx} (h : Sim x y) (o : Obs) : Sim (emit x o) (emit y o) := by
  obtain ⟨h1, h2, h3, h4⟩ := h
  exact ⟨h1, h2, h3, by simp [h4]⟩

theorem Sim.withSt {x y : Ctx} (h : Sim x y) (S : State) : Sim { x with st := S } { y with st := S } :=
  ⟨rfl, h.2.1, h.2.2.1, h.2.2.2⟩

/-- the same state update on both sides -/
theorem Sim.setSt {x y : Ctx} (h : Sim x y) (f : State → State) :
    Sim { x with st := f x.st } { y with st := f y.st } := by
  rw [← h.1]; exact h.withSt _

theorem Sim.setIndexFull {x y : Ctx} (h : Sim x y) (b : Bool) :
    Sim { x with indexFull := b } { y with indexFull := b } := by
  obtain ⟨h1, h2, h3, h4⟩ := h
  exact ⟨h1, rfl, h3, h4⟩

theorem Sim.setRouteFull {x y : Ctx} (h : Sim x y) (b : Bool) :
    Sim { x with routeFull := b } { y with routeFull := b } := by
  obtain ⟨h1, h2, h3, h4⟩ := h
  exact ⟨h1, h2, rfl, h4⟩

/-! the steps of `C03.routeCore` -/

theorem Sim.ticked {x y : Ctx} (h : Sim x y) : Sim (C03.ticked x) (C03.ticked y) := by
  unfold C03.ticked
  rw [← h.1]
  exact h.withSt _

theorem Sim.timed {x y : Ctx} (h : Sim x y) : Sim (C03.timed x) (C03.timed y) := by
  unfold C03.timed
  rw [← h.1]
  exact h.withSt _

theorem Sim.stored {x y : Ctx} (h : Sim x y) (r : Route) (tns : Nat) : Sim (C03.stored x r tns) (C03.stored y r tns) := by
  unfold C03.stored
  rw [← h.1]
  exact (h.withSt _).emit _

theorem foldl_sim {α : Type} (f : Ctx → α → Ctx) (l : List α) {x y : Ctx} (h : Sim x y)
    (hf : ∀ a x y, Sim x y → Sim (f x a) (f y a)) : Sim (l.foldl f x) (l.foldl f y) := by
  induction l generalizing x y with
  | nil => exact h
  | cons a l ih => exact ih (hf a x y h)

theorem foldl_simR {α β : Type} (f : Ctx × β → α → Ctx × β) (l : List α) {a b : Ctx × β} (h : SimR a b)
    (hf : ∀ e a b, SimR a b → SimR (f a e) (f b e)) : SimR (l.foldl f a) (l.foldl f b) := by
  induction l generalizing a b with
  | nil => exact h
  | cons e l ih => exact ih (hf e a b h)

/-! ## notifications -/

theorem notifyOne_sim {x y : Ctx} (h : Sim x y) (e : Element) (fk : FetchKey) (ev : String) :
    Sim (notifyOne x e fk ev) (notifyOne y e fk ev) := by
  unfold notifyOne
  rw [← h.1]
  split
  · exact h.send' _ _
  · exact h

theorem notifyFetchers_sim {x y : Ctx} (h : Sim x y) (e : Element) (ev : String) :
    Sim (notifyFetchers x e ev) (notifyFetchers y e ev) := by
  unfold notifyFetchers
  apply foldl_sim _ _ h
  intro a x y hxy
  split
  · exact notifyOne_sim hxy _ _ _
  · exact hxy

theorem offerElement_sim (cfg : Config) {x y : Ctx} (h : Sim x y) (e : Element) (fp : Peer) (f : Fetch) :
    SimR (offerElement cfg x e fp f) (offerElement cfg y e fp f) := by
  unfold offerElement
  exact ite_ind2 (P := fun a b : Ctx × Element => SimR a b) _ ⟨h, rfl⟩
    (ite_ind2 _ ⟨h.send' _ _, rfl⟩ ⟨h, rfl⟩)

theorem findFetchersForElement_sim (cfg : Config) {x y : Ctx} (h : Sim x y) (e : Element) :
    SimR (findFetchersForElement cfg x e) (findFetchersForElement cfg y e) := by
  unfold findFetchersForElement
  rw [← h.1]
  apply foldl_simR _ _ (a := (x, e)) (b := (y, e)) ⟨h, rfl⟩
  intro fp a b hab
  apply foldl_simR _ _ hab
  intro f a b hab
  obtain ⟨h1, h2⟩ := hab
  rw [h2]
  exact offerElement_sim cfg h1 _ _ _

/-- the same state update, depending on the (equal) second components, on both sides -/
theorem SimR.setSt {α : Type} {a b : Ctx × α} (h : SimR a b) (F : State → α → State) :
    Sim { a.1 with st := F a.1.st a.2 } { b.1 with st := F b.1.st b.2 } := by
  obtain ⟨⟨h1, h2, h3, h4⟩, h5⟩ := h
  exact ⟨by simp [h1, h5], h2, h3, h4⟩

theorem offerStep_sim (cfg : Config) (fp : Peer) (f : Fetch) (oc : Nat) {x y : Ctx} (h : Sim x y)
    (e0 : Element) : Sim (offerStep cfg fp f oc x e0) (offerStep cfg fp f oc y e0) := by
  unfold offerStep
  rw [← h.1]
  exact SimR.setSt (offerElement_sim cfg h _ fp f) (fun st e' => { st with peers := updatePeer st.peers oc (fun q =>
      { q with elements := q.elements.map (fun el => if el.path == e'.path then e' else el) }) })

theorem offerAllElements_sim (cfg : Config) {x y : Ctx} (h : Sim x y) (fp : Peer) (f : Fetch) :
    Sim (offerAllElements cfg x fp f) (offerAllElements cfg y fp f) := by
  rw [offerAllElements_eq, offerAllElements_eq, ← h.1]
  exact foldl_sim _ _ h fun owner x y hxy => foldl_sim _ _ hxy fun e0 x y hxy => offerStep_sim cfg fp f owner.conn hxy e0

theorem removeElement_sim {x y : Ctx} (h : Sim x y) (e : Element) :
    Sim (removeElement x e) (removeElement y e) := by
  unfold removeElement
  exact (notifyFetchers_sim h e "remove").setSt (fun st => { st with
    index := removeIndex st.index e.path,
    peers := updatePeer st.peers e.owner (fun q => { q with elements := q.elements.filter (·.path != e.path) }) })

/-! ## teardown -/

theorem clearRoute_sim {x y : Ctx} (h : Sim x y) (r : Route) (c : Nat) :
    Sim (clearRoute x r c) (clearRoute y r c) := by
  unfold clearRoute
  dsimp only
  split
  · exact h.emit _
  · split
    · exact h.emit _
    · split
      · exact (h.emit _).send' _ _
      · exact h.emit _

theorem clearRoutes_sim {x y : Ctx} (h : Sim x y) (l : List Route) (c : Nat) :
    Sim (clearRoutes x l c) (clearRoutes y l c) :=
  foldl_sim _ _ h fun r _ _ hxy => clearRoute_sim hxy r c

theorem removeElements_sim {x y : Ctx} (h : Sim x y) (c : Nat) (l : List Element) :
    Sim (removeElements x c l) (removeElements y c l) := by
  refine foldl_sim _ _ h fun e0 x y hxy => ?_
  rw [← hxy.1]
  split
  · exact removeElement_sim hxy _
  · exact hxy

theorem freePeerResources_sim {x y : Ctx} (h : Sim x y) (c : Nat) :
    Sim (freePeerResources x c) (freePeerResources y c) := by
  cases hp : findPeer x.st.peers c with
  | none => rw [freePeerResources_none hp, freePeerResources_none (h.1 ▸ hp)]; exact h
  | some p =>
    rw [freePeerResources_phases hp, freePeerResources_phases (h.1 ▸ hp)]
    have h1 : Sim (freeTable x c p) (freeTable y c p) :=
      (clearRoutes_sim h p.routes c).setSt fun st =>
        { st with peers := updatePeer st.peers c (fun q => { q with routes := [] }) }
    have h2 : Sim (freeRequests (freeTable x c p) c) (freeRequests (freeTable y c p) c) := by
      unfold freeRequests
      rw [← h1.1]
      exact (clearRoutes_sim h1 _ c).setSt fun st => { st with peers := st.peers.map (fun (q : Peer) =>
        { q with routes := q.routes.filter (·.requester != c) }) }
    have h3 : Sim (unsubscribe (freeRequests (freeTable x c p) c) c) (unsubscribe (freeRequests (freeTable y c p) c) c) :=
      h2.setSt fun st => { st with
        peers := updatePeer (mapElements st.peers (freeSlots c)) c (fun q => { q with fetches := [] }) }
    exact (removeElements_sim h3 c p.elements).setSt fun st => { st with peers := st.peers.filter (·.conn != c) }

theorem closePeer_sim {x y : Ctx} (h : Sim x y) (c : Nat) : Sim (closePeer x c) (closePeer y c) := by
  unfold closePeer
  exact (freePeerResources_sim h c).emit _

/-! ## routed replies and expiry -/

theorem timeoutFired_sim {x y : Ctx} (h : Sim x y) (t : Nat) : Sim (timeoutFired x t) (timeoutFired y t) := by
  unfold timeoutFired
  rw [← h.1]
  split
  · exact h
  · next r _ =>
    have h1 := h.withSt { x.st with peers := removeRoute x.st.peers r.owner r.rid }
    dsimp only
    split
    · exact h1.emit _
    · split
      · exact (h1.send' _ _).emit _
      · exact h1.emit _

theorem routingResponse_sim {x y : Ctx} (h : Sim x y) (p : Peer) (msg payload : Json) (typ : String) :
    SimR (routingResponse x p msg payload typ) (routingResponse y p msg payload typ) := by
  unfold routingResponse
  split
  · next rid _ =>
    split
    · exact ⟨h, rfl⟩
    · next r _ =>
      dsimp only
      have h1 := (h.setSt (fun st => { st with peers := removeRoute st.peers p.conn rid })).emit (.timerDestroy r.timer)
      split
      · exact ⟨h1, rfl⟩
      · split
        · exact ⟨h1.send' _ _, rfl⟩
        · exact ⟨h1, rfl⟩
  · exact ⟨h, rfl⟩

/-! ## request handlers -/

theorem changeState_sim {x y : Ctx} (h : Sim x y) (p : Peer) (req : Json) :
    SimR (changeState x p req) (changeState y p req) := by
  rw [changeState_eq, changeState_eq, ← h.1]
  cases getParamsAndPath req with
  | err r => exact ⟨h, rfl⟩
  | ok params path =>
    dsimp only
    cases params.getItem (k "value") with
    | none => exact ⟨h, rfl⟩
    | some v =>
      dsimp only
      cases findElement x.st path with
      | none => exact ⟨h, rfl⟩
      | some e =>
        exact ite_ind2 (P := fun a b : Ctx × Option Json => SimR a b) _ ⟨h, rfl⟩
          (ite_ind2 _ ⟨h, rfl⟩ ⟨notifyFetchers_sim (h.withSt _) _ _, rfl⟩)

theorem removeElementReq_sim {x y : Ctx} (h : Sim x y) (p : Peer) (req : Json) :
    SimR (removeElementReq x p req) (removeElementReq y p req) := by
  unfold removeElementReq
  split
  · exact ⟨h, rfl⟩
  · split
    · exact ⟨removeElement_sim h _, rfl⟩
    · exact ⟨h, rfl⟩

theorem addCore_sim (cfg : Config) {x y : Ctx} (h : Sim x y) (p : Peer) (req : Json) (e : Element) :
    SimR (addCore cfg x p req e) (addCore cfg y p req e) := by
  obtain ⟨hs, he⟩ := findFetchersForElement_sim cfg h e
  unfold addCore
  dsimp only
  rw [← hs.1, ← he]
  split
  · next hx =>
    rw [if_pos (hs.2.1 ▸ hx)]
    exact ⟨(notifyFetchers_sim hs _ _).setIndexFull false, rfl⟩
  · next hx =>
    rw [if_neg (hs.2.1 ▸ hx)]
    exact ⟨hs.withSt _, rfl⟩

theorem addElement_sim (cfg : Config) {x y : Ctx} (h : Sim x y) (p : Peer) (req : Json) :
    SimR (addElement cfg x p req) (addElement cfg y p req) := by
  rw [addElement_eq, addElement_eq, ← h.1]
  split
  · exact ⟨h, rfl⟩
  · exact addCore_sim cfg h p req _

theorem fetchReq_sim (cfg : Config) {x y : Ctx} (h : Sim x y) (p : Peer) (req : Json) :
    SimR (fetchReq cfg x p req) (fetchReq cfg y p req) := by
  unfold fetchReq
  rw [← h.1]
  cases getFetchId req true with
  | err r => exact ⟨h, rfl⟩
  | ok params fid =>
    refine ite_ind2 (P := fun a b : Ctx × Option Json => SimR a b) _ ⟨h, rfl⟩ ?_
    cases createRule cfg params with
    | err code reason => exact ⟨h, rfl⟩
    | ok rule => exact ⟨offerAllElements_sim cfg (h.withSt _) _ _, rfl⟩

theorem unfetchReq_sim {x y : Ctx} (h : Sim x y) (p : Peer) (req : Json) :
    SimR (unfetchReq x p req) (unfetchReq y p req) := by
  unfold unfetchReq
  rw [← h.1]
  split
  · exact ⟨h, rfl⟩
  · split
    · exact ⟨h, rfl⟩
    · exact ⟨h.withSt _, rfl⟩

theorem getReq_sim (cfg : Config) {x y : Ctx} (h : Sim x y) (p : Peer) (req : Json) :
    SimR (getReq cfg x p req) (getReq cfg y p req) := by
  unfold getReq
  rw [← h.1]
  split
  · exact ⟨h, rfl⟩
  · split <;> exact ⟨h, rfl⟩

theorem configReq_sim {x y : Ctx} (h : Sim x y) (p : Peer) (req : Json) :
    SimR (configReq x p req) (configReq y p req) := by
  unfold configReq
  rw [← h.1]
  split
  · exact ⟨h, rfl⟩
  · split
    · exact ⟨h, rfl⟩
    · exact ⟨h.withSt _, rfl⟩
    · exact ⟨h, rfl⟩

theorem infoReq_sim (cfg : Config) {x y : Ctx} (h : Sim x y) (req : Json) :
    SimR (infoReq cfg x req) (infoReq cfg y req) := ⟨h, rfl⟩

theorem authenticateReq_sim (cfg : Config) {x y : Ctx} (h : Sim x y) (p : Peer) (req : Json) :
    SimR (authenticateReq cfg x p req) (authenticateReq cfg y p req) := by
  unfold authenticateReq
  rw [← h.1]
  cases getCredentials req with
  | err r => exact ⟨h, rfl⟩
  | ok u pw =>
    refine ite_ind2 (P := fun a b : Ctx × Option Json => SimR a b) _ ⟨h, rfl⟩ ?_
    cases (findUser x.st.users u).bind (fun usr => if usr.password == pw then usr.auth else none) with
    | none => exact ⟨h, rfl⟩
    | some auth => exact ⟨h.withSt _, rfl⟩

theorem passwdReq_sim {x y : Ctx} (h : Sim x y) (p : Peer) (req : Json) :
    SimR (passwdReq x p req) (passwdReq y p req) := by
  rw [passwdReq_eq, passwdReq_eq, ← h.1]
  cases getCredentials req with
  | err r => exact ⟨h, rfl⟩
  | ok u pw =>
    dsimp only
    cases passwdVerdict x.st.users p.user u with
    | error reason => exact ⟨h, rfl⟩
    | ok name => exact ⟨h.withSt _, rfl⟩

end Cjet.Daemon.C11
