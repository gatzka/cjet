/-
  DaemonC08Groups — access control as the daemon computes it: groups.c (group names ↦ bits,
  access = non-empty intersection), a model of `is_localhost` (linux_io.c), and what the
  dispatcher does with the requests these tests guard (set, call, get, add, authenticate),
  stated as equations.
-/
import Cjet.Lemmas.DaemonC08Inv

namespace Cjet.Daemon.C08

open Cjet Cjet.Json Cjet.Daemon

/-! ## bits -/

theorem testBit_foldl_or {α : Type} (f : α → Nat) (l : List α) (acc i : Nat) :
    (l.foldl (fun a x => a ||| f x) acc).testBit i = (acc.testBit i || l.any fun x => (f x).testBit i) := by
  induction l generalizing acc with
  | nil => simp
  | cons a rest ih => rw [List.foldl_cons, ih, Nat.testBit_or, List.any_cons, Bool.or_assoc]

/-- bit `i` of `groupBit all g` is set iff the `i`-th registered name is `g` -/
theorem groupBit_testBit (all : List Bytes) (g : Bytes) (i : Nat) :
    (groupBit all g).testBit i = true ↔ all[i]? = some g := by
  have h := testBit_foldl_or (fun x : Bytes × Nat => 1 <<< x.2) (all.zipIdx.filter (fun x => x.1 == g)) 0 i
  rw [Nat.zero_testBit, Bool.false_or] at h
  show (List.foldl (fun a (x : Bytes × Nat) => a ||| 1 <<< x.2) 0 (all.zipIdx.filter fun x => x.1 == g)).testBit i = true ↔ _
  rw [h, List.any_eq_true]
  constructor
  · rintro ⟨⟨n, j⟩, hm, hj⟩
    obtain ⟨hz, hn⟩ := List.mem_filter.1 hm
    rw [Nat.one_shiftLeft, Nat.testBit_two_pow, decide_eq_true_eq] at hj
    rw [← hj, ← beq_iff_eq.1 hn]
    exact List.mem_zipIdx_iff_getElem?.1 hz
  · intro h
    refine ⟨(g, i), List.mem_filter.2 ⟨List.mem_zipIdx_iff_getElem?.2 h, beq_self_eq_true _⟩, ?_⟩
    rw [Nat.one_shiftLeft, Nat.testBit_two_pow_self]

/-- the bits one member of the array contributes in get_groups -/
def memberBits (all : List Bytes) : Json → Nat
  | .str s => groupBit all s
  | _ => 0

theorem getGroups_eq (cfg : Config) (l : List Json) :
    getGroups cfg (some (.arr l)) =
      if !cfg.authLoaded then 0 else l.foldl (fun acc g => acc ||| memberBits cfg.allGroups g) 0 := by
  unfold getGroups
  split
  · rfl
  · dsimp only
    congr 1
    funext acc g
    cases g <;> first | rfl | exact (Nat.or_zero _).symm

/-- get_groups: bit `j` is set iff the `j`-th registered group name is a string member of the array -/
theorem getGroups_testBit (cfg : Config) (hauth : cfg.authLoaded = true) (l : List Json) (j : Nat) :
    (getGroups cfg (some (.arr l))).testBit j = true ↔ ∃ name, cfg.allGroups[j]? = some name ∧ Json.str name ∈ l := by
  rw [getGroups_eq, hauth, if_neg (by decide), testBit_foldl_or, Nat.zero_testBit, Bool.false_or, List.any_eq_true]
  constructor
  · rintro ⟨g, hg, hb⟩
    cases g with
    | str s => exact ⟨s, (groupBit_testBit ..).1 hb, hg⟩
    | _ => exact absurd ((Nat.zero_testBit j).symm.trans hb) Bool.false_ne_true
  · rintro ⟨name, hn, hm⟩
    exact ⟨_, hm, (groupBit_testBit ..).2 hn⟩

theorem getGroups_not_array (cfg : Config) (j : Option Json) (h : ∀ l, j ≠ some (.arr l)) : getGroups cfg j = 0 := by
  unfold getGroups
  split
  · rfl
  · split
    · rename_i l; exact absurd rfl (h l)
    · rfl

theorem getGroups_noauth (cfg : Config) (h : cfg.authLoaded = false) (j : Option Json) : getGroups cfg j = 0 := by
  unfold getGroups; simp [h]

theorem and_ne_zero_iff (a b : Nat) : a &&& b ≠ 0 ↔ ∃ i, a.testBit i = true ∧ b.testBit i = true := by
  constructor
  · intro h
    apply Classical.byContradiction
    intro hne
    apply h
    apply Nat.eq_of_testBit_eq
    intro i
    rw [Nat.zero_testBit, Nat.testBit_and]
    cases ha : a.testBit i <;> cases hb : b.testBit i <;> simp
    exact hne ⟨i, ha, hb⟩
  · rintro ⟨i, ha, hb⟩ h
    have := Nat.testBit_and a b i
    rw [h, Nat.zero_testBit, ha, hb] at this
    cases this

theorem hasAccess_auth (cfg : Config) (hauth : cfg.authLoaded = true) (a b : Nat) :
    hasAccess cfg a b = true ↔ a &&& b ≠ 0 := by
  unfold hasAccess
  simp [hauth]

theorem hasAccess_noauth (cfg : Config) (hauth : cfg.authLoaded = false) (a b : Nat) : hasAccess cfg a b = true := by
  unfold hasAccess
  simp [hauth]

/-- every group word fits the 32-bit `group_t` when at most 32 groups are registered -/
theorem getGroups_lt (cfg : Config) (h32 : cfg.allGroups.length ≤ 32) (j : Option Json) : getGroups cfg j < 2 ^ 32 := by
  apply Nat.lt_pow_two_of_testBit
  intro i hi
  cases hauth : cfg.authLoaded with
  | false => rw [getGroups_noauth cfg hauth, Nat.zero_testBit]
  | true =>
    cases j with
    | none => rw [getGroups_not_array cfg none (by intro l h; cases h), Nat.zero_testBit]
    | some v =>
      cases v with
      | arr l =>
        cases hb : (getGroups cfg (some (.arr l))).testBit i with
        | false => rfl
        | true =>
          obtain ⟨n, hn, _⟩ := (getGroups_testBit cfg hauth l i).mp hb
          have : i < cfg.allGroups.length := by
            apply Classical.byContradiction
            intro hlt
            rw [List.getElem?_eq_none (by omega)] at hn
            cases hn
          omega
      | null | bool _ | num _ | str _ | obj _ =>
        rw [getGroups_not_array cfg _ (by intro l h; cases h), Nat.zero_testBit]

/-! ## is_localhost (linux_io.c) -/

def AF_UNIX : Nat := 1
def AF_INET : Nat := 2
def AF_INET6 : Nat := 10

def v4Loopback : List UInt8 := [0x7f, 0, 0, 1]
def v6Loopback : List UInt8 := [0, 0, 0, 0, 0, 0, 0, 0, 0, 0, 0, 0, 0, 0, 0, 1]
def v6MappedLoopback : List UInt8 := [0, 0, 0, 0, 0, 0, 0, 0, 0, 0, 0xff, 0xff, 0x7f, 0, 0, 1]

/-- `is_localhost(&addr)`: `fam` is `addr.ss_family`; `addr4` are the four bytes at the offset of
    `sin_addr` (bytes 4‥7 of the storage), `addr16` the sixteen bytes at the offset of `sin6_addr`
    (bytes 8‥23 of the storage). The storage was zeroed before `accept` filled it in. Only
    AF_INET takes the first branch; every other family is compared as if it were IPv6. -/
def isLocalhost (fam : Nat) (addr4 addr16 : List UInt8) : Bool :=
  if fam = AF_INET then addr4 == v4Loopback
  else addr16 == v6MappedLoopback || addr16 == v6Loopback

theorem isLocalhost_iff (fam : Nat) (a4 a16 : List UInt8) :
    isLocalhost fam a4 a16 = true ↔
      (fam = AF_INET ∧ a4 = v4Loopback) ∨ (fam ≠ AF_INET ∧ (a16 = v6MappedLoopback ∨ a16 = v6Loopback)) := by
  unfold isLocalhost
  by_cases h : fam = AF_INET
  · simp [h]
  · simp [h]

/-- what `accept` on the Unix-domain listener leaves in the zeroed storage for a client that did
    not bind its socket: family AF_UNIX and nothing else -/
theorem isLocalhost_unix_unnamed : isLocalhost AF_UNIX (List.replicate 4 0) (List.replicate 16 0) = false := by
  decide

/-- … hence, for AF_UNIX, the answer depends on bytes 6‥21 of the client's `sun_path` -/
theorem isLocalhost_unix (a4 a16 : List UInt8) :
    isLocalhost AF_UNIX a4 a16 = true ↔ a16 = v6MappedLoopback ∨ a16 = v6Loopback := by
  rw [isLocalhost_iff]
  simp [AF_UNIX, AF_INET]

/-! ## requests by method name -/

/-- the method name of a request object -/
def methodOf (req : Json) : Option Bytes :=
  match req.getItem (k "method") with
  | some (.str m) => some m
  | _ => none

theorem methodOf_eq {req : Json} {m : Bytes} (h : methodOf req = some m) : req.getItem (k "method") = some (.str m) := by
  unfold methodOf at h
  split at h
  · cases h; assumption
  · cases h

theorem parseJsonRpc_of_methodOf {cfg : Config} {x : Ctx} {c : Nat} {req : Json} {p : Peer} {m : Bytes}
    (hp : findPeer x.st.peers c = some p) (hm : methodOf req = some m) :
    parseJsonRpc cfg x c req = sendResponse (handleMethod cfg x p req m).1 c (handleMethod cfg x p req m).2 :=
  parseJsonRpc_method hp (methodOf_eq hm)

/-! ## set / call -/

/-- the access test of set_or_call -/
def routeAccess (cfg : Config) (e : Element) (p : Peer) (isState : Bool) : Bool :=
  if isState then hasAccess cfg e.setGroups p.setGroups else hasAccess cfg e.callGroups p.callGroups

theorem routeAccess_iff (cfg : Config) (hauth : cfg.authLoaded = true) (e : Element) (p : Peer) (isState : Bool) :
    routeAccess cfg e p isState = true ↔
      (if isState then e.setGroups &&& p.setGroups else e.callGroups &&& p.callGroups) ≠ 0 := by
  cases isState <;> exact hasAccess_auth cfg hauth _ _

theorem parseJsonRpc_setOrCall {cfg : Config} {x : Ctx} {c : Nat} {req : Json} {p : Peer} {isState : Bool}
    (hp : findPeer x.st.peers c = some p) (hm : methodOf req = some (if isState then k "set" else k "call")) :
    parseJsonRpc cfg x c req = sendResponse (setOrCall cfg x p req isState).1 c (setOrCall cfg x p req isState).2 := by
  rw [parseJsonRpc_of_methodOf hp hm]
  cases isState
  · rw [if_neg Bool.false_ne_true, handleMethod_call]
  · rw [if_pos rfl, handleMethod_set]

open C03 in
/-- without access nothing happens but an INVALID_PARAMS answer -/
theorem setOrCall_denied {cfg : Config} {x : Ctx} {p : Peer} {req params : Json} {path : Bytes} {e : Element} {isState : Bool}
    (hgp : getParamsAndPath req = .ok params path) (he : findElement x.st path = some e)
    (hacc : routeAccess cfg e p isState = false) :
    ∃ tag, setOrCall cfg x p req isState = (x, errorFromRequest req INVALID_PARAMS tag path) := by
  rw [setOrCall_eq]
  cases hc : routeChecks cfg x.st p req isState with
  | ok a =>
    have h := routeChecks_ok_iff.1 hc
    cases hgp.symm.trans h.pp
    cases he.symm.trans h.el
    cases hacc.symm.trans h.acc
  | error r =>
    -- past the parameter checks every refusal names the path
    unfold routeChecks at hc
    rw [hgp] at hc
    dsimp only at hc
    rw [he] at hc
    dsimp only at hc
    by_cases h1 : e.fetchOnly = true
    · rw [if_pos h1] at hc; cases hc; exact ⟨_, rfl⟩
    rw [if_neg h1] at hc
    by_cases h2 : (isState != e.value.isSome) = true
    · rw [if_pos h2] at hc; cases hc; exact ⟨_, rfl⟩
    rw [if_neg h2, if_pos (by rw [show (if isState then _ else _) = false from hacc]; rfl)] at hc
    cases hc
    exact ⟨_, rfl⟩

open C03 in
/-- whenever set_or_call does anything beyond answering, the access test has passed -/
theorem setOrCall_effect (cfg : Config) (x : Ctx) (p : Peer) (req : Json) (isState : Bool) :
    (setOrCall cfg x p req isState).1 = x ∨
    ∃ params path e, getParamsAndPath req = .ok params path ∧ findElement x.st path = some e ∧
      routeAccess cfg e p isState = true := by
  rw [setOrCall_eq]
  cases hc : routeChecks cfg x.st p req isState with
  | error r => exact Or.inl rfl
  | ok a => exact have h := routeChecks_ok_iff.1 hc; Or.inr ⟨_, _, _, h.pp, h.el, h.acc⟩

/-! ## get -/

/-- the entries of a `get` result -/
def getEntries (cfg : Config) (s : State) (p : Peer) (rule : Rule) : List Json :=
  s.peers.flatMap (fun owner => owner.elements.filterMap (fun e =>
    if hasAccess cfg e.fetchGroups p.fetchGroups && ruleMatches rule e.path then
      match e.value with
      | some v => some (Json.obj [(k "path", .str e.path), (k "value", v)])
      | none => none
    else none))

theorem getReq_spec (cfg : Config) (x : Ctx) (p : Peer) (req : Json) :
    (getReq cfg x p req).1 = x ∧
    ((∃ tag reason code, (getReq cfg x p req).2 = errorFromRequest req code tag reason) ∨
     (∃ rule, (getReq cfg x p req).2 = resultFromRequest req (.arr (getEntries cfg x.st p rule)))) := by
  refine ⟨getReq_fst .., ?_⟩
  rcases getReq_cases cfg x p req with ⟨code, tag, reason, e⟩ | ⟨_, rule, _, _, e⟩ <;> rw [e]
  · exact Or.inl ⟨tag, reason, code, rfl⟩
  · exact Or.inr ⟨rule, rfl⟩

theorem getEntries_mem {cfg : Config} {s : State} {p : Peer} {rule : Rule} {entry : Json}
    (h : entry ∈ getEntries cfg s p rule) :
    ∃ owner ∈ s.peers, ∃ e ∈ owner.elements, ∃ v, e.value = some v ∧
      entry = Json.obj [(k "path", .str e.path), (k "value", v)] ∧
      hasAccess cfg e.fetchGroups p.fetchGroups = true ∧ ruleMatches rule e.path = true := by
  obtain ⟨owner, ho, h⟩ := List.mem_flatMap.1 h
  obtain ⟨e, he, h⟩ := List.mem_filterMap.1 h
  split at h
  · next hc =>
    rw [Bool.and_eq_true] at hc
    split at h
    · next v hv => exact ⟨owner, ho, e, he, v, hv, (Option.some.inj h).symm, hc.1, hc.2⟩
    · cases h
  · cases h

/-! ## add -/

theorem addElement_remote {cfg : Config} (x : Ctx) {p : Peer} (req : Json) (hl : cfg.localOnlyAdd = true) (hp : p.isLocal = false) :
    addElement cfg x p req = (x, errorFromRequest req INVALID_REQUEST "reason" (k "add only allowed from localhost")) := by
  rw [addElement, hl, hp]
  rfl

/-! ## authenticate -/

/-- the verdict of credentials_ok -/
def credentialsOk (us : List User) (u pw : Bytes) : Option Json :=
  (findUser us u).bind (fun usr => if usr.password == pw then usr.auth else none)

/-- an authenticate request either leaves everything as it is and answers with an error (or not
    at all), or the credentials were verified, the three group words and the user name are
    assigned and the answer is `true` -/
theorem authenticateReq_spec (cfg : Config) (x : Ctx) (p : Peer) (req : Json) :
    ((authenticateReq cfg x p req).1 = x ∧
      (∀ j, (authenticateReq cfg x p req).2 = some j → (j.getItem (k "error")).isSome = true)) ∨
    (∃ u pw auth, getCredentials req = .ok u pw ∧ p.fetches = [] ∧ credentialsOk x.st.users u pw = some auth ∧
      authenticateReq cfg x p req =
        ({ x with st := { x.st with peers := updatePeer x.st.peers p.conn (authUpd cfg auth u) } },
         successFromRequest req)) := by
  rcases authenticateReq_cases cfg x p req with ⟨_, _, e⟩ | ⟨u, pw, usr, auth, hc, hf, hu, hpw, ha, e⟩ <;> rw [e]
  · exact Or.inl ⟨rfl, fun _ => error_has_error⟩
  · refine Or.inr ⟨u, pw, auth, hc, hf, ?_, rfl⟩
    rw [credentialsOk, hu, Option.bind_some, if_pos (beq_iff_eq.2 hpw), ha]

theorem authenticateReq_eq (cfg : Config) (x : Ctx) (p : Peer) (req : Json) :
    authenticateReq cfg x p req =
      match getCredentials req with
      | .err r => (x, r)
      | .ok u pw =>
        if !p.fetches.isEmpty then (x, errorFromRequest req INVALID_PARAMS "fetched before authenticate" u)
        else match credentialsOk x.st.users u pw with
          | none => (x, errorFromRequest req INVALID_PARAMS "invalid credentials" u)
          | some auth =>
            ({ x with st := { x.st with peers := updatePeer x.st.peers p.conn (authUpd cfg auth u) } },
             successFromRequest req) := rfl

end Cjet.Daemon.C08
