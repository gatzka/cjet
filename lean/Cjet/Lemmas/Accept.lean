import Cjet.Accept
/-!
Helper lemmas for `Cjet.Props.Accept`: projections of traces, the shape of the events one
connection produces, the reference monitor over one connection, the errno classes, the equations and the
induction principle of the accept loop, the answers one call consumes (`cut`), the fields `is_localhost` reads.
-/
namespace Cjet.Accept

open Cjet.Generated.Accept

/-! ## projections distribute over append -/

theorem closes_append (a b : List Ev) : closes (a ++ b) = closes a ++ closes b := by
  induction a with
  | nil => rfl
  | cons e t ih => cases e with | close fd => exact congrArg (fd :: ·) ih | _ => exact ih

theorem owners_append (a b : List Ev) : owners (a ++ b) = owners a ++ owners b := by
  induction a with
  | nil => rfl
  | cons e t ih => cases e with | owned fd => exact congrArg (fd :: ·) ih | _ => exact ih

theorem accepted_append (a b : List Ev) : accepted (a ++ b) = accepted a ++ accepted b := by
  induction a with
  | nil => rfl
  | cons e t ih => cases e with | acceptFd _ fd => exact congrArg (fd :: ·) ih | _ => exact ih

theorem allocs_append (a b : List Ev) : allocs (a ++ b) = allocs a ++ allocs b := by
  induction a with
  | nil => rfl
  | cons e t ih => cases e with | alloc o => exact congrArg (o :: ·) ih | _ => exact ih

theorem frees_append (a b : List Ev) : frees (a ++ b) = frees a ++ frees b := by
  induction a with
  | nil => rfl
  | cons e t ih => cases e with | free o => exact congrArg (o :: ·) ih | _ => exact ih

theorem acceptErrs_append (a b : List Ev) : acceptErrs (a ++ b) = acceptErrs a ++ acceptErrs b := by
  induction a with
  | nil => rfl
  | cons e t ih => cases e with | acceptErr _ x => exact congrArg (x :: ·) ih | _ => exact ih

/-! ## prepare_peer_socket only makes system calls on its descriptor -/

/-- "every event is a system call on `fd`" -/
def OnlySys (fd : Nat) (t : List Ev) : Prop := ∀ e ∈ t, ∃ c ok, e = Ev.sys fd c ok

theorem runSteps_onlySys (fd : Nat) (steps : List (Sys × Bool)) : OnlySys fd (runSteps fd steps).1 := by
  induction steps with
  | nil => exact List.forall_mem_nil _
  | cons st rest ih =>
    obtain ⟨c, _ | _⟩ := st
    · exact List.forall_mem_cons.2 ⟨⟨c, false, rfl⟩, List.forall_mem_nil _⟩
    · exact List.forall_mem_cons.2 ⟨⟨c, true, rfl⟩, ih⟩

theorem prepare_onlySys (fd : Nat) (s : Setup) : OnlySys fd (prepare fd s).1 :=
  runSteps_onlySys fd _

theorem OnlySys.proj_nil {α : Type} {proj : List Ev → List α} (h0 : proj [] = [])
    (hs : ∀ fd c ok t, proj (.sys fd c ok :: t) = proj t) {fd : Nat} {t : List Ev} (h : OnlySys fd t) : proj t = [] := by
  induction t with
  | nil => exact h0
  | cons e t ih =>
    obtain ⟨c, ok, rfl⟩ := h e List.mem_cons_self
    rw [hs]; exact ih fun e he => h e (List.mem_cons_of_mem _ he)

theorem OnlySys.closes {fd : Nat} {t : List Ev} (h : OnlySys fd t) : closes t = [] :=
  h.proj_nil rfl fun _ _ _ _ => rfl

theorem OnlySys.owners {fd : Nat} {t : List Ev} (h : OnlySys fd t) : owners t = [] :=
  h.proj_nil rfl fun _ _ _ _ => rfl

theorem OnlySys.accepted {fd : Nat} {t : List Ev} (h : OnlySys fd t) : accepted t = [] :=
  h.proj_nil rfl fun _ _ _ _ => rfl

theorem OnlySys.allocs {fd : Nat} {t : List Ev} (h : OnlySys fd t) : allocs t = [] :=
  h.proj_nil rfl fun _ _ _ _ => rfl

theorem OnlySys.frees {fd : Nat} {t : List Ev} (h : OnlySys fd t) : frees t = [] :=
  h.proj_nil rfl fun _ _ _ _ => rfl

theorem OnlySys.acceptErrs {fd : Nat} {t : List Ev} (h : OnlySys fd t) : acceptErrs t = [] :=
  h.proj_nil rfl fun _ _ _ _ => rfl

/-- The monitor passes over system calls on the descriptor in flight without changing state. -/
theorem OnlySys.mon {fd : Nat} {t : List Ev} (h : OnlySys fd t) (live : List Obj) (rest : List Ev) :
    Mon.run ⟨some fd, live⟩ (t ++ rest) = Mon.run ⟨some fd, live⟩ rest := by
  induction t with
  | nil => rfl
  | cons e t ih =>
    obtain ⟨c, ok, rfl⟩ := h e (List.mem_cons_self)
    simp only [List.cons_append, Mon.run, Mon.step, if_true]
    exact ih (fun e he => h e (List.mem_cons_of_mem _ he))

/-! ## what one connection produces -/

/-- The five ways the set-up of one connection ends (`pre` = the system calls of
    `prepare_peer_socket`; the owner record is that of the listener kind). -/
inductive Shape (fd : Nat) (loc : Bool) (k : Kind) (pre : List Ev) : List Ev → Prop where
  | prepFail : Shape fd loc k pre (pre ++ [.close fd])
  | ownerFail : Shape fd loc k pre (pre ++ [.allocFail (ownerObj k), .close fd])
  | bsFail : Shape fd loc k pre (pre ++ [.alloc (ownerObj k), .allocFail .bs, .free (ownerObj k), .close fd])
  | initFail : Shape fd loc k pre
      (pre ++ [.alloc (ownerObj k), .alloc .bs, .initFail, .free .bs, .free (ownerObj k), .close fd])
  | owned : Shape fd loc k pre (pre ++ [.alloc (ownerObj k), .alloc .bs, .owned fd loc k])

theorem Shape.ite {fd : Nat} {loc : Bool} {k : Kind} {pre a b : List Ev} {c : Prop} [Decidable c]
    (ha : Shape fd loc k pre a) (hb : Shape fd loc k pre b) : Shape fd loc k pre (if c then a else b) := by
  split <;> assumption

theorem handleJet_shape (fd : Nat) (loc : Bool) (s : Setup) :
    Shape fd loc .jet (prepare fd s).1 (handleJet fd loc s) :=
  .ite .prepFail (.ite .ownerFail (.ite .bsFail (.ite .initFail .owned)))

theorem handleHttp_shape (fd : Nat) (loc : Bool) (s : Setup) :
    Shape fd loc .http (prepare fd s).1 (handleHttp fd loc s) :=
  .ite .prepFail (.ite .ownerFail (.ite .bsFail (.ite .initFail .owned)))

/-- Summary of one connection's events, for every listener kind. -/
structure BlockFacts (k : Kind) (fd : Nat) (h : List Ev) : Prop where
  accepted : accepted h = []
  acceptErrs : acceptErrs h = []
  resolved : (closes h = [fd] ∧ owners h = [] ∧ frees h = (allocs h).reverse ∧ (allocs h).Nodup) ∨
    (closes h = [] ∧ owners h = [fd] ∧ allocs h = [ownerObj k, .bs] ∧ frees h = [])
  mon : ∀ rest, Mon.run ⟨some fd, []⟩ (h ++ rest) = Mon.run ⟨none, []⟩ rest

theorem BlockFacts.prepend {k : Kind} {fd : Nat} {pre tail : List Ev} (hp : OnlySys fd pre) (h : BlockFacts k fd tail) :
    BlockFacts k fd (pre ++ tail) where
  accepted := by rw [accepted_append, hp.accepted]; exact h.accepted
  acceptErrs := by rw [acceptErrs_append, hp.acceptErrs]; exact h.acceptErrs
  resolved := by
    rw [closes_append, owners_append, frees_append, allocs_append, hp.closes, hp.owners, hp.frees, hp.allocs]
    exact h.resolved
  mon rest := by rw [List.append_assoc, hp.mon]; exact h.mon rest

/-- per connection: records freed + records handed to the new owner = records allocated -/
theorem BlockFacts.balance {k : Kind} {fd : Nat} {t : List Ev} (h : BlockFacts k fd t) (o : Obj) :
    (frees t).count o + (if o = ownerObj k ∨ o = .bs then (owners t).length else 0) = (allocs t).count o := by
  rcases h.resolved with ⟨-, ho, hf, -⟩ | ⟨-, ho, ha, hf⟩
  · rw [ho, hf, List.count_reverse]; exact congrArg _ (ite_self _)
  · rw [ho, ha, hf]; cases k <;> cases o <;> rfl

/-- per connection: the descriptor is closed or handed over, once; no other is -/
theorem BlockFacts.fd_once {k : Kind} {fd : Nat} {t : List Ev} (h : BlockFacts k fd t) (x : Nat) :
    (closes t).count x + (owners t).count x = [fd].count x := by
  rcases h.resolved with ⟨hc, ho, -, -⟩ | ⟨hc, ho, -, -⟩ <;> rw [hc, ho]
  · exact Nat.add_zero _
  · exact Nat.zero_add _

theorem Shape.facts {fd : Nat} {loc : Bool} {k : Kind} {pre h : List Ev}
    (hs : Shape fd loc k pre h) (hp : OnlySys fd pre) : BlockFacts k fd h := by
  have hne : ownerObj k ≠ .bs := by cases k <;> decide
  have hne' : Obj.bs ≠ ownerObj k := hne.symm
  cases hs with
  | prepFail | ownerFail =>
    exact .prepend hp ⟨rfl, rfl, .inl ⟨rfl, rfl, rfl, List.nodup_nil⟩, fun rest => by simp [Mon.run, Mon.step]⟩
  | bsFail =>
    exact .prepend hp ⟨rfl, rfl, .inl ⟨rfl, rfl, rfl, List.nodup_cons.2 ⟨List.not_mem_nil, List.nodup_nil⟩⟩, fun rest => by simp [Mon.run, Mon.step]⟩
  | initFail =>
    exact .prepend hp ⟨rfl, rfl, .inl ⟨rfl, rfl, rfl, by simp [allocs, hne]⟩,
      fun rest => by simp [Mon.run, Mon.step, hne']⟩
  | owned =>
    exact .prepend hp ⟨rfl, rfl, .inr ⟨rfl, rfl, rfl, rfl⟩, fun rest => by simp [Mon.run, Mon.step, hne']⟩

theorem handle_facts (k : Kind) (fd : Nat) (loc : Bool) (s : Setup) : BlockFacts k fd (handle k fd loc s) := by
  cases k with
  | jet => exact (handleJet_shape fd loc s).facts (prepare_onlySys fd s)
  | http => exact (handleHttp_shape fd loc s).facts (prepare_onlySys fd s)
  | none => exact ⟨rfl, rfl, .inl ⟨rfl, rfl, rfl, List.nodup_nil⟩, fun rest => by simp [handle, Mon.run, Mon.step]⟩

theorem Shape.noRemove {fd : Nat} {loc : Bool} {k : Kind} {pre h : List Ev}
    (hs : Shape fd loc k pre h) (hp : OnlySys fd pre) (l : Nat) : Ev.remove l ∉ h := by
  have hpre : Ev.remove l ∉ pre := by
    intro hm
    obtain ⟨c, ok, hh⟩ := hp _ hm
    cases hh
  cases hs <;> simp [hpre]

theorem handle_noRemove (k : Kind) (fd : Nat) (loc : Bool) (s : Setup) (l : Nat) : Ev.remove l ∉ handle k fd loc s := by
  cases k with
  | jet => exact (handleJet_shape fd loc s).noRemove (prepare_onlySys fd s) l
  | http => exact (handleHttp_shape fd loc s).noRemove (prepare_onlySys fd s) l
  | none => simp [handle]

/-! ## errno classes -/

theorem defaultAct_stop : defaultAct = .stop := by decide

/-- the `switch` read off the generated groups: the `stop` group and `default:` do the same -/
theorem classify_eq (e : Nat) :
    classify e = if e ∈ fatalErrnos then .abort else if e ∈ retryErrnos then .retry else .stop := by
  rw [classify, defaultAct_stop, ite_self]

theorem classify_abort_iff (e : Nat) : classify e = .abort ↔ e ∈ fatalErrnos := by
  rw [classify_eq]
  by_cases hf : e ∈ fatalErrnos
  · rw [if_pos hf]; exact iff_of_true rfl hf
  · rw [if_neg hf]; exact iff_of_false (fun h => by split at h <;> cases h) hf

theorem retry_not_fatal : ∀ e ∈ retryErrnos, e ∉ fatalErrnos := by decide

theorem classify_retry_iff (e : Nat) : classify e = .retry ↔ e ∈ retryErrnos := by
  rw [classify_eq]
  by_cases hf : e ∈ fatalErrnos
  · rw [if_pos hf]; exact iff_of_false nofun fun hr => retry_not_fatal e hr hf
  · rw [if_neg hf]
    by_cases hr : e ∈ retryErrnos
    · rw [if_pos hr]; exact iff_of_true rfl hr
    · rw [if_neg hr]; exact iff_of_false nofun hr

theorem classify_stop_iff (e : Nat) : classify e = .stop ↔ e ∉ fatalErrnos ∧ e ∉ retryErrnos := by
  rw [classify_eq]
  by_cases hf : e ∈ fatalErrnos
  · rw [if_pos hf]; exact iff_of_false nofun fun h => h.1 hf
  · rw [if_neg hf]
    by_cases hr : e ∈ retryErrnos
    · rw [if_pos hr]; exact iff_of_false nofun fun h => h.2 hr
    · rw [if_neg hr]; exact iff_of_true rfl ⟨hf, hr⟩

theorem classify_eagain : classify EAGAIN = .stop := by decide

theorem classify_retry_of {e : Nat} (h : (Ans.err e).isConn = true ∨ (Ans.err e).isRetry = true) : classify e = .retry :=
  h.elim nofun of_decide_eq_true

/-! ## the loop -/

theorem acceptLoop_nil (k : Kind) (l : Nat) :
    acceptLoop k l [] = ⟨[.acceptErr l EAGAIN], .continueLoop, 0⟩ := by
  simp [acceptLoop, classify_eagain]

theorem acceptLoop_conn (k : Kind) (l fd fam : Nat) (sa : List UInt8) (s : Setup) (rest : List Ans) :
    acceptLoop k l (.conn fd fam sa s :: rest) =
      ⟨.acceptFd l fd :: (handle k fd (isLocalhost fam sa) s ++ (acceptLoop k l rest).trace),
       (acceptLoop k l rest).ret, (acceptLoop k l rest).used + 1⟩ := by
  simp [acceptLoop]

theorem acceptLoop_retry (k : Kind) (l e : Nat) (rest : List Ans) (h : classify e = .retry) :
    acceptLoop k l (.err e :: rest) =
      ⟨.acceptErr l e :: (acceptLoop k l rest).trace, (acceptLoop k l rest).ret, (acceptLoop k l rest).used + 1⟩ := by
  simp [acceptLoop, h]

theorem acceptLoop_stop (k : Kind) (l e : Nat) (rest : List Ans) (h : classify e = .stop) :
    acceptLoop k l (.err e :: rest) = ⟨[.acceptErr l e], .continueLoop, 1⟩ := by
  simp [acceptLoop, h]

theorem acceptLoop_abort (k : Kind) (l e : Nat) (rest : List Ans) (h : classify e = .abort) :
    acceptLoop k l (.err e :: rest) = ⟨[.acceptErr l e], .abortLoop, 1⟩ := by
  simp [acceptLoop, h]

/-- Induction principle that follows the loop: empty queue, a connection, and the three errno classes. -/
theorem acceptLoop_induct {motive : List Ans → Prop}
    (nil : motive [])
    (conn : ∀ fd fam sa s rest, motive rest → motive (.conn fd fam sa s :: rest))
    (retry : ∀ e rest, classify e = .retry → motive rest → motive (.err e :: rest))
    (stop : ∀ e rest, classify e = .stop → motive (.err e :: rest))
    (abort : ∀ e rest, classify e = .abort → motive (.err e :: rest)) :
    ∀ script, motive script := by
  intro script
  induction script with
  | nil => exact nil
  | cons a rest ih =>
    cases a with
    | conn fd fam sa s => exact conn fd fam sa s rest ih
    | err e =>
      cases hc : classify e with
      | stop => exact stop e rest hc
      | retry => exact retry e rest hc ih
      | abort => exact abort e rest hc

theorem cut_retry (e : Nat) (rest : List Ans) (h : classify e = .retry) : cut (.err e :: rest) = .err e :: cut rest := by
  simp [cut, h]

theorem cut_noretry (e : Nat) (rest : List Ans) (h : classify e ≠ .retry) : cut (.err e :: rest) = [.err e] := by
  simp [cut, h]

theorem cut_conn (fd fam : Nat) (sa : List UInt8) (s : Setup) (rest : List Ans) :
    cut (.conn fd fam sa s :: rest) = .conn fd fam sa s :: cut rest := by
  simp [cut]

theorem used_eq_cut_length (k : Kind) (l : Nat) : ∀ script, (acceptLoop k l script).used = (cut script).length := by
  apply acceptLoop_induct
  · simp [acceptLoop_nil, cut]
  · intro fd fam sa s rest ih; simp [acceptLoop_conn, cut_conn, ih]
  · intro e rest h ih; simp [acceptLoop_retry _ _ _ _ h, cut_retry _ _ h, ih]
  · intro e rest h; simp [acceptLoop_stop _ _ _ _ h, cut_noretry e rest (by simp [h])]
  · intro e rest h; simp [acceptLoop_abort _ _ _ _ h, cut_noretry e rest (by simp [h])]

theorem cut_prefix : ∀ script, cut script <+: script := by
  intro script
  induction script with
  | nil => simp [cut]
  | cons a rest ih =>
    cases a with
    | conn fd fam sa s => rw [cut_conn]; exact (List.prefix_cons_inj _).mpr ih
    | err e =>
      by_cases h : classify e = .retry
      · rw [cut_retry _ _ h]; exact (List.prefix_cons_inj _).mpr ih
      · rw [cut_noretry _ _ h]; exact ⟨rest, rfl⟩

/-- A prefix of connections and retry-class errnos is consumed entirely. -/
theorem cut_append_of_retry (pre rest : List Ans) (h : ∀ a ∈ pre, a.isConn = true ∨ a.isRetry = true) :
    cut (pre ++ rest) = pre ++ cut rest := by
  induction pre with
  | nil => rfl
  | cons a pre ih =>
    have ih' := ih (fun a ha => h a (List.mem_cons_of_mem _ ha))
    cases a with
    | conn fd fam sa s => simp [cut_conn, ih']
    | err e =>
      simp [cut_retry _ _ (classify_retry_of (h _ List.mem_cons_self)), ih']

/-! ## is_localhost -/

theorem field_length (sa : List UInt8) (off n : Nat) : (field sa off n).length = n := by
  simp [field]

theorem field_getElem (sa : List UInt8) (off n i : Nat) (h : i < (field sa off n).length) :
    (field sa off n)[i] = sa.getD (off + i) 0 := by
  simp [field]

/-- Reading a field that lies completely inside what the kernel stored. -/
theorem field_append (pre a post : List UInt8) : field (pre ++ a ++ post) pre.length a.length = a := by
  apply List.ext_getElem
  · simp [field]
  · intro i h1 h2
    rw [field_getElem]
    simp [List.getD_eq_getElem?_getD, List.getElem?_append_right, List.getElem?_append_left, h2]

/-- Beyond what the kernel stored the zeroed storage reads 0. -/
theorem field_last_zero_of_short (sa : List UInt8) (off n : Nat) (h : sa.length ≤ off + n) :
    (field sa off (n + 1))[n]'(by simp [field]) = 0 := by
  rw [field_getElem]
  simp [List.getD_eq_getElem?_getD, List.getElem?_eq_none h]

/-! ## connFds -/

theorem connFds_err (e : Nat) (t : List Ans) : connFds (.err e :: t) = connFds t := rfl

theorem connFds_conn (fd fam : Nat) (sa : List UInt8) (s : Setup) (t : List Ans) :
    connFds (.conn fd fam sa s :: t) = fd :: connFds t := rfl

theorem connFds_nil : connFds [] = [] := rfl

/-! ## accounting over the loop -/

theorem accepted_eq_connFds_cut (k : Kind) (l : Nat) :
    ∀ script, accepted (acceptLoop k l script).trace = connFds (cut script) := by
  apply acceptLoop_induct
  · simp [acceptLoop_nil, accepted, cut, connFds_nil]
  · intro fd fam sa s rest ih
    simp only [acceptLoop_conn, accepted, accepted_append, (handle_facts k fd _ s).accepted, cut_conn, ih,
      connFds_conn, List.nil_append]
  · intro e rest h ih
    simp only [acceptLoop_retry _ _ _ _ h, accepted, cut_retry _ _ h, ih, connFds_err]
  · intro e rest h
    simp [acceptLoop_stop _ _ _ _ h, accepted, cut_noretry e rest (by simp [h]), connFds_err, connFds_nil]
  · intro e rest h
    simp [acceptLoop_abort _ _ _ _ h, accepted, cut_noretry e rest (by simp [h]), connFds_err, connFds_nil]

theorem fd_count_eq (k : Kind) (l : Nat) (x : Nat) :
    ∀ script, (closes (acceptLoop k l script).trace).count x + (owners (acceptLoop k l script).trace).count x =
      (accepted (acceptLoop k l script).trace).count x := by
  apply acceptLoop_induct
  · simp [acceptLoop_nil, accepted, closes, owners]
  · intro fd fam sa s rest ih
    have hf := handle_facts k fd (isLocalhost fam sa) s
    have hb := hf.fd_once x
    rw [acceptLoop_conn]
    show (closes (handle k fd _ s ++ _)).count x + (owners (handle k fd _ s ++ _)).count x =
      ([fd] ++ accepted (handle k fd _ s ++ _)).count x
    rw [closes_append, owners_append, accepted_append, hf.accepted, List.nil_append, List.count_append, List.count_append,
      List.count_append]
    omega
  · intro e rest h ih
    simpa [acceptLoop_retry _ _ _ _ h, accepted, closes, owners] using ih
  · intro e rest h; simp [acceptLoop_stop _ _ _ _ h, accepted, closes, owners]
  · intro e rest h; simp [acceptLoop_abort _ _ _ _ h, accepted, closes, owners]

/-! ## the loop over an endless kernel -/

/-- Looking at the kernel from the second call on. -/
theorem acceptLoopS_shift (k : Kind) (l : Nat) (kern : Nat → Ans) :
    ∀ fuel i, acceptLoopS k l kern fuel (i + 1) = acceptLoopS k l (fun j => kern (j + 1)) fuel i
  | 0, _ => rfl
  | f + 1, i => by simp only [acceptLoopS, acceptLoopS_shift k l kern f (i + 1)]

theorem kernOf_zero (a : Ans) (rest : List Ans) : kernOf (a :: rest) 0 = a := by simp [kernOf]

theorem kernOf_succ (a : Ans) (rest : List Ans) : (fun j => kernOf (a :: rest) (j + 1)) = kernOf rest := by
  funext j; simp [kernOf]

end Cjet.Accept
