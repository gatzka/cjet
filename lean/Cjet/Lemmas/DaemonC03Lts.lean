/-
  DaemonC03Lts — the router as a labelled transition system over the routing view.

  `RS` is what the router owns: per peer (connection, address token, routing table), the uuid
  counter, the timer counter and the timer observations emitted so far (newest first).  Every
  operation of the daemon model is a sequence of the seven labelled steps below (`DaemonC03Sim`);
  the invariants are proved once per label (`DaemonC03Inv`).  In front of it, the string argument
  about the ids the router generates: an id determines the counter value it was built from.
-/
import Cjet.Lemmas.DaemonC03Basic

namespace Cjet.Daemon.C03

open Cjet Cjet.Json Cjet.Daemon

/-! ## the generated routed-request id determines the counter value it was built from

  `routedId oid u addr = (⟨idstring⟩_)?⟨hex u⟩_⟨addr⟩` minus its last character.  The origin id
  string is arbitrary (it may contain `_`), so the id is parsed FROM THE END: under the hypothesis
  `AddrOk addr` (the `%p` token is non-empty and contains no `_`) the text after the last `_` is
  `addr.dropLast`, and the `_`-free segment before it is `hex u`.  `hexDigits` is injective, hence
  two generated ids built from different counter values differ, whatever the origin ids and
  addresses are. -/

/-- the byte `_` -/
def US : UInt8 := 95

/-- what is assumed about the `%p` rendering of a peer address: non-empty, no `_` -/
def AddrOk (a : Bytes) : Prop := a ≠ [] ∧ US ∉ a

instance (a : Bytes) : Decidable (AddrOk a) := by unfold AddrOk; infer_instance

/-- text after the last `_` (everything if there is none) -/
def lastSeg (l : Bytes) : Bytes := (l.reverse.takeWhile (· != US)).reverse

/-- text before the last `_` -/
def beforeLast (l : Bytes) : Bytes := ((l.reverse.dropWhile (· != US)).drop 1).reverse

/-- the `_`-free segment in front of the last `_` -/
def uuidSeg (rid : Bytes) : Bytes := lastSeg (beforeLast rid)

theorem k_us : k "_" = [US] := by decide +kernel

private theorem all_ne {b : Bytes} (hb : US ∉ b) : ∀ a, a ∈ b.reverse → (a != US) = true := by
  intro a ha
  have : a ∈ b := List.mem_reverse.mp ha
  simp only [bne_iff_ne, ne_eq]
  intro h; subst h; exact hb this

theorem lastSeg_append (a b : Bytes) (hb : US ∉ b) : lastSeg (a ++ US :: b) = b := by
  unfold lastSeg
  have : (a ++ US :: b).reverse = b.reverse ++ (US :: a.reverse) := by simp
  rw [this, List.takeWhile_append_of_pos (all_ne hb)]
  simp [List.takeWhile]

theorem lastSeg_noUS (b : Bytes) (hb : US ∉ b) : lastSeg b = b := by
  unfold lastSeg
  have : b.reverse = b.reverse ++ [] := by simp
  rw [this, List.takeWhile_append_of_pos (all_ne hb)]
  simp

theorem beforeLast_append (a b : Bytes) (hb : US ∉ b) : beforeLast (a ++ US :: b) = a := by
  unfold beforeLast
  have : (a ++ US :: b).reverse = b.reverse ++ (US :: a.reverse) := by simp
  rw [this, List.dropWhile_append_of_pos (all_ne hb)]
  simp [List.dropWhile]

/-! ### hexadecimal digits -/

def hexByte (d : Nat) : UInt8 := UInt8.ofNat (Nat.digitChar d).toNat

theorem hexDigits_eq_if (n : Nat) :
    hexDigits n = if n < 16 then [hexByte n] else hexDigits (n / 16) ++ [hexByte (n % 16)] := by
  unfold hexDigits
  rw [Nat.toDigits_eq_if (by decide)]
  split <;> simp [hexByte]

/-- value of a hex digit byte as printed by `%x` -/
def hexVal1 (b : UInt8) : Nat := if b.toNat < 58 then b.toNat - 48 else b.toNat - 87

def hexVal (l : Bytes) : Nat := l.foldl (fun acc b => acc * 16 + hexVal1 b) 0

theorem hexVal1_hexByte : ∀ d, d < 16 → hexVal1 (hexByte d) = d := by decide +kernel

theorem hexByte_ne_us : ∀ d, d < 16 → hexByte d ≠ US := by decide +kernel

theorem hexVal_append (l : Bytes) (b : UInt8) : hexVal (l ++ [b]) = hexVal l * 16 + hexVal1 b := by
  simp [hexVal, List.foldl_append]

theorem hexVal_hexDigits (n : Nat) : hexVal (hexDigits n) = n := by
  induction n using Nat.strongRecOn with
  | _ n ih =>
    rw [hexDigits_eq_if]
    split
    · next h => simp [hexVal, hexVal1_hexByte n h]
    · next h =>
      rw [hexVal_append, ih (n / 16) (by omega), hexVal1_hexByte _ (Nat.mod_lt n (by decide))]
      omega

theorem hexDigits_inj {a b : Nat} (h : hexDigits a = hexDigits b) : a = b := by
  have := congrArg hexVal h
  simpa [hexVal_hexDigits] using this

theorem hexDigits_noUS (n : Nat) : US ∉ hexDigits n := by
  induction n using Nat.strongRecOn with
  | _ n ih =>
    rw [hexDigits_eq_if]
    split
    · next h =>
      simp only [List.mem_singleton]
      exact fun e => hexByte_ne_us n h e.symm
    · next h =>
      simp only [List.mem_append, List.mem_singleton, not_or]
      exact ⟨ih (n / 16) (by omega), fun e => hexByte_ne_us _ (Nat.mod_lt n (by decide)) e.symm⟩

/-! ### the generated id -/

theorem routedId_shape (oid : Option Json) (u : Nat) (addr : Bytes) (ha : AddrOk addr) :
    ∃ pre : Bytes, (pre = [] ∨ ∃ s, pre = s ++ [US]) ∧
      routedId oid u addr = pre ++ hexDigits u ++ US :: addr.dropLast := by
  unfold routedId
  simp only [k_us]
  cases idString oid with
  | none =>
    refine ⟨[], Or.inl rfl, ?_⟩
    simp only [List.nil_append]
    rw [List.dropLast_append_of_ne_nil ha.1]
    simp
  | some s =>
    refine ⟨s ++ [US], Or.inr ⟨s, rfl⟩, ?_⟩
    simp only
    rw [show s ++ [US] ++ (hexDigits u ++ [US] ++ addr) = (s ++ [US] ++ (hexDigits u ++ [US])) ++ addr by simp,
      List.dropLast_append_of_ne_nil ha.1]
    simp

theorem uuidSeg_routedId (oid : Option Json) (u : Nat) (addr : Bytes) (ha : AddrOk addr) :
    uuidSeg (routedId oid u addr) = hexDigits u := by
  obtain ⟨pre, hpre, heq⟩ := routedId_shape oid u addr ha
  have hdl : US ∉ addr.dropLast := fun h => ha.2 (List.dropLast_subset _ h)
  rw [heq, uuidSeg, beforeLast_append _ _ hdl]
  rcases hpre with rfl | ⟨s, rfl⟩
  · simpa using lastSeg_noUS _ (hexDigits_noUS u)
  · rw [show s ++ [US] ++ hexDigits u = s ++ US :: hexDigits u by simp]
    exact lastSeg_append _ _ (hexDigits_noUS u)

/-- Ids generated from different counter values differ — for arbitrary origin ids (strings with
    `_` included, numbers, none) and arbitrary well-formed address tokens of the two requesters. -/
theorem routedId_ne (oid₁ oid₂ : Option Json) (u₁ u₂ : Nat) (a₁ a₂ : Bytes)
    (h₁ : AddrOk a₁) (h₂ : AddrOk a₂) (hu : u₁ ≠ u₂) :
    routedId oid₁ u₁ a₁ ≠ routedId oid₂ u₂ a₂ := by
  intro h
  have := congrArg uuidSeg h
  rw [uuidSeg_routedId _ _ _ h₁, uuidSeg_routedId _ _ _ h₂] at this
  exact hu (hexDigits_inj this)

/-! ## the routing view -/

structure RS where
  V : List PV
  uuid : Nat
  nt : Nat
  tl : List Obs

/-- the router's share of a working context -/
def rs (x : Ctx) : RS := ⟨x.st.peers.map pview, x.st.uuid, x.st.nextTimer, tobs x.out⟩

theorem Frame.rs_eq {x y : Ctx} (h : Frame x y) : rs y = rs x := by
  simp [rs, h.peers, h.uuid, h.nextTimer, h.tobs]

/-! ## operations on views -/

def vRoutes (V : List PV) : List Route := V.flatMap (·.routes)

/-- the routing table of (the first peer with) connection `o` -/
def vTable (V : List PV) (o : Nat) : List Route :=
  match V.find? (·.conn == o) with
  | some v => v.routes
  | none => []

def vAdd (V : List PV) (o : Nat) (r : Route) : List PV :=
  V.map (fun v => if v.conn == o then { v with routes := v.routes ++ [r] } else v)

def vRemove (V : List PV) (o : Nat) (rid : Bytes) : List PV :=
  V.map (fun v => if v.conn == o then { v with routes := v.routes.filter (·.rid != rid) } else v)

def vClose (V : List PV) (c : Nat) : List PV :=
  (V.filter (·.conn != c)).map (fun v => { v with routes := v.routes.filter (·.requester != c) })

/-- the requests of `c` waiting in the tables of the other peers -/
def vMine (V : List PV) (c : Nat) : List Route :=
  (V.map (fun v => if v.conn == c then { v with routes := [] } else v)).flatMap
    (fun v => v.routes.filter (·.requester == c))

/-- routing entries released when `c` goes away, in the order of `free_peer_resources` -/
def vCloseRoutes (V : List PV) (c : Nat) : List Route := vTable V c ++ vMine V c

def tickU (u : Nat) : Nat := (u + 1) % 4294967296

/-! ## labels -/

inductive Lbl where
  | tick                                 -- an id was generated, the request refused before the timer
  | full                                 -- id + timer, the table refused the entry
  | issue (r : Route) (tns : Nat)        -- entry stored, timer armed, request forwarded
  | issueFail (r : Route) (tns : Nat)    -- the same, but the send to the owner failed: undone
  | drop (o : Nat) (r : Route)           -- entry `r` of `o`'s table resolved (reply or expiry)
  | close (c : Nat)                      -- peer `c` released
  | connect (c : Nat) (addr : Bytes)     -- a new peer

def Lbl.ticks : Lbl → Nat
  | .drop _ _ => 0
  | .close _ => 0
  | .connect _ _ => 0
  | _ => 1

def app : Lbl → RS → RS
  | .tick, a => { a with uuid := tickU a.uuid }
  | .full, a => { a with uuid := tickU a.uuid, nt := a.nt + 1, tl := .timerDestroy a.nt :: a.tl }
  | .issue r tns, a =>
    { V := vAdd a.V r.owner r, uuid := tickU a.uuid, nt := a.nt + 1, tl := .timerArm a.nt tns :: a.tl }
  | .issueFail r tns, a =>
    { V := vRemove (vAdd a.V r.owner r) r.owner r.rid, uuid := tickU a.uuid, nt := a.nt + 1,
      tl := .timerDestroy a.nt :: .timerArm a.nt tns :: a.tl }
  | .drop o r, a => { a with V := vRemove a.V o r.rid, tl := .timerDestroy r.timer :: a.tl }
  | .close c, a =>
    { a with V := vClose a.V c, tl := ((vCloseRoutes a.V c).map (fun r => Obs.timerDestroy r.timer)).reverse ++ a.tl }
  | .connect c addr, a => { a with V := a.V ++ [⟨c, addr, []⟩] }

/-- a new entry as `alloc_routing_request` + `setup_routing_information` build it -/
def Fresh (a : RS) (r : Route) : Prop :=
  ∃ q ∈ a.V, r.requester = q.conn ∧ r.rid = routedId r.originId a.uuid q.addr ∧ r.timer = a.nt

def Pre : Lbl → RS → Prop
  | .tick, _ => True
  | .full, _ => True
  | .issue r _, a => Fresh a r
  | .issueFail r _, a => Fresh a r
  | .drop o r, a => r ∈ vTable a.V o
  | .close c, a => ∃ v ∈ a.V, v.conn = c
  | .connect c _, a => ∀ v ∈ a.V, v.conn ≠ c

def Steps : List Lbl → RS → RS → Prop
  | [], a, b => b = a
  | l :: ls, a, b => Pre l a ∧ Steps ls (app l a) b

theorem Steps.nil (a : RS) : Steps [] a a := rfl

theorem Steps.single {l : Lbl} {a : RS} (h : Pre l a) : Steps [l] a (app l a) := ⟨h, rfl⟩

theorem Steps.append {l₁ l₂ : List Lbl} {a b c : RS} (h₁ : Steps l₁ a b) (h₂ : Steps l₂ b c) :
    Steps (l₁ ++ l₂) a c := by
  induction l₁ generalizing a with
  | nil => cases h₁; exact h₂
  | cons l ls ih => exact ⟨h₁.1, ih h₁.2⟩

theorem Steps.of_eq {a b : RS} (h : b = a) : Steps [] a b := h

theorem sum_map_eq_zero {α : Type} {f : α → Nat} {l : List α} (h : ∀ a ∈ l, f a = 0) : (l.map f).sum = 0 := by
  induction l with
  | nil => rfl
  | cons a t ih =>
    rw [List.map_cons, List.sum_cons, h a List.mem_cons_self, ih fun b hb => h b (List.mem_cons_of_mem _ hb)]

def ticksOf (ls : List Lbl) : Nat := (ls.map Lbl.ticks).sum

@[simp] theorem ticksOf_nil : ticksOf [] = 0 := rfl
@[simp] theorem ticksOf_cons (l : Lbl) (ls : List Lbl) : ticksOf (l :: ls) = l.ticks + ticksOf ls := by
  simp [ticksOf]
@[simp] theorem ticksOf_append (l₁ l₂ : List Lbl) : ticksOf (l₁ ++ l₂) = ticksOf l₁ + ticksOf l₂ := by
  simp [ticksOf]

/-! ## view operations: elementary facts -/

theorem conns_map {g : PV → PV} (hg : ∀ v, (g v).conn = v.conn) (V : List PV) :
    (V.map g).map (·.conn) = V.map (·.conn) := by
  rw [List.map_map]
  exact List.map_congr_left fun v _ => hg v

@[simp] theorem vAdd_conns (V : List PV) (o : Nat) (r : Route) : (vAdd V o r).map (·.conn) = V.map (·.conn) :=
  conns_map (fun v => by split <;> rfl) V

@[simp] theorem vRemove_conns (V : List PV) (o : Nat) (rid : Bytes) :
    (vRemove V o rid).map (·.conn) = V.map (·.conn) :=
  conns_map (fun v => by split <;> rfl) V

theorem mem_vAdd {V : List PV} {o : Nat} {r : Route} {w : PV} :
    w ∈ vAdd V o r ↔ ∃ v ∈ V, w = if v.conn == o then { v with routes := v.routes ++ [r] } else v :=
  List.mem_map.trans (exists_congr fun _ => and_congr_right fun _ => eq_comm)

theorem mem_vRemove {V : List PV} {o : Nat} {rid : Bytes} {w : PV} :
    w ∈ vRemove V o rid ↔
      ∃ v ∈ V, w = if v.conn == o then { v with routes := v.routes.filter (·.rid != rid) } else v :=
  List.mem_map.trans (exists_congr fun _ => and_congr_right fun _ => eq_comm)

theorem mem_vClose {V : List PV} {c : Nat} {w : PV} :
    w ∈ vClose V c ↔
      ∃ v ∈ V, v.conn ≠ c ∧ w = { v with routes := v.routes.filter (·.requester != c) } := by
  unfold vClose
  rw [List.mem_map]
  constructor
  · rintro ⟨v, hv, h⟩
    rw [List.mem_filter] at hv
    exact ⟨v, hv.1, by simpa using hv.2, h.symm⟩
  · rintro ⟨v, hv, hc, h⟩
    exact ⟨v, List.mem_filter.mpr ⟨hv, by simpa using hc⟩, h.symm⟩

theorem mem_vRoutes {V : List PV} {r : Route} : r ∈ vRoutes V ↔ ∃ v ∈ V, r ∈ v.routes := by
  unfold vRoutes
  exact List.mem_flatMap

theorem vTable_of_mem {V : List PV} (hn : (V.map (·.conn)).Nodup) {v : PV} (hv : v ∈ V) :
    vTable V v.conn = v.routes := by
  rw [vTable, find?_of_nodup_map (·.conn) hn hv]

theorem vTable_mem {V : List PV} {o : Nat} {r : Route} (h : r ∈ vTable V o) :
    ∃ v ∈ V, v.conn = o ∧ r ∈ v.routes := by
  unfold vTable at h
  split at h
  · next v hv =>
    refine ⟨v, List.mem_of_find?_eq_some hv, ?_, h⟩
    simpa using List.find?_some hv
  · cases h

theorem vAdd_of_not_mem {V : List PV} {o : Nat} {r : Route} (h : o ∉ V.map (·.conn)) : vAdd V o r = V := by
  unfold vAdd
  conv => rhs; rw [← List.map_id V]
  apply List.map_congr_left
  intro v hv
  have : (v.conn == o) = false := by
    simp only [beq_eq_false_iff_ne, ne_eq]
    intro e
    exact h (e ▸ List.mem_map_of_mem hv)
  simp [this]

theorem vRoutes_cons (v : PV) (V : List PV) : vRoutes (v :: V) = v.routes ++ vRoutes V := by
  simp [vRoutes]

theorem vRoutes_append (V W : List PV) : vRoutes (V ++ W) = vRoutes V ++ vRoutes W := by
  simp [vRoutes]

theorem table_sublist_vRoutes {V : List PV} {v : PV} (hv : v ∈ V) : v.routes.Sublist (vRoutes V) := by
  induction V with
  | nil => cases hv
  | cons w t ih =>
    rw [vRoutes_cons]
    rcases List.mem_cons.mp hv with rfl | hv
    · exact List.sublist_append_left _ _
    · exact (ih hv).trans (List.sublist_append_right _ _)

theorem vTable_sublist_vRoutes (V : List PV) (c : Nat) : (vTable V c).Sublist (vRoutes V) := by
  unfold vTable
  split
  · next v hv => exact table_sublist_vRoutes (List.mem_of_find?_eq_some hv)
  · exact List.nil_sublist _

theorem vTable_subset_vRoutes {V : List PV} {o : Nat} {r : Route} (h : r ∈ vTable V o) : r ∈ vRoutes V :=
  (vTable_sublist_vRoutes V o).subset h

theorem vRoutes_connect (V : List PV) (c : Nat) (addr : Bytes) : vRoutes (V ++ [⟨c, addr, []⟩]) = vRoutes V := by
  rw [vRoutes_append]; simp [vRoutes]

theorem mem_vRoutes_vAdd {V : List PV} {o : Nat} {r r' : Route} (h : r' ∈ vRoutes (vAdd V o r)) :
    r' ∈ vRoutes V ∨ r' = r := by
  obtain ⟨w, hw, hr⟩ := mem_vRoutes.mp h
  obtain ⟨v, hv, rfl⟩ := mem_vAdd.mp hw
  split at hr
  · simp only [List.mem_append, List.mem_singleton] at hr
    rcases hr with hr | hr
    · exact Or.inl (mem_vRoutes.mpr ⟨v, hv, hr⟩)
    · exact Or.inr hr
  · exact Or.inl (mem_vRoutes.mpr ⟨v, hv, hr⟩)

theorem mem_vRoutes_vAdd_of_mem {V : List PV} {o : Nat} {r r' : Route} (h : r' ∈ vRoutes V) :
    r' ∈ vRoutes (vAdd V o r) := by
  obtain ⟨v, hv, hr⟩ := mem_vRoutes.mp h
  refine mem_vRoutes.mpr ⟨_, mem_vAdd.mpr ⟨v, hv, rfl⟩, ?_⟩
  split
  · simp [hr]
  · exact hr

theorem mem_vRoutes_vAdd_self {V : List PV} {r : Route} (h : r.owner ∈ V.map (·.conn)) :
    r ∈ vRoutes (vAdd V r.owner r) := by
  obtain ⟨v, hv, hc⟩ := List.mem_map.mp h
  refine mem_vRoutes.mpr ⟨_, mem_vAdd.mpr ⟨v, hv, rfl⟩, ?_⟩
  have : (v.conn == r.owner) = true := by simpa using hc
  simp [this]

theorem mem_vRoutes_vRemove {V : List PV} {o : Nat} {rid : Bytes} {r : Route} :
    r ∈ vRoutes (vRemove V o rid) ↔ ∃ v ∈ V, r ∈ v.routes ∧ (v.conn = o → r.rid ≠ rid) := by
  constructor
  · intro h
    obtain ⟨w, hw, hr⟩ := mem_vRoutes.mp h
    obtain ⟨v, hv, rfl⟩ := mem_vRemove.mp hw
    by_cases hvo : v.conn = o
    · rw [if_pos (beq_iff_eq.mpr hvo)] at hr
      exact ⟨v, hv, (List.mem_filter.mp hr).1, fun _ => bne_iff_ne.mp (List.mem_filter.mp hr).2⟩
    · rw [if_neg (mt beq_iff_eq.mp hvo)] at hr
      exact ⟨v, hv, hr, fun e => absurd e hvo⟩
  · rintro ⟨v, hv, hr, hne⟩
    refine mem_vRoutes.mpr ⟨_, mem_vRemove.mpr ⟨v, hv, rfl⟩, ?_⟩
    split
    · next hc => exact List.mem_filter.mpr ⟨hr, bne_iff_ne.mpr (hne (beq_iff_eq.mp hc))⟩
    · exact hr

theorem mem_vRoutes_vRemove_of_ne {V : List PV} {o : Nat} {rid : Bytes} {r : Route}
    (h : r ∈ vRoutes V) (hne : r.rid ≠ rid) : r ∈ vRoutes (vRemove V o rid) :=
  let ⟨v, hv, hr⟩ := mem_vRoutes.mp h
  mem_vRoutes_vRemove.mpr ⟨v, hv, hr, fun _ => hne⟩

theorem vRoutes_vAdd_perm {V : List PV} {o : Nat} (hc : (V.map (·.conn)).Nodup) (ho : o ∈ V.map (·.conn))
    (r : Route) : (vRoutes (vAdd V o r)).Perm (r :: vRoutes V) := by
  induction V with
  | nil => cases ho
  | cons v t ih =>
    rw [List.map_cons, List.nodup_cons] at hc
    show (vRoutes ((if v.conn == o then { v with routes := v.routes ++ [r] } else v) :: vAdd t o r)).Perm _
    rw [vRoutes_cons, vRoutes_cons]
    by_cases hvo : v.conn = o
    · rw [if_pos (beq_iff_eq.mpr hvo), vAdd_of_not_mem (hvo ▸ hc.1)]
      show ((v.routes ++ [r]) ++ vRoutes t).Perm _
      rw [List.append_assoc]
      exact List.perm_middle
    · rw [if_neg (mt beq_iff_eq.mp hvo)]
      have ho' : o ∈ t.map (·.conn) := (List.mem_cons.mp ho).resolve_left (Ne.symm hvo)
      exact ((ih hc.2 ho').append_left _).trans List.perm_middle

theorem nodup_vRoutes_vAdd {β : Type} (f : Route → β) {V : List PV} {o : Nat} {r : Route}
    (hc : (V.map (·.conn)).Nodup) (hn : ((vRoutes V).map f).Nodup) (hnew : ∀ a ∈ vRoutes V, f a ≠ f r) :
    ((vRoutes (vAdd V o r)).map f).Nodup := by
  by_cases ho : o ∈ V.map (·.conn)
  · refine ((vRoutes_vAdd_perm hc ho r).map f).nodup_iff.mpr (List.nodup_cons.mpr ⟨fun hm => ?_, hn⟩)
    obtain ⟨a, ha, e⟩ := List.mem_map.mp hm
    exact hnew a ha e
  · rw [vAdd_of_not_mem ho]
    exact hn

/-- shrinking tables gives a sublist of all entries -/
theorem vRoutes_map_sublist {V : List PV} (g : PV → PV) (hg : ∀ v, (g v).routes.Sublist v.routes) :
    (vRoutes (V.map g)).Sublist (vRoutes V) := by
  induction V with
  | nil => simp [vRoutes]
  | cons v t ih =>
    rw [List.map_cons, vRoutes_cons, vRoutes_cons]
    exact List.Sublist.append (hg v) ih

theorem vRoutes_filter_sublist {V : List PV} (p : PV → Bool) : (vRoutes (V.filter p)).Sublist (vRoutes V) := by
  induction V with
  | nil => simp [vRoutes]
  | cons v t ih =>
    rw [List.filter_cons, vRoutes_cons]
    split
    · rw [vRoutes_cons]; exact List.Sublist.append (List.Sublist.refl _) ih
    · exact List.Sublist.trans ih (List.sublist_append_right _ _)

theorem vRoutes_vRemove_sublist (V : List PV) (o : Nat) (rid : Bytes) :
    (vRoutes (vRemove V o rid)).Sublist (vRoutes V) := by
  apply vRoutes_map_sublist
  intro v
  split
  · exact List.filter_sublist
  · exact List.Sublist.refl _

theorem vRoutes_vClose_sublist (V : List PV) (c : Nat) : (vRoutes (vClose V c)).Sublist (vRoutes V) := by
  unfold vClose
  refine List.Sublist.trans (vRoutes_map_sublist _ (fun v => ?_)) (vRoutes_filter_sublist _)
  exact List.filter_sublist

theorem mem_vRoutes_vRemove_vAdd {V : List PV} {o : Nat} {r r' : Route}
    (h : r' ∈ vRoutes (vRemove (vAdd V o r) o r.rid)) : r' ∈ vRoutes V := by
  obtain ⟨w, hw, hr', hne⟩ := mem_vRoutes_vRemove.mp h
  obtain ⟨v, hv, rfl⟩ := mem_vAdd.mp hw
  refine mem_vRoutes.mpr ⟨v, hv, ?_⟩
  by_cases hvo : v.conn = o
  · rw [if_pos (beq_iff_eq.mpr hvo)] at hr' hne
    exact (List.mem_append.mp hr').resolve_right fun e => hne hvo (List.mem_singleton.mp e ▸ rfl)
  · rw [if_neg (mt beq_iff_eq.mp hvo)] at hr'
    exact hr'

/-! ## closing a peer -/

theorem vClose_conns_sublist (V : List PV) (c : Nat) : ((vClose V c).map (·.conn)).Sublist (V.map (·.conn)) := by
  rw [vClose, conns_map (by intro; rfl)]
  exact List.Sublist.map _ List.filter_sublist

theorem mem_vClose_conns {V : List PV} {c d : Nat} (hd : d ∈ V.map (·.conn)) (hne : d ≠ c) :
    d ∈ (vClose V c).map (·.conn) := by
  obtain ⟨v, hv, rfl⟩ := List.mem_map.mp hd
  exact List.mem_map.mpr ⟨_, mem_vClose.mpr ⟨v, hv, hne, rfl⟩, rfl⟩

theorem mem_vRoutes_vClose {V : List PV} {c : Nat} {r : Route} :
    r ∈ vRoutes (vClose V c) ↔ ∃ v ∈ V, v.conn ≠ c ∧ r ∈ v.routes ∧ r.requester ≠ c := by
  constructor
  · intro h
    obtain ⟨w, hw, hr⟩ := mem_vRoutes.mp h
    obtain ⟨v, hv, hc, rfl⟩ := mem_vClose.mp hw
    have := List.mem_filter.mp hr
    exact ⟨v, hv, hc, this.1, bne_iff_ne.mp this.2⟩
  · rintro ⟨v, hv, hc, hr, hne⟩
    exact mem_vRoutes.mpr ⟨_, mem_vClose.mpr ⟨v, hv, hc, rfl⟩, List.mem_filter.mpr ⟨hr, bne_iff_ne.mpr hne⟩⟩

theorem mem_vMine {V : List PV} {c : Nat} {r : Route} :
    r ∈ vMine V c ↔ ∃ v ∈ V, v.conn ≠ c ∧ r ∈ v.routes ∧ r.requester = c := by
  unfold vMine
  constructor
  · intro h
    obtain ⟨w, hw, hr⟩ := List.mem_flatMap.mp h
    obtain ⟨v, hv, rfl⟩ := List.mem_map.mp hw
    by_cases hvc : v.conn = c
    · rw [if_pos (beq_iff_eq.mpr hvc)] at hr
      cases hr
    · rw [if_neg (mt beq_iff_eq.mp hvc)] at hr
      exact ⟨v, hv, hvc, (List.mem_filter.mp hr).1, beq_iff_eq.mp (List.mem_filter.mp hr).2⟩
  · rintro ⟨v, hv, hvc, hr, hrc⟩
    refine List.mem_flatMap.mpr ⟨_, List.mem_map_of_mem hv, ?_⟩
    rw [if_neg (mt beq_iff_eq.mp hvc)]
    exact List.mem_filter.mpr ⟨hr, beq_iff_eq.mpr hrc⟩

theorem vMine_sublist_vRoutes (V : List PV) (c : Nat) : (vMine V c).Sublist (vRoutes V) := by
  unfold vMine
  induction V with
  | nil => exact List.Sublist.refl _
  | cons v t ih =>
    rw [List.map_cons, List.flatMap_cons, vRoutes_cons]
    refine List.Sublist.append ?_ ih
    split
    · exact List.nil_sublist _
    · exact List.filter_sublist

theorem vCloseRoutes_subset {V : List PV} {c : Nat} {r : Route} (h : r ∈ vCloseRoutes V c) : r ∈ vRoutes V := by
  rcases List.mem_append.mp h with h | h
  · exact vTable_subset_vRoutes h
  · exact (vMine_sublist_vRoutes V c).subset h

theorem mem_close_split {V : List PV} (hn : (V.map (·.conn)).Nodup) (c : Nat) {r : Route}
    (h : r ∈ vRoutes V) : r ∈ vCloseRoutes V c ∨ r ∈ vRoutes (vClose V c) := by
  obtain ⟨v, hv, hr⟩ := mem_vRoutes.mp h
  by_cases hvc : v.conn = c
  · exact .inl (List.mem_append_left _ (hvc ▸ (vTable_of_mem hn hv).symm ▸ hr))
  · by_cases hrc : r.requester = c
    · exact .inl (List.mem_append_right _ (mem_vMine.mpr ⟨v, hv, hvc, hr, hrc⟩))
    · exact .inr (mem_vRoutes_vClose.mpr ⟨v, hv, hvc, hr, hrc⟩)

theorem mem_vRoutes_app {l : Lbl} {a : RS} {r : Route} (h : r ∈ vRoutes (app l a).V) :
    r ∈ vRoutes a.V ∨ ∃ tns, l = .issue r tns := by
  cases l with
  | tick => exact .inl h
  | full => exact .inl h
  | issue r' tns => exact (mem_vRoutes_vAdd h).imp id fun e => ⟨tns, by rw [e]⟩
  | issueFail r' tns => exact .inl (mem_vRoutes_vRemove_vAdd h)
  | drop o r' => exact .inl ((vRoutes_vRemove_sublist _ _ _).subset h)
  | close c => exact .inl ((vRoutes_vClose_sublist _ _).subset h)
  | connect c addr => exact .inl (vRoutes_connect a.V c addr ▸ h)

theorem tickU_eq {u : Nat} (h : u + 1 < 4294967296) : tickU u = u + 1 := Nat.mod_eq_of_lt h

theorem app_uuid {l : Lbl} {a : RS} (hb : a.uuid + l.ticks < 4294967296) : (app l a).uuid = a.uuid + l.ticks := by
  cases l with
  | drop _ _ | close _ | connect _ _ => rfl
  | _ => exact tickU_eq hb

/-! ## a step neither reads nor shortens the log -/

def RS.addLog (a : RS) (L : List Obs) : RS := { a with tl := a.tl ++ L }

theorem app_addLog (l : Lbl) (a : RS) (L : List Obs) : app l (a.addLog L) = (app l a).addLog L := by
  cases l with
  | close c => exact congrArg (RS.mk _ _ _) (List.append_assoc ..).symm
  | _ => rfl

theorem pre_addLog {l : Lbl} {a : RS} (L : List Obs) (h : Pre l a) : Pre l (a.addLog L) := by
  cases l <;> exact h

theorem steps_addLog {ls : List Lbl} {a b : RS} (L : List Obs) (h : Steps ls a b) :
    Steps ls (a.addLog L) (b.addLog L) := by
  induction ls generalizing a with
  | nil => cases h; rfl
  | cons l t ih => exact ⟨pre_addLog L h.1, app_addLog l a L ▸ ih h.2⟩

/-! ## the structural invariant of the routing tables -/

/-- Well-formedness of the routing tables (unconditional invariant of the daemon):
    connection numbers are distinct; an entry stored in `o`'s table names `o` as its owner;
    its requester is a connected peer; its timer id is below the timer counter and no two entries
    share a timer. -/
structure WfV (V : List PV) (nt : Nat) : Prop where
  conns : (V.map (·.conn)).Nodup
  owner : ∀ v ∈ V, ∀ r ∈ v.routes, r.owner = v.conn
  requester : ∀ r ∈ vRoutes V, r.requester ∈ V.map (·.conn)
  timerLt : ∀ r ∈ vRoutes V, r.timer < nt
  timers : ((vRoutes V).map (·.timer)).Nodup

def RS.Wf (a : RS) : Prop := WfV a.V a.nt

/-- under `WfV`, an entry found anywhere sits in the table of the peer it names as owner -/
theorem WfV.mem_table {V : List PV} {nt : Nat} (h : WfV V nt) {r : Route} (hr : r ∈ vRoutes V) :
    r ∈ vTable V r.owner := by
  obtain ⟨v, hv, hrv⟩ := mem_vRoutes.mp hr
  rw [h.owner v hv r hrv, vTable_of_mem h.conns hv]
  exact hrv

theorem WfV.table_owner {V : List PV} {nt : Nat} (h : WfV V nt) {o : Nat} {r : Route} (hr : r ∈ vTable V o) :
    r.owner = o := by
  obtain ⟨v, hv, hc, hrv⟩ := vTable_mem hr
  rw [h.owner v hv r hrv, hc]

end Cjet.Daemon.C03
