/-
  DaemonC03Basic — vocabulary for the routing proofs (C03, C14):
  the routing view of a state, timer observations, and what the context primitives do to them.
-/
import Cjet.Lemmas.DaemonCore

namespace Cjet.Daemon.C03

open Cjet Cjet.Json Cjet.Daemon

/-! ## the routing view -/

/-- what the router knows of a peer -/
structure PV where
  conn : Nat
  addr : Bytes
  routes : List Route

def pview (p : Peer) : PV := ⟨p.conn, p.addrTok, p.routes⟩

@[simp] theorem pview_conn (p : Peer) : (pview p).conn = p.conn := rfl
@[simp] theorem pview_addr (p : Peer) : (pview p).addr = p.addrTok := rfl
@[simp] theorem pview_routes (p : Peer) : (pview p).routes = p.routes := rfl

theorem pview_eq {p q : Peer} (h1 : p.conn = q.conn) (h2 : p.addrTok = q.addrTok) (h3 : p.routes = q.routes) :
    pview p = pview q := by
  simp [pview, h1, h2, h3]

/-- every routing entry of the daemon, owner table by owner table -/
def allRoutes (s : State) : List Route := s.peers.flatMap (·.routes)

def isTimerObs : Obs → Bool
  | .timerArm _ _ => true
  | .timerDestroy _ => true
  | _ => false

/-- the timer observations of an output list -/
def tobs (l : List Obs) : List Obs := l.filter isTimerObs

@[simp] theorem tobs_nil : tobs [] = [] := rfl
@[simp] theorem tobs_cons_arm (t ns : Nat) (l : List Obs) : tobs (.timerArm t ns :: l) = .timerArm t ns :: tobs l := rfl
@[simp] theorem tobs_cons_destroy (t : Nat) (l : List Obs) : tobs (.timerDestroy t :: l) = .timerDestroy t :: tobs l := rfl
@[simp] theorem tobs_cons_send (c : Nat) (j : Json) (b : Bool) (l : List Obs) : tobs (.send c j b :: l) = tobs l := rfl
@[simp] theorem tobs_cons_closed (c : Nat) (l : List Obs) : tobs (.closed c :: l) = tobs l := rfl
theorem tobs_append (l₁ l₂ : List Obs) : tobs (l₁ ++ l₂) = tobs l₁ ++ tobs l₂ := by simp [tobs]

/-- Two contexts agree on everything the router looks at, and on the timer observations. -/
structure Frame (x y : Ctx) : Prop where
  peers : y.st.peers.map pview = x.st.peers.map pview
  uuid : y.st.uuid = x.st.uuid
  nextTimer : y.st.nextTimer = x.st.nextTimer
  tobs : tobs y.out = tobs x.out
  routeFull : y.routeFull = x.routeFull

theorem Frame.refl (x : Ctx) : Frame x x := ⟨rfl, rfl, rfl, rfl, rfl⟩

theorem Frame.trans {x y z : Ctx} (h1 : Frame x y) (h2 : Frame y z) : Frame x z :=
  ⟨h2.peers.trans h1.peers, h2.uuid.trans h1.uuid, h2.nextTimer.trans h1.nextTimer,
   h2.tobs.trans h1.tobs, h2.routeFull.trans h1.routeFull⟩

/-! ## send, send', emit -/

@[simp] theorem emit_st (x : Ctx) (o : Obs) : (emit x o).st = x.st := rfl
@[simp] theorem emit_sends (x : Ctx) (o : Obs) : (emit x o).sends = x.sends := rfl
@[simp] theorem emit_routeFull (x : Ctx) (o : Obs) : (emit x o).routeFull = x.routeFull := rfl

/-- the result of the next send: the head of the oracle list, success when it is exhausted -/
def nextSend (x : Ctx) : Bool := x.sends.headD true

theorem send_out (x : Ctx) (c : Nat) (j : Json) : (send x c j).1.out = Obs.send c j (nextSend x) :: x.out :=
  send_out_eq x c j

theorem send'_out (x : Ctx) (c : Nat) (j : Json) : (send' x c j).out = Obs.send c j (nextSend x) :: x.out :=
  send_out x c j

@[simp] theorem tobs_send (x : Ctx) (c : Nat) (j : Json) : tobs (send x c j).1.out = tobs x.out := by
  rw [send_out]; rfl

@[simp] theorem tobs_send' (x : Ctx) (c : Nat) (j : Json) : tobs (send' x c j).out = tobs x.out := tobs_send x c j

theorem frame_send (x : Ctx) (c : Nat) (j : Json) : Frame x (send x c j).1 :=
  ⟨by rw [send_st], by rw [send_st], by rw [send_st], tobs_send x c j, send_routeFull x c j⟩

theorem frame_send' (x : Ctx) (c : Nat) (j : Json) : Frame x (send' x c j) := frame_send x c j

/-- changing only the oracle flag `indexFull` -/
theorem frame_of_eq {x y : Ctx} (hst : y.st = x.st) (hout : y.out = x.out) (hrf : y.routeFull = x.routeFull) :
    Frame x y := by
  refine ⟨by rw [hst], by rw [hst], by rw [hst], by rw [hout], hrf⟩

/-- a state change that touches nothing the router looks at -/
theorem frame_of_peers {x y : Ctx} (hp : y.st.peers.map pview = x.st.peers.map pview)
    (hu : y.st.uuid = x.st.uuid) (ht : y.st.nextTimer = x.st.nextTimer) (hout : y.out = x.out)
    (hrf : y.routeFull = x.routeFull) : Frame x y :=
  ⟨hp, hu, ht, by rw [hout], hrf⟩

/-! ## findPeer, updatePeer, mapElements under the routing view -/

theorem findPeer_isSome {ps : List Peer} {c : Nat} : (findPeer ps c).isSome = true ↔ ∃ p ∈ ps, p.conn = c :=
  findPeer_isSome_iff.trans List.mem_map

theorem findPeer_eq_none {ps : List Peer} {c : Nat} : findPeer ps c = none ↔ ∀ p ∈ ps, p.conn ≠ c :=
  Cjet.Daemon.findPeer_eq_none

theorem findPeer_isSome_congr {ps qs : List Peer} (h : qs.map pview = ps.map pview) (c : Nat) :
    (findPeer qs c).isSome = (findPeer ps c).isSome := by
  apply findPeer_isSome_of_conns
  have := congrArg (List.map PV.conn) h
  rwa [List.map_map, List.map_map] at this

theorem map_pview_updatePeer (ps : List Peer) (c : Nat) (f : Peer → Peer) (hf : ∀ p, pview (f p) = pview p) :
    (updatePeer ps c f).map pview = ps.map pview := map_updatePeer hf ps c

theorem map_pview_mapElements (ps : List Peer) (f : Element → Element) :
    (mapElements ps f).map pview = ps.map pview := by
  rw [mapElements, List.map_map]
  rfl

end Cjet.Daemon.C03
