/-
  DaemonC03Exact — exact results of the routing functions, case by case:
  `routeCore` (accepted / table full / send failed / bad timeout) and the immediate responses of
  `set_or_call` by cause, `routingResponse` (entry found / not found / id not a string),
  `timeoutFired` (entry found / not found); then the same at the level of `step`: what one
  set/call request, one routing response, one timer expiry and one disconnect do to the state and
  to the outputs, the disconnect around one routing entry of the leaving peer's table (its timer is
  destroyed and the shutdown answer sent, exactly once).
  At the end: the concrete states and requests of the examples of `Cjet.Props.C03` / `C14`.
-/
import Cjet.Lemmas.DaemonC03Step

namespace Cjet.Daemon.C03

open Cjet Cjet.Json Cjet.Daemon

/-! ## final answers -/

/-- send `a` to `c` if there is something to send -/
def answer (x : Ctx) (c : Nat) (a : Option Json) : Ctx :=
  match a with
  | some j => send' x c j
  | none => x

/-- the observation(s) of one final answer -/
def answerSends (c : Nat) (a : Option Json) (ok : Bool) : List Obs :=
  match a with
  | some j => [.send c j ok]
  | none => []

@[simp] theorem answer_st (x : Ctx) (c : Nat) (a : Option Json) : (answer x c a).st = x.st := by
  cases a <;> simp [answer]

theorem answer_out (x : Ctx) (c : Nat) (a : Option Json) :
    (answer x c a).out = answerSends c a (nextSend x) ++ x.out := by
  cases a <;> simp [answer, answerSends, send'_out]

@[simp] theorem answer_routeFull (x : Ctx) (c : Nat) (a : Option Json) : (answer x c a).routeFull = x.routeFull := by
  cases a <;> simp [answer]

/-- the owner's result or error under the caller's original id -/
def replyAnswer (r : Route) (payload : Json) (typ : String) : Option Json :=
  r.originId.bind (fun oid => resultResponse oid payload typ)

def timeoutAnswer (r : Route) : Option Json :=
  r.originId.bind (fun oid => errorResponse oid INTERNAL_ERROR "reason" (k "timeout for routed request"))

def shutdownAnswer (r : Route) : Option Json :=
  r.originId.bind (fun oid => errorResponse oid INTERNAL_ERROR "reason" (k "peer shuts down"))

/-- an origin id that can be answered: a string or a number -/
def Answerable : Option Json → Prop
  | some (.str _) => True
  | some (.num _) => True
  | _ => False

theorem resultResponse_of_answerable {oid : Json} (h : Answerable (some oid)) (payload : Json) (typ : String) :
    resultResponse oid payload typ = some (.obj [(k "id", oid), (k typ, payload)]) := by
  cases oid with
  | str _ | num _ => rfl
  | _ => exact h.elim

theorem errorResponse_of_answerable {oid : Json} (h : Answerable (some oid)) (code : Int) (tag : String)
    (reason : Bytes) :
    errorResponse oid code tag reason = some (.obj [(k "id", oid), (k "error", errorObject code tag reason)]) := by
  cases oid with
  | str _ | num _ => rfl
  | _ => exact h.elim

/-! ## the forwarded message -/

theorem routedMessage_eq (rid path : Bytes) (isState : Bool) (value : Option Json) :
    routedMessage rid path isState value =
      .obj [(k "id", .str rid), (k "method", .str path),
            (k "params", if isState then .obj [(k "value", value.getD (.obj []))] else value.getD (.obj []))] := by
  cases value <;> rfl

/-! ## routeCore -/

theorem nextSend_stored (x : Ctx) (r : Route) (tns : Nat) : nextSend (stored x r tns) = nextSend x := rfl

theorem routeCore_badTimeout {cfg : Config} {x : Ctx} {p : Peer} {req : Json} {isState : Bool}
    {params : Json} {path : Bytes} {e : Element} {reason : String}
    (hv : isState = true → (params.getItem (k "value")).isSome = true)
    (ht : getTimeout cfg (params.getItem (k "timeout")) e.timeoutNs = .err reason) :
    routeCore cfg x p req isState params path e =
      (ticked x, errorFromRequest req INVALID_PARAMS "reason" (k reason)) := by
  rcases routeCore_cases cfg x p req isState params path e with ⟨hs, hn, _⟩ | ⟨_, h, hc⟩ | ⟨_, h, _⟩
  · exact absurd (hv hs) (by rw [hn]; exact Bool.false_ne_true)
  · cases ht.symm.trans h; exact hc
  · cases ht.symm.trans h

theorem routeCore_ns {cfg : Config} {x : Ctx} {p : Peer} {req : Json} {isState : Bool}
    {params : Json} {path : Bytes} {e : Element} {tns : Nat}
    (hv : isState = true → (params.getItem (k "value")).isSome = true)
    (ht : getTimeout cfg (params.getItem (k "timeout")) e.timeoutNs = .ns tns) :
    routeCore cfg x p req isState params path e =
      if x.routeFull then
        ({ emit (timed x) (.timerDestroy x.st.nextTimer) with routeFull := false },
         errorFromRequest req INTERNAL_ERROR "reason" (k "routing table full"))
      else
        let y := (send (stored x (newRoute x p req e) tns) e.owner
          (routedMessage (newRoute x p req e).rid path isState (reqValue isState params))).1
        if nextSend x then (y, none)
        else
          (emit { y with st := { y.st with peers := removeRoute y.st.peers e.owner (newRoute x p req e).rid } }
              (.timerDestroy x.st.nextTimer),
           errorFromRequest req INTERNAL_ERROR "reason" (k "could not send routing information")) := by
  rcases routeCore_cases cfg x p req isState params path e with
    ⟨hs, hn, _⟩ | ⟨_, h, _⟩ | ⟨_, h, ⟨hf, hc⟩ | ⟨hf, ⟨hs, hc⟩ | ⟨hs, hc⟩⟩⟩
  · exact absurd (hv hs) (by rw [hn]; exact Bool.false_ne_true)
  · cases ht.symm.trans h
  · cases ht.symm.trans h; rw [hc, hf]; rfl
  · cases ht.symm.trans h; rw [hc, hf, hs]; rfl
  · cases ht.symm.trans h; rw [hc, hf, hs]; rfl

theorem removeRoute_addRoute {ps : List Peer} {o : Nat} {r : Route}
    (h : ∀ q ∈ ps, q.conn = o → ∀ r' ∈ q.routes, r'.rid ≠ r.rid) :
    removeRoute (updatePeer ps o (fun q => { q with routes := q.routes ++ [r] })) o r.rid = ps := by
  rw [removeRoute_added, removeRoute]
  refine (updatePeer_congr fun q hq hqo => ?_).trans (updatePeer_id ps o)
  show { q with routes := q.routes.filter (·.rid != r.rid) } = q
  rw [List.filter_eq_self.mpr fun r' hr' => bne_iff_ne.mpr (h q hq hqo r' hr')]

/-! ## routingResponse -/

theorem routingResponse_hit {x : Ctx} {p : Peer} {msg payload : Json} {typ : String} {rid : Bytes} {r : Route}
    (hid : msg.getItem (k "id") = some (.str rid)) (hr : p.routes.find? (·.rid == rid) = some r) :
    routingResponse x p msg payload typ =
      (answer (emit { x with st := { x.st with peers := removeRoute x.st.peers p.conn rid } } (.timerDestroy r.timer))
        r.requester (replyAnswer r payload typ), true) := by
  unfold routingResponse
  simp only [hid, hr, replyAnswer]
  cases hoid : r.originId with
  | none => rfl
  | some oid =>
    simp only [Option.bind_some]
    cases resultResponse oid payload typ <;> rfl

theorem routingResponse_miss {x : Ctx} {p : Peer} {msg payload : Json} {typ : String} {rid : Bytes}
    (hid : msg.getItem (k "id") = some (.str rid)) (hr : p.routes.find? (·.rid == rid) = none) :
    routingResponse x p msg payload typ = (x, true) := by
  unfold routingResponse
  simp only [hid, hr]

/-! ## timeoutFired -/

theorem timeoutFired_hit {x : Ctx} {t : Nat} {r : Route}
    (hr : (x.st.peers.flatMap (·.routes)).find? (·.timer == t) = some r) :
    timeoutFired x t =
      emit (answer { x with st := { x.st with peers := removeRoute x.st.peers r.owner r.rid } }
        r.requester (timeoutAnswer r)) (.timerDestroy t) := by
  unfold timeoutFired
  simp only [hr, timeoutAnswer]
  cases hoid : r.originId with
  | none => rfl
  | some oid =>
    simp only [Option.bind_some]
    cases errorResponse oid INTERNAL_ERROR "reason" (k "timeout for routed request") <;> rfl

theorem timeoutFired_miss {x : Ctx} {t : Nat}
    (hr : (x.st.peers.flatMap (·.routes)).find? (·.timer == t) = none) : timeoutFired x t = x := by
  unfold timeoutFired
  simp only [hr]

/-! ## clearRoute -/

theorem clearRoute_eq (x : Ctx) (r : Route) (c : Nat) :
    clearRoute x r c =
      answer (emit x (.timerDestroy r.timer)) r.requester (if r.requester == c then none else shutdownAnswer r) := by
  unfold clearRoute shutdownAnswer
  dsimp only
  split
  · rfl
  · cases hoid : r.originId with
    | none => rfl
    | some oid =>
      simp only [Option.bind_some]
      cases errorResponse oid INTERNAL_ERROR "reason" (k "peer shuts down") <;> rfl

/-! ## the immediate responses of `set_or_call`, by cause

  Every refusal in front of the routing table is an INVALID_PARAMS error; INTERNAL_ERROR "routing
  table full" is answered exactly when the table (oracle `routeFull`) refuses; INTERNAL_ERROR
  "could not send routing information" exactly when the send to the owner fails. -/

/-- `code` of an error response -/
def errCode : Json → Option Int
  | .obj [_, (_, .obj [_, (_, .num n), _])] => some n.vint
  | _ => none

/-- (tag, text) of the `data` member of an error response -/
def errReason : Json → Option (Bytes × Bytes)
  | .obj [_, (_, .obj [_, _, (_, .obj [(tag, .str reason)])])] => some (tag, reason)
  | _ => none

theorem errorFromRequest_shape {req : Json} {code : Int} {tag : String} {reason : Bytes} {j : Json}
    (h : errorFromRequest req code tag reason = some j) :
    errCode j = some code ∧ errReason j = some (k tag, reason) := by
  unfold errorFromRequest at h
  split at h
  · next id _ =>
    unfold errorResponse commonResponse at h
    cases id with
    | str s => simp only [Option.map_some, Option.some.injEq] at h; subst h; exact ⟨rfl, rfl⟩
    | num n => simp only [Option.map_some, Option.some.injEq] at h; subst h; exact ⟨rfl, rfl⟩
    | null => simp at h
    | bool _ => simp at h
    | arr _ => simp at h
    | obj _ => simp at h
  · cases h

/-- the causes of an immediate response of `set_or_call` -/
theorem setOrCall_response (cfg : Config) (x : Ctx) (p : Peer) (req : Json) (isState : Bool) :
    (∃ tag reason, (setOrCall cfg x p req isState).2 = errorFromRequest req INVALID_PARAMS tag reason) ∨
    (x.routeFull = true ∧
      (setOrCall cfg x p req isState).2 = errorFromRequest req INTERNAL_ERROR "reason" (k "routing table full")) ∨
    (x.routeFull = false ∧ nextSend x = true ∧ (setOrCall cfg x p req isState).2 = none) ∨
    (x.routeFull = false ∧ nextSend x = false ∧
      (setOrCall cfg x p req isState).2 =
        errorFromRequest req INTERNAL_ERROR "reason" (k "could not send routing information")) := by
  rcases setOrCall_refused_or_checks cfg x.st p req isState with ⟨tag, reason, h⟩ | ⟨params, path, e, hc⟩
  · exact .inl ⟨tag, reason, by rw [h x rfl]⟩
  · rw [setOrCall_of_checks hc]
    rcases routeCore_cases cfg x p req isState params path e with
      ⟨_, _, h⟩ | ⟨reason, _, h⟩ | ⟨tns, _, ⟨hf, h⟩ | ⟨hf, ⟨hs, h⟩ | ⟨hs, h⟩⟩⟩ <;> rw [h]
    · exact .inl ⟨_, _, rfl⟩
    · exact .inl ⟨_, _, rfl⟩
    · exact .inr (.inl ⟨hf, rfl⟩)
    · exact .inr (.inr (.inl ⟨hf, hs, rfl⟩))
    · exact .inr (.inr (.inr ⟨hf, hs, rfl⟩))

theorem reason_full_ne_send : k "routing table full" ≠ k "could not send routing information" := by
  decide +kernel

/-! ## lookups after updates -/

theorem stored_addRoute {s : State} {r : Route} {q : Peer} (hq : findPeer s.peers r.owner = some q)
    (s' : State) (hs' : s'.peers = updatePeer s.peers r.owner (fun q => { q with routes := q.routes ++ [r] })) :
    Stored s' r := by
  refine ⟨{ q with routes := q.routes ++ [r] }, ?_, List.mem_append_right q.routes (List.mem_singleton.mpr rfl)⟩
  rw [hs', findPeer_updatePeer_self, hq]
  · rfl
  · exact fun _ => rfl

theorem no_rid_after_removeRoute (ps : List Peer) (o : Nat) (rid : Bytes) (p' : Peer)
    (hp' : findPeer (removeRoute ps o rid) o = some p') : ∀ r' ∈ p'.routes, r'.rid ≠ rid := by
  rw [removeRoute, findPeer_updatePeer_self] at hp'
  · obtain ⟨q, _, rfl⟩ := Option.map_eq_some_iff.mp hp'
    exact fun r' hr' => bne_iff_ne.mp (List.mem_filter.mp hr').2
  · exact fun _ => rfl

/-! ## one request object -/

/-- the method name of a set (`true`) or call (`false`) request -/
def routeMethod (isState : Bool) : Bytes := if isState then k "set" else k "call"

theorem handleMethod_route (cfg : Config) (x : Ctx) (p : Peer) (req : Json) (isState : Bool) :
    handleMethod cfg x p req (routeMethod isState) = setOrCall cfg x p req isState := by
  cases isState
  · exact handleMethod_call cfg x p req
  · exact handleMethod_set cfg x p req

theorem parseJsonRpc_route {cfg : Config} {x : Ctx} {c : Nat} {p : Peer} {req : Json} {isState : Bool}
    (hp : findPeer x.st.peers c = some p)
    (hm : req.getItem (k "method") = some (.str (routeMethod isState))) :
    parseJsonRpc cfg x c req =
      sendResponse (setOrCall cfg x p req isState).1 c (setOrCall cfg x p req isState).2 := by
  unfold parseJsonRpc
  simp only [hp, hm, handleMethod_route]

/-- `req` is a routing response carrying `payload` as its result (`typ = "result"`) or, if it has
    no result member, as its error (`typ = "error"`) -/
def IsResponse (req : Json) (payload : Json) (typ : String) : Prop :=
  req.getItem (k "method") = none ∧
  ((typ = "result" ∧ req.getItem (k "result") = some payload) ∨
   (typ = "error" ∧ req.getItem (k "result") = none ∧ req.getItem (k "error") = some payload))

theorem parseJsonRpc_response {cfg : Config} {x : Ctx} {c : Nat} {p : Peer} {req payload : Json} {typ : String}
    (hp : findPeer x.st.peers c = some p) (hr : IsResponse req payload typ) :
    parseJsonRpc cfg x c req = routingResponse x p req payload typ := by
  unfold parseJsonRpc
  obtain ⟨hm, h | h⟩ := hr
  · simp only [hp, hm, h.2, h.1]
  · simp only [hp, hm, h.2.1, h.2.2, h.1]

theorem step_single (cfg : Config) (s : State) (c : Nat) (o : Oracle) (members : List (Bytes × Json))
    (hlive : (findPeer s.peers c).isSome = true) :
    step cfg s (.message c (some (.obj members)) o) =
      (let y := parseJsonRpc cfg (mkCtx s o) c (.obj members)
       let x := if y.2 then y.1 else closePeer y.1 c
       (x.st, x.out.reverse)) :=
  step_message_live cfg hlive _ o

/-! ## the reply of the owner -/

theorem table_rids_nodup {s : State} (h : RidsWf s) {p : Peer} (hp : p ∈ s.peers) : (p.routes.map (·.rid)).Nodup :=
  List.Nodup.sublist ((table_sublist_vRoutes (mem_map_pview hp)).map _) h.rids

theorem allRoutes_timers_nodup {s : State} (h : RoutesWf s) : ((s.peers.flatMap (·.routes)).map (·.timer)).Nodup := by
  have := h.timers
  rwa [vRoutes_map_pview] at this

theorem stored_mem_allRoutes {s : State} {r : Route} (h : Stored s r) : r ∈ s.peers.flatMap (·.routes) := by
  obtain ⟨p, hp, hr⟩ := h
  exact List.mem_flatMap.mpr ⟨p, findPeer_mem hp, hr⟩

/-- The step of a message that consists of one routing response of `r`'s owner with `r`'s id:
    the entry is removed, its timer destroyed, and the answer — the owner's payload under the
    caller's original id — is sent to the requester (nothing if the caller had no id). -/
theorem step_reply (cfg : Config) (s : State) (orc : Oracle) (members : List (Bytes × Json))
    (payload : Json) (typ : String) (r : Route) (hr : RidsWf s) (hin : Stored s r)
    (hresp : IsResponse (.obj members) payload typ)
    (hid : (Json.obj members).getItem (k "id") = some (.str r.rid)) :
    step cfg s (.message r.owner (some (.obj members)) orc) =
      ({ s with peers := removeRoute s.peers r.owner r.rid },
       .timerDestroy r.timer :: answerSends r.requester (replyAnswer r payload typ) (orc.sends.headD true)) := by
  obtain ⟨p, hp, hrp⟩ := hin
  rw [step_single cfg s r.owner orc members (by rw [hp]; rfl)]
  rw [parseJsonRpc_response (by simpa using hp) hresp]
  have hfind := find?_of_nodup_map (·.rid) (table_rids_nodup hr (findPeer_mem hp)) hrp
  rw [routingResponse_hit hid hfind]
  dsimp only
  simp only [↓reduceIte, answer_st, emit_st, answer_out, emit_out, mkCtx_out, List.reverse_append,
    List.reverse_cons, List.reverse_nil, List.nil_append, findPeer_conn hp]
  refine Prod.ext rfl ?_
  show [Obs.timerDestroy r.timer] ++ (answerSends r.requester (replyAnswer r payload typ) _).reverse = _
  cases replyAnswer r payload typ <;> rfl

/-- a response whose id matches no entry of the replier's own table: nothing happens -/
theorem step_reply_miss (cfg : Config) (s : State) (c : Nat) (orc : Oracle) (members : List (Bytes × Json))
    (payload : Json) (typ : String) (rid : Bytes) (p : Peer) (hp : findPeer s.peers c = some p)
    (hresp : IsResponse (.obj members) payload typ)
    (hid : (Json.obj members).getItem (k "id") = some (.str rid))
    (hmiss : ∀ r ∈ p.routes, r.rid ≠ rid) :
    step cfg s (.message c (some (.obj members)) orc) = (s, []) := by
  rw [step_single cfg s c orc members (by rw [hp]; rfl)]
  rw [parseJsonRpc_response (by simpa using hp) hresp]
  have hfind : p.routes.find? (·.rid == rid) = none := by
    rw [List.find?_eq_none]
    intro r hr
    simpa using hmiss r hr
  rw [routingResponse_miss hid hfind]
  rfl

/-! ## the expiry of the timer -/

theorem step_timeout (cfg : Config) (s : State) (orc : Oracle) (r : Route) (hw : RoutesWf s) (hin : Stored s r) :
    step cfg s (.timerFire r.timer orc) =
      ({ s with peers := removeRoute s.peers r.owner r.rid },
       answerSends r.requester (timeoutAnswer r) (orc.sends.headD true) ++ [.timerDestroy r.timer]) := by
  rw [step_timerFire_eq]
  have hfind := find?_of_nodup_map (·.timer) (allRoutes_timers_nodup hw) (stored_mem_allRoutes hin)
  rw [timeoutFired_hit (x := mkCtx s orc) hfind]
  simp only [emit_st, answer_st, emit_out, answer_out, mkCtx_out, List.append_nil, List.reverse_cons]
  refine Prod.ext rfl ?_
  show (answerSends r.requester (timeoutAnswer r) _).reverse ++ _ = _
  cases timeoutAnswer r <;> rfl

/-- the expiry of a timer no stored entry carries (e.g. the entry was answered first): nothing happens -/
theorem step_timeout_miss (cfg : Config) (s : State) (orc : Oracle) (t : Nat)
    (h : ∀ r ∈ s.peers.flatMap (·.routes), r.timer ≠ t) : step cfg s (.timerFire t orc) = (s, []) := by
  rw [step_timerFire_eq]
  have hfind : ((mkCtx s orc).st.peers.flatMap (·.routes)).find? (·.timer == t) = none := by
    rw [List.find?_eq_none]
    intro r hr
    simpa using h r hr
  rw [timeoutFired_miss hfind]
  rfl

/-- after a resolver, the entry is not stored any more -/
theorem not_stored_after_remove (s : State) (r : Route) :
    ¬ Stored { s with peers := removeRoute s.peers r.owner r.rid } r := by
  rintro ⟨p', hp', hr'⟩
  exact no_rid_after_removeRoute s.peers r.owner r.rid p' hp' r hr' rfl

/-! ## the outputs of `free_peer_resources` around one routing entry -/

/-- the outputs of `y` extend those of `x` -/
def OutExt (x y : Ctx) : Prop := ∃ news, y.out = news ++ x.out

theorem OutExt.refl (x : Ctx) : OutExt x x := ⟨[], rfl⟩

theorem OutExt.trans {x y z : Ctx} (h1 : OutExt x y) (h2 : OutExt y z) : OutExt x z := by
  obtain ⟨n1, e1⟩ := h1
  obtain ⟨n2, e2⟩ := h2
  exact ⟨n2 ++ n1, by rw [e2, e1, List.append_assoc]⟩

theorem outExt_send' (x : Ctx) (c : Nat) (j : Json) : OutExt x (send' x c j) := ⟨[_], send'_out x c j⟩

theorem outExt_emit (x : Ctx) (o : Obs) : OutExt x (emit x o) := ⟨[o], rfl⟩

theorem outExt_answer (x : Ctx) (c : Nat) (a : Option Json) : OutExt x (answer x c a) := ⟨_, answer_out x c a⟩

theorem outExt_notifyFetchers (x : Ctx) (e : Element) (ev : String) : OutExt x (notifyFetchers x e ev) :=
  notifyFetchers_induct (P := OutExt x) e ev (.refl x) fun _ _ _ _ _ _ hy => hy.trans (outExt_send' ..)

theorem outExt_removeElement (x : Ctx) (e : Element) : OutExt x (removeElement x e) :=
  removeElement_eq x e ▸ outExt_notifyFetchers x e "remove"

theorem outExt_clearRoute (x : Ctx) (r : Route) (c : Nat) : OutExt x (clearRoute x r c) := by
  rw [clearRoute_eq]
  exact (outExt_emit x _).trans (outExt_answer ..)

theorem outExt_clearRoutes (x : Ctx) (l : List Route) (c : Nat) : OutExt x (clearRoutes x l c) :=
  clearRoutes_induct (P := OutExt x) l c (.refl x) fun _ _ _ _ hy => hy.trans (outExt_clearRoute ..)

theorem outExt_freeRequests (x : Ctx) (c : Nat) : OutExt x (freeRequests x c) :=
  outExt_clearRoutes x (requestsOf x.st.peers c) c

theorem outExt_freeElements (x : Ctx) (c : Nat) (l : List Element) :
    OutExt x (removeElements (unsubscribe x c) c l) :=
  removeElements_induct (P := OutExt x) c l ⟨[], rfl⟩ fun _ _ _ _ _ _ hy => hy.trans (outExt_removeElement ..)

theorem clearRoutes_append (x : Ctx) (l₁ l₂ : List Route) (c : Nat) :
    clearRoutes x (l₁ ++ l₂) c = clearRoutes (clearRoutes x l₁ c) l₂ c :=
  List.foldl_append

/-- The outputs of closing `c` (newest first): somewhere in them, adjacent, the destruction of the
    timer of entry `r` of `c`'s own table and the shutdown answer to `r`'s requester (if the caller
    had an id); the timer of `r` is destroyed nowhere else. -/
theorem closePeer_shutdown (x : Ctx) (c : Nat) (p : Peer) (r : Route) (hw : (rs x).Wf)
    (hp : findPeer x.st.peers c = some p) (hr : r ∈ p.routes) (hne : r.requester ≠ c) :
    ∃ pre post ok,
      (closePeer x c).out =
        post ++ answerSends r.requester (shutdownAnswer r) ok ++ .timerDestroy r.timer :: pre ++ x.out ∧
      r.timer ∉ (pre ++ post).filterMap destroyedOf := by
  obtain ⟨l₁, l₂, hl⟩ := List.append_of_mem hr
  -- the flush of c's own table, cut at r
  obtain ⟨pre, hpre⟩ := outExt_clearRoutes x l₁ c
  have hcr : (clearRoute (clearRoutes x l₁ c) r c).out =
      answerSends r.requester (shutdownAnswer r) (nextSend (emit (clearRoutes x l₁ c) (.timerDestroy r.timer)))
        ++ .timerDestroy r.timer :: pre ++ x.out := by
    rw [clearRoute_eq, answer_out, emit_out, hpre]
    have : (r.requester == c) = false := by simpa using hne
    simp [this]
  -- everything after it only prepends
  have hrest : OutExt (clearRoute (clearRoutes x l₁ c) r c) (closePeer x c) := by
    unfold closePeer
    rw [freePeerResources_phases hp]
    have hA : OutExt (clearRoute (clearRoutes x l₁ c) r c) (freeTable x c p) := by
      obtain ⟨n, hn⟩ := outExt_clearRoutes (clearRoute (clearRoutes x l₁ c) r c) l₂ c
      refine ⟨n, ?_⟩
      show (clearRoutes x p.routes c).out = _
      rw [hl, clearRoutes_append, clearRoutes_cons]
      exact hn
    refine hA.trans ((outExt_freeRequests _ c).trans ((outExt_freeElements _ c p.elements).trans ?_))
    exact ⟨[.closed c], rfl⟩
  obtain ⟨post, hpost⟩ := hrest
  refine ⟨pre, post, nextSend (emit (clearRoutes x l₁ c) (.timerDestroy r.timer)), ?_, ?_⟩
  · rw [hpost, hcr]; simp
  · -- the timer ids destroyed by this close are pairwise distinct
    have hrs := rs_closePeer x c p hp
    have hd : destroyed (tobs (closePeer x c).out) =
        ((vCloseRoutes (x.st.peers.map pview) c).map (·.timer)).reverse ++ destroyed (tobs x.out) := by
      have := congrArg RS.tl hrs
      simp only [rs, app] at this
      rw [this, destroyed_append, destroyed_map_reverse]
    have hnd : (((vCloseRoutes (x.st.peers.map pview) c).map (·.timer)).reverse).Nodup :=
      nodup_reverse (vCloseRoutes_timers_nodup hw c)
    have ha : destroyed (answerSends r.requester (shutdownAnswer r)
        (nextSend (emit (clearRoutes x l₁ c) (.timerDestroy r.timer)))) = [] := by
      cases shutdownAnswer r <;> rfl
    rw [destroyed_tobs, destroyed_tobs, hpost, hcr] at hd
    simp only [destroyed_append, destroyed_cons_destroy, ha, List.append_nil, ← List.append_assoc] at hd
    rw [← List.append_cancel_right hd, List.nodup_append] at hnd
    obtain ⟨_, h2, h3⟩ := hnd
    show r.timer ∉ destroyed (pre ++ post)
    rw [destroyed_append, List.mem_append]
    rintro (h | h)
    · exact (List.nodup_cons.mp h2).1 h
    · exact h3 _ h _ (List.mem_cons_self ..) rfl

end Cjet.Daemon.C03

/-! ## the objects of the non-vacuity examples of `Cjet.Props.C03` and `Cjet.Props.C14`

  Each fact the examples need of them is evaluated here, once. -/

namespace Cjet.Props.C03

open Cjet Cjet.Json Cjet.Daemon Cjet.Daemon.C03

def exCfg : Config := {}
def exAdd : Json :=
  .obj [(k "method", .str (k "add")), (k "params", .obj [(k "path", .str (k "p")), (k "value", .bool true)])]
/-- peer 1 adds state `p`, peer 2 is a second client -/
def exOps : List Op :=
  [.connect 1 false true (k "0x1"), .connect 2 false true (k "0x2"), .message 1 (some exAdd) {}]
def exElem : Element :=
  { path := k "p", owner := 1, value := some (.bool true), fetchOnly := false, timeoutNs := 5000000000,
    fetchGroups := 0, setGroups := 0, callGroups := 0, fetchers := [none, none, none, none] }
def exP1 : Peer := { conn := 1, ws := false, isLocal := true, addrTok := k "0x1", elements := [exElem] }
def exP2 : Peer := { conn := 2, ws := false, isLocal := true, addrTok := k "0x2" }
/-- the state reached by `exOps` -/
def exS : State := { peers := [exP1, exP2], index := [(k "p", 1)] }

/-- peer 2 sets `p` to 7 with id "a" -/
def exSetMembers : List (Bytes × Json) :=
  [(k "id", .str (k "a")), (k "method", .str (k "set")),
   (k "params", .obj [(k "path", .str (k "p")), (k "value", ofInt 7)])]
def exSet : Json := .obj exSetMembers
def exParams : Json := .obj [(k "path", .str (k "p")), (k "value", ofInt 7)]
/-- the routing entry of that request -/
def exRoute : Route :=
  { rid := routedId (some (.str (k "a"))) 0 (k "0x2"), requester := 2, owner := 1,
    originId := some (.str (k "a")), timer := 0 }
/-- the state with that request in flight -/
def exS1 : State :=
  { exS with uuid := 1, nextTimer := 1, peers := [{ exP1 with routes := [exRoute] }, exP2] }
/-- peer 1 answers it -/
def exReplyMembers : List (Bytes × Json) := [(k "id", .str exRoute.rid), (k "result", .bool true)]

theorem exS_run : (run exCfg {} exOps).1 = exS := by with_unfolding_all rfl

theorem exS1_run : (run exCfg {} (exOps ++ [.message 2 (some exSet) {}])).1 = exS1 := by
  rw [run_append, exS_run]
  with_unfolding_all rfl

theorem exS_eo : EO exS :=
  exS_run ▸ run_inv (I := fun s _ => EO s) (H := []) exCfg exOps (fun s op _ => eo_step exCfg s op) (eo_init [])

theorem exS_peer2 : findPeer exS.peers 2 = some exP2 := by with_unfolding_all rfl

theorem exS1_wf : RoutesWf exS1 := exS1_run ▸ routesWf_run _ _ _ (routesWf_init [])

theorem exS1_stored : Stored exS1 exRoute := ⟨_, by with_unfolding_all rfl, .head _⟩

theorem exSet_method :
    (Json.obj exSetMembers).getItem (k "method") = some (.str (if true then k "set" else k "call")) := by
  with_unfolding_all rfl

theorem exSet_checks : Checks exCfg exS exP2 exSet true exParams (k "p") exElem :=
  ⟨by with_unfolding_all rfl, by with_unfolding_all rfl, rfl, rfl, by with_unfolding_all rfl,
    by with_unfolding_all rfl⟩

theorem exParams_value : (exParams.getItem (k "value")).isSome = true := by with_unfolding_all rfl

theorem exParams_timeout : exParams.getItem (k "timeout") = none := by with_unfolding_all rfl

theorem exReply_isResponse : IsResponse (.obj exReplyMembers) (.bool true) "result" :=
  ⟨by with_unfolding_all rfl, Or.inl ⟨rfl, by with_unfolding_all rfl⟩⟩

theorem exReply_id : (Json.obj exReplyMembers).getItem (k "id") = some (.str exRoute.rid) := by
  with_unfolding_all rfl

end Cjet.Props.C03
