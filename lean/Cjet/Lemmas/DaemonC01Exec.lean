/-
  C01 — disconnect (`freePeerResources` / `closePeer`), connect, the guarantee of every atom, the
  decomposition of `step` / `run` into atoms; then executions: life time of a fetch, the replica
  along an execution, silence, single-object messages, refused add, unfetch.
-/
import Cjet.Lemmas.DaemonC01Handlers

namespace Cjet.Daemon.C01

open Cjet Cjet.Json Cjet.Daemon

variable {cfg : Config}

/-! ## freePeerResources, phase by phase -/

theorem quiet_freeTable (x : Ctx) (c : Nat) (p : Peer) : Quiet x (freeTable x c p) :=
  (quiet_clearRoutes x p.routes c).trans (quiet_updatePeer _ c _ fun _ => ⟨rfl, rfl⟩)

theorem quiet_freeRequests (x : Ctx) (c : Nat) : Quiet x (freeRequests x c) :=
  (quiet_clearRoutes x _ c).trans (quiet_mapPeers _ _ fun _ => ⟨rfl, rfl⟩)

/-- `remove_all_elements_from_peer`; it runs when the fetches of the peer are gone -/
theorem removeElements_ok (c : Nat) : ∀ (es : List Element) (x : Ctx), Inv cfg x.st →
    ∀ (pc : Peer), findPeer x.st.peers c = some pc → pc.elements.map (·.path) = es.map (·.path) →
    pc.fetches = [] →
    ∃ ns, Emits x (removeElements x c es) ns ∧ TransN cfg x.st (removeElements x c es).st ns ∧
      (∀ q ∈ (removeElements x c es).st.peers, q.conn = c → q.elements = [] ∧ q.fetches = [])
  | [], x, inv, pc, hpc, hpaths, hnf => by
    refine ⟨[], Emits.refl x, TransN.refl inv, fun q hq hc => ?_⟩
    cases findPeer_unique inv.fetches.connNodup hq (findPeer_mem hpc) (hc.trans (findPeer_conn hpc).symm)
    exact ⟨by simpa using hpaths, hnf⟩
  | e0 :: es, x, inv, pc, hpc, hpaths, hnf => by
    have hm := findPeer_mem hpc
    cases hel : pc.elements with
    | nil => rw [hel] at hpaths; simp at hpaths
    | cons e1 rest =>
      rw [hel] at hpaths
      simp only [List.map_cons, List.cons.injEq] at hpaths
      obtain ⟨hp1, hprest⟩ := hpaths
      have he1 : e1 ∈ pc.elements := by rw [hel]; exact List.mem_cons_self
      have hstep : removeElements x c (e0 :: es) = removeElements (removeElement x e1) c es := by
        rw [removeElements_cons]
        simp only [hpc, Option.bind_some, hel, List.find?_cons, hp1, beq_self_eq_true]
      obtain ⟨s1, s2⟩ := removeElement_spec x e1
      have htr := trans_remove inv hm he1
      have hnd := inv.elems.pathNodup pc hm
      rw [hel, List.map_cons, List.nodup_cons] at hnd
      have hfilter : pc.elements.filter (·.path != e1.path) = rest := by
        rw [hel, List.filter_cons]
        simp only [bne_self_eq_false, Bool.false_eq_true, if_false]
        rw [List.filter_eq_self]
        intro a ha
        simpa using fun h : a.path = e1.path => hnd.1 (h ▸ List.mem_map_of_mem (f := (·.path)) ha)
      have hpc' : findPeer (removeElement x e1).st.peers c = some { pc with elements := rest } := by
        rw [s1, rmState, (inv.elems.owner pc hm e1 he1).trans (findPeer_conn hpc)]
        show findPeer (updatePeer _ c _) c = _
        rw [findPeer_updatePeer_self (f := fun q => { q with elements := q.elements.filter (·.path != e1.path) })
          (fun _ => rfl), hpc, Option.map_some, hfilter]
      obtain ⟨ns, i1, i2, i3⟩ := removeElements_ok c es (removeElement x e1) (s1 ▸ htr.inv)
        { pc with elements := rest } hpc' hprest hnf
      rw [hstep]
      exact ⟨_, s2.trans i1, htr.trans (s1 ▸ i2), i3⟩

theorem freePeerResources_ok {x : Ctx} (inv : Inv cfg x.st) (c : Nat) :
    ∃ ns, Emits x (freePeerResources x c) ns ∧ TransN cfg x.st (freePeerResources x c).st ns := by
  cases hp : findPeer x.st.peers c with
  | none =>
    rw [freePeerResources_none hp]
    exact ⟨[], Emits.refl x, TransN.refl inv⟩
  | some p =>
    rw [freePeerResources_phases hp]
    have q4 : Quiet x (freeRequests (freeTable x c p) c) := (quiet_freeTable x c p).trans (quiet_freeRequests _ c)
    have t4 := q4.transN inv
    obtain ⟨p4, hp4, hel4⟩ : ∃ p4, findPeer (freeRequests (freeTable x c p) c).st.peers c = some p4 ∧
        p4.elements = p.elements := by
      rw [freeRequests_st, freeTable_st]
      show ∃ p4, findPeer (List.map _ (updatePeer x.st.peers c (fun q => { q with routes := [] }))) c = _ ∧ _
      rw [findPeer_map, findPeer_updatePeer_self, hp]
      · exact ⟨_, rfl, rfl⟩
      all_goals exact fun _ => rfl
    generalize freeRequests (freeTable x c p) c = x4 at q4 t4 hp4
    have t5 := trans_unsub (x := x4) t4.inv c
    have hp5 : findPeer (unsubscribe x4 c).st.peers c = some (thinG (freeSlots c) c (fun _ => []) p4) := by
      rw [unsubscribe_st, unsubPeer_eq]
      show findPeer (x4.st.peers.map _) c = _
      rw [findPeer_map (thinG_conn _ c _), hp4, Option.map_some]
    obtain ⟨ns, e6, t6, hemp⟩ := removeElements_ok c p.elements (unsubscribe x4 c) t5.inv _ hp5
      (by rw [thinG_elements, List.map_map, hel4]; rfl)
      (by rw [thinG_fetches, if_pos (beq_iff_eq.2 (findPeer_conn hp4))])
    have t7 := trans_delPeer t6.inv c hemp
    refine ⟨ns, ?_, by simpa [deletePeer] using ((t4.trans t5).trans t6).trans t7⟩
    have e5 : Emits x (unsubscribe x4 c) [] := q4.emits.congr rfl rfl
    exact (e5.trans e6).congr rfl rfl

/-! ## connect -/

theorem trans_connect {s : State} (inv : Inv cfg s) (c : Nat) (ws isLocal : Bool) (addr : Bytes)
    (hfresh : (findPeer s.peers c).isNone = true) :
    TransN cfg s { s with peers := s.peers ++ [{ conn := c, ws := ws, isLocal := isLocal, addrTok := addr }] } [] := by
  refine TransN.of_carried inv ?_ rfl rfl
    (fun p hp => Or.inr ⟨p, List.mem_append_left _ hp, rfl, rfl, rfl, Or.inr rfl⟩) (fun p hp => ?_)
  · show ((s.peers ++ [_]).map Peer.conn).Nodup
    rw [List.map_append, List.nodup_append]
    refine ⟨inv.fetches.connNodup, List.pairwise_singleton _ _, fun a ha b hb hab => findPeer_isNone_iff.1 hfresh ?_⟩
    rwa [hab, List.mem_singleton.1 hb] at ha
  · rcases List.mem_append.1 hp with h | h
    · exact Or.inr ⟨p, h, rfl, rfl, rfl, Or.inr rfl⟩
    · cases List.mem_singleton.1 h
      exact Or.inl ⟨rfl, rfl⟩

/-! ## every atom -/

theorem parseJsonRpc_work {x : Ctx} (inv : Inv cfg x.st) (c : Nat) (req : Json) :
    ∃ ns, Emits x (parseJsonRpc cfg x c req).1 ns ∧ StepOK cfg x.st (parseJsonRpc cfg x c req).1.st ns := by
  obtain ⟨new, resp, hout, hstep, hresp, _⟩ := parseJsonRpc_ok inv c req
  refine ⟨_, ⟨resp ++ new, hout, ?_⟩, hstep⟩
  rw [List.reverse_append, notifs_append]
  rcases hresp with rfl | ⟨j, b, rfl, hj⟩
  · exact List.append_nil _
  · simp [notifs_send, decodeNotif_of_isResp hj]

theorem closePeer_work {x : Ctx} (inv : Inv cfg x.st) (c : Nat) :
    ∃ ns, Emits x (closePeer x c) ns ∧ StepOK cfg x.st (closePeer x c).st ns :=
  let ⟨ns, h1, h2⟩ := freePeerResources_ok inv c
  ⟨ns, by simpa [closePeer] using h1.trans (emits_emit (freePeerResources x c) (o := .closed c) rfl), h2.stepOK⟩

theorem timeoutFired_work {x : Ctx} (inv : Inv cfg x.st) (t : Nat) :
    ∃ ns, Emits x (timeoutFired x t) ns ∧ StepOK cfg x.st (timeoutFired x t).st ns :=
  ⟨[], (quiet_timeoutFired x t).emits, ((quiet_timeoutFired x t).transN inv).stepOK⟩

theorem atom_ok {s s' : State} {obs : List Obs} (inv : Inv cfg s) (h : Atom cfg s obs s') :
    StepOK cfg s s' (notifs obs) := by
  have key : ∀ {x x' : Ctx} {new : List Obs}, x'.out = new ++ x.out →
      (∃ ns, Emits x x' ns ∧ StepOK cfg x.st x'.st ns) → StepOK cfg x.st x'.st (notifs new.reverse) := by
    rintro x x' new hnew ⟨_, ⟨new', hout, rfl⟩, h⟩
    cases List.append_cancel_right (hnew.symm.trans hout)
    exact h
  cases h with
  | connect _ c ws isLocal addr hf => exact (trans_connect inv c ws isLocal addr hf).stepOK
  | request x c req new hnew => exact key hnew (parseJsonRpc_work inv c req)
  | close x c new hnew => exact key hnew (closePeer_work inv c)
  | timer x t new hnew => exact key hnew (timeoutFired_work inv t)

/-! ## `step` and `run` as sequences of atoms -/

theorem Exec.append {s s1 s2 : State} {a b : List (List Obs × State)}
    (h1 : Exec cfg s a s1) (h2 : Exec cfg s1 b s2) : Exec cfg s (a ++ b) s2 := by
  induction h1 with
  | nil => exact h2
  | cons ha _ ih => exact Exec.cons ha (ih h2)

theorem obsOf_cons (o : List Obs) (s : State) (tr : List (List Obs × State)) :
    obsOf ((o, s) :: tr) = o ++ obsOf tr := rfl

theorem obsOf_append (a b : List (List Obs × State)) : obsOf (a ++ b) = obsOf a ++ obsOf b := by
  simp [obsOf]

theorem Exec.inv {s s' : State} {tr : List (List Obs × State)} (h : Exec cfg s tr s')
    (inv : Inv cfg s) : Inv cfg s' := by
  induction h with
  | nil => exact inv
  | cons ha _ ih => exact ih (atom_ok inv ha).inv

/-- context-level execution: the trace also accounts for the output of the context -/
def CExec (cfg : Config) (x : Ctx) (tr : List (List Obs × State)) (x' : Ctx) : Prop :=
  Exec cfg x.st tr x'.st ∧ x'.out = (obsOf tr).reverse ++ x.out

theorem CExec.refl (cfg : Config) (x : Ctx) : CExec cfg x [] x := ⟨Exec.nil _, rfl⟩

theorem CExec.trans {x y z : Ctx} {a b : List (List Obs × State)}
    (h1 : CExec cfg x a y) (h2 : CExec cfg y b z) : CExec cfg x (a ++ b) z :=
  ⟨h1.1.append h2.1, by rw [h2.2, h1.2, obsOf_append, List.reverse_append, List.append_assoc]⟩

theorem CExec.single {x x' : Ctx} {new : List Obs} (hout : x'.out = new ++ x.out)
    (ha : Atom cfg x.st new.reverse x'.st) : CExec cfg x [(new.reverse, x'.st)] x' :=
  ⟨Exec.cons ha (Exec.nil _), by simp [obsOf, hout]⟩

theorem CExec.of_mkCtx {s : State} {o : Oracle} {tr : List (List Obs × State)} {x' : Ctx}
    (h : CExec cfg (mkCtx s o) tr x') : Exec cfg s tr x'.st ∧ obsOf tr = x'.out.reverse :=
  ⟨h.1, by rw [h.2]; simp [mkCtx]⟩

theorem cexec_rpc {x : Ctx} (inv : Inv cfg x.st) (c : Nat) (req : Json) :
    ∃ o, CExec cfg x [(o, (parseJsonRpc cfg x c req).1.st)] (parseJsonRpc cfg x c req).1 :=
  let ⟨_, ⟨new, hout, _⟩, _⟩ := parseJsonRpc_work inv c req
  ⟨_, CExec.single hout (Atom.request x c req new hout)⟩

theorem cexec_close {x : Ctx} (inv : Inv cfg x.st) (c : Nat) :
    ∃ o, CExec cfg x [(o, (closePeer x c).st)] (closePeer x c) :=
  let ⟨_, ⟨new, hout, _⟩, _⟩ := closePeer_work inv c
  ⟨_, CExec.single hout (Atom.close x c new hout)⟩

theorem cexec_array (c : Nat) : ∀ (l : List Json) (x : Ctx), Inv cfg x.st →
    ∃ tr, CExec cfg x tr (parseJsonArray cfg x c l).1
  | [], x, _ => ⟨[], CExec.refl cfg x⟩
  | j :: rest, x, inv => by
    cases j with
    | obj m =>
      obtain ⟨o, h1⟩ := cexec_rpc inv c (.obj m)
      rw [parseJsonArray_cons_obj]
      split
      · obtain ⟨tr, h2⟩ := cexec_array c rest _ (h1.1.inv inv)
        exact ⟨_, h1.trans h2⟩
      · exact ⟨_, h1⟩
    | _ => exact ⟨[], CExec.refl cfg x⟩

theorem cexec_message {x : Ctx} (inv : Inv cfg x.st) (c : Nat) (msg : Option Json) :
    ∃ tr, CExec cfg x tr (parseMessage cfg x c msg).1 := by
  unfold parseMessage
  split
  · exact cexec_array c _ x inv
  · exact (cexec_rpc inv c (.obj _)).elim fun _ h => ⟨_, h⟩
  · exact ⟨[], CExec.refl cfg x⟩

/-- every `step` is a sequence of atoms with the same final state and the same observations -/
theorem step_exec {s : State} (inv : Inv cfg s) (op : Op) :
    ∃ tr, Exec cfg s tr (step cfg s op).1 ∧ obsOf tr = (step cfg s op).2 := by
  cases op with
  | connect c ws isLocal addr =>
    rw [step_connect_eq]
    split
    · exact ⟨[], Exec.nil _, rfl⟩
    · next h =>
      exact ⟨[([], _)], Exec.cons (Atom.connect s c ws isLocal addr (by simpa using h)) (Exec.nil _), rfl⟩
  | message c msg o =>
    rw [step_message_eq]
    split
    · exact ⟨[], Exec.nil _, rfl⟩
    · obtain ⟨tr, h1⟩ := cexec_message (x := mkCtx s o) inv c msg
      dsimp only
      split
      · exact ⟨tr, h1.of_mkCtx⟩
      · obtain ⟨o2, h2⟩ := cexec_close (h1.1.inv inv) c
        exact ⟨_, (h1.trans h2).of_mkCtx⟩
  | disconnect c o =>
    rw [step_disconnect_eq]
    split
    · exact ⟨[], Exec.nil _, rfl⟩
    · exact (cexec_close (x := mkCtx s o) inv c).elim fun _ h => ⟨_, h.of_mkCtx⟩
  | timerFire t o =>
    obtain ⟨_, ⟨new, hout, _⟩, _⟩ := timeoutFired_work (x := mkCtx s o) inv t
    exact ⟨_, (CExec.single hout (Atom.timer (mkCtx s o) t new hout)).of_mkCtx⟩

theorem run_exec : ∀ (ops : List Op) {s : State}, Inv cfg s →
    ∃ tr, Exec cfg s tr (run cfg s ops).1 ∧ obsOf tr = (run cfg s ops).2.flatten
  | [], s, _ => ⟨[], Exec.nil _, rfl⟩
  | op :: rest, s, inv => by
    obtain ⟨tr1, h1, o1⟩ := step_exec inv op
    obtain ⟨tr2, h2, o2⟩ := run_exec rest (h1.inv inv)
    rw [run_cons]
    exact ⟨tr1 ++ tr2, h1.append h2, by rw [obsOf_append, o1, o2]; rfl⟩

theorem inv_init (cfg : Config) (us : List User) : Inv cfg { users := us } := by
  refine ⟨⟨?_, ?_, ?_, ?_⟩, ⟨?_, ?_, ?_, ?_, ?_, ?_⟩, ?_⟩
  all_goals first
    | (intro p hp; cases hp)
    | (intro e he; simp [allElems] at he)
    | simp

/-! ## along an execution -/

theorem Exec.uidMono {cfg : Config} {s s' : State} {tr : List (List Obs × State)} (h : Exec cfg s tr s')
    (inv : Inv cfg s) : s.nextUid ≤ s'.nextUid := by
  induction h with
  | nil => exact Nat.le_refl _
  | cons ha _ ih =>
    have ok := atom_ok inv ha
    exact Nat.le_trans ok.uidMono (ih ok.inv)

/-- a fetch with an old uid that exists at the end existed all the time -/
theorem Exec.fetch_back {s s' : State} {tr : List (List Obs × State)} (h : Exec cfg s tr s')
    (inv : Inv cfg s) {c : Nat} {f : Fetch} (hl : HasFetch s' c f) (hu : f.uid < s.nextUid) : HasFetch s c f := by
  induction h with
  | nil => exact hl
  | cons ha _ ih =>
    have ok := atom_ok inv ha
    have h1 := ih ok.inv hl (Nat.lt_of_lt_of_le hu ok.uidMono)
    rcases ok.fresh c f h1 with h2 | ⟨h2, _⟩
    · exact h2
    · omega

theorem Alive.uidLt {s : State} (inv : Inv cfg s) {c pg : Nat} {f : Fetch}
    (h : Alive s c pg f) : f.uid < s.nextUid := by
  obtain ⟨p, hp, _, _, hf⟩ := h
  exact inv.fetches.uidLt p hp f hf

/-- the replica of a fetch that lives through an execution -/
theorem Exec.replica {cfg : Config} {s s' : State} {tr : List (List Obs × State)} (h : Exec cfg s tr s')
    (inv : Inv cfg s) {c pg : Nat} {f : Fetch} (ha : Alive s c pg f) (hl : HasFetch s' c f) :
    Alive s' c pg f ∧ RStep cfg s s' (notifs (obsOf tr)) c f.fid pg f.rule := by
  induction h with
  | nil => exact ⟨ha, RStep.refl _ _ _ _ _ _⟩
  | @cons s s1 s2 o tr hat hex ih =>
    have ok := atom_ok inv hat
    have hu := ha.uidLt inv
    have h1 : HasFetch s1 c f := hex.fetch_back ok.inv hl (Nat.lt_of_lt_of_le hu ok.uidMono)
    have ha1 : Alive s1 c pg f := ok.stable c pg f ha h1
    obtain ⟨ha2, r2⟩ := ih ok.inv ha1 hl
    refine ⟨ha2, ?_⟩
    rw [obsOf_cons, notifs_append]
    exact (ok.rstep c pg f ha ha1).trans r2

theorem pick_nil_of_origin {s s' : State} {ns : List (Nat × Notif)} {c : Nat} {fid : Json}
    (ho : ∀ cn ∈ ns, HasFid s cn.1 cn.2.fid ∨ HasFid s' cn.1 cn.2.fid)
    (h1 : ¬ HasFid s c fid) (h2 : ¬ HasFid s' c fid) : pick c fid ns = [] :=
  pick_eq_nil fun cn hcn hc => Bool.eq_false_iff.2 fun hi' => by
    have key : ∀ {t : State}, HasFid t cn.1 cn.2.fid → HasFid t c fid :=
      fun ⟨p, hp, hpc, g, hg, hi⟩ => ⟨p, hp, hpc.trans hc, g, hg, idsEqual_trans hi hi'⟩
    exact (ho cn hcn).elim (fun h => h1 (key h)) (fun h => h2 (key h))

/-- nothing is emitted for `(c, fid)` while `c` has no fetch with that id -/
theorem Exec.silent {s s' : State} {tr : List (List Obs × State)} (h : Exec cfg s tr s')
    (inv : Inv cfg s) {c : Nat} {fid : Json} (h0 : ¬ HasFid s c fid)
    (hall : ∀ t ∈ tr.map (·.2), ¬ HasFid t c fid) : notifsFor c fid (obsOf tr) = [] := by
  induction h with
  | nil => rfl
  | @cons s s1 s2 o tr hat _ ih =>
    have ok := atom_ok inv hat
    have h1 : ¬ HasFid s1 c fid := hall s1 List.mem_cons_self
    have hrest := ih ok.inv h1 fun t ht => hall t (List.mem_cons_of_mem _ ht)
    rw [obsOf_cons, notifsFor_append, hrest, List.append_nil]
    exact pick_nil_of_origin ok.origin h0 h1

/-! ## a message that is one JSON object -/

theorem Atom.of_request {s : State} (inv : Inv cfg s) (o : Oracle) (c : Nat) (req : Json) :
    ∃ obs, Atom cfg s obs (parseJsonRpc cfg (mkCtx s o) c req).1.st :=
  let ⟨_, ⟨new, hout, _⟩, _⟩ := parseJsonRpc_work (x := mkCtx s o) inv c req
  ⟨_, Atom.request (mkCtx s o) c req new hout⟩

/-- a `.message` carrying a single object is one request atom, followed by a close atom exactly
    when the connection is dropped -/
theorem step_single {s : State} (inv : Inv cfg s) (c : Nat) (l : List (Bytes × Json)) (o : Oracle)
    (hlive : (findPeer s.peers c).isSome = true) :
    ∃ o1 s1, Atom cfg s o1 s1 ∧
      ((step cfg s (.message c (some (.obj l)) o) = (s1, o1)) ∨
       (∃ o2, Atom cfg s1 o2 (step cfg s (.message c (some (.obj l)) o)).1 ∧
          (step cfg s (.message c (some (.obj l)) o)).2 = o1 ++ o2 ∧
          ∀ q ∈ (step cfg s (.message c (some (.obj l)) o)).1.peers, q.conn ≠ c)) := by
  obtain ⟨_, ⟨new, hout, _⟩, _⟩ := parseJsonRpc_work (x := mkCtx s o) inv c (.obj l)
  have hat := Atom.request (mkCtx s o) c (.obj l) new hout
  refine ⟨new.reverse, _, hat, ?_⟩
  rw [step_message_live cfg hlive, parseMessage_obj]
  dsimp only
  split
  · exact Or.inl (by rw [hout]; simp [mkCtx])
  · obtain ⟨_, ⟨new2, hout2, _⟩, _⟩ := closePeer_work (atom_ok inv hat).inv c
    exact Or.inr ⟨new2.reverse, Atom.close _ c new2 hout2, by rw [hout2, hout]; simp [mkCtx], closePeer_gone _ c⟩

/-! ## refused add -/

/-- the conclusion of `no_spurious_on_rollback` for a handler result -/
def Rollback (x : Ctx) (r : Ctx × Option Json) : Prop :=
  r.1.st = x.st ∧ ∃ ns, Emits x r.1 ns ∧
    ∀ c pg f, Alive x.st c pg f →
      (pick c f.fid ns = [] ∨
       ∃ path v, (∀ e' ∈ allElems x.st, e'.path ≠ path) ∧ pick c f.fid ns =
         [{ fid := f.fid, path := path, event := .add, value := v },
          { fid := f.fid, path := path, event := .remove, value := v }])

theorem Rollback.same (x : Ctx) (resp : Option Json) : Rollback x (x, resp) :=
  ⟨rfl, [], Emits.refl x, fun _ _ _ _ => Or.inl rfl⟩

theorem addCore_rollback {x : Ctx} (inv : Inv cfg x.st) (p : Peer) (req : Json) (e : Element)
    (hkeys : keys e.fetchers = []) (hfresh : lookupIndex x.st.index e.path = none)
    (hfull : x.indexFull = true) : Rollback x (addCore cfg x p req e) := by
  obtain ⟨h1, h2, h3, h4⟩ := findFetchersForElement_spec cfg x e
  rw [hkeys, List.append_nil] at h3
  rcases addCore_cases cfg x p req e with ⟨_, h⟩ | ⟨hf, _⟩
  · rw [h]
    have s2 := notifyFetchers_emits (findFetchersForElement cfg x e).1 (findFetchersForElement cfg x e).2 .remove
    rw [h1] at s2
    refine ⟨(notifyFetchers_st ..).trans h1, _, h4.trans s2, fun c pg f ha => ?_⟩
    rw [pick_addFail inv h3 ha]
    split
    · exact Or.inr ⟨_, _, no_elem_of_fresh inv (by rw [h2]; exact hfresh), rfl⟩
    · exact Or.inl rfl
  · rw [hfull] at hf; cases hf

theorem addElement_rollback {x : Ctx} (inv : Inv cfg x.st) (p : Peer) (req : Json)
    (hfull : x.indexFull = true) : Rollback x (addElement cfg x p req) := by
  rw [addElement_eq]
  cases h : addChecks cfg x.st p req with
  | error r => exact Rollback.same ..
  | ok e =>
    obtain ⟨_, _, hfresh, _, _, _, _, hf, _⟩ := addChecks_ok h
    exact addCore_rollback inv p req e (by rw [hf, keys_replicate_none]) hfresh hfull

/-! ## unfetch -/

/-- a successful unfetch: the fetch is gone, no fetch of the peer has that id any more, and the
    handler emits nothing -/
theorem unfetchReq_removes {x : Ctx} (inv : Inv cfg x.st) {p : Peer} (hp : p ∈ x.st.peers)
    (req : Json) {params fid : Json} (hid : getFetchId req false = .ok params fid)
    (hhas : HasFid x.st p.conn fid) :
    (unfetchReq x p req).2 = successFromRequest req ∧ (unfetchReq x p req).1.out = x.out ∧
    ¬ HasFid (unfetchReq x p req).1.st p.conn fid := by
  obtain ⟨p', hp', hc', g, hg, hi⟩ := hhas
  cases findPeer_unique inv.fetches.connNodup hp hp' hc'.symm
  unfold unfetchReq
  simp only [hid]
  cases hfind : p.fetches.find? (fun f => idsEqual f.fid fid) with
  | none => exact absurd hi (by simpa using List.find?_eq_none.1 hfind g hg)
  | some f =>
    have hfm : f ∈ p.fetches := List.mem_of_find?_eq_some hfind
    have hfi : idsEqual f.fid fid = true := by simpa using List.find?_some hfind
    refine ⟨rfl, rfl, ?_⟩
    -- a fetch that is left has another uid than `f`, yet an id equal to `f`'s
    rintro ⟨q', hq', hqc, g', hg', hi'⟩
    obtain ⟨⟨q, hq, hqc', _, hg''⟩, hne⟩ := (alive_dropFetch ⟨p.conn, f.uid⟩).1 ⟨q', hq', hqc, rfl, hg'⟩
    cases findPeer_unique inv.fetches.connNodup hp hq hqc'.symm
    cases fetch_unique (inv.fetches.fidDistinct p hp) hfm hg''
      (idsEqual_trans hi' ((idsEqual_symm fid f.fid).trans hfi))
    simp at hne

/-! ## what a subscriber received -/

/-- the observations without the sends to `c` that failed -/
def recvd (c : Nat) (obs : List Obs) : List Obs :=
  obs.filter (fun o => match o with | .send c' _ ok => c' != c || ok | _ => true)

theorem recvd_eq_of_healthy {c : Nat} {obs : List Obs}
    (h : ∀ j b, Obs.send c j b ∈ obs → b = true) : recvd c obs = obs := by
  unfold recvd
  rw [List.filter_eq_self]
  intro o ho
  cases o with
  | send c' j b =>
    by_cases hc : c' = c
    · subst hc
      simp [h j b ho]
    · simp [hc]
  | _ => rfl

end Cjet.Daemon.C01
