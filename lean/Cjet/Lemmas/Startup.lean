import Cjet.Startup
/-!
Helper lemmas for `Cjet.Props.Startup`: Hoare-style specifications of every model function in terms
of the ledger `K.led`, the descriptor counter `K.next` and `go_ahead`. A specification takes a state with `k.Is L n g` and
`Below L n`; its proof follows the function through its `if`s with `of_ite`, carrying the fact about the current state
along. Then, about traces: the violation counters of the ledger only grow, so what is zero at return was zero at every
prefix; a trace the ledger accepts closes every descriptor as often as it hands it out.
-/
namespace Cjet.Startup

/-- case split on the `if` at the head of the value the predicate is about; `split` searches the whole goal and is slow here -/
theorem of_ite {α : Type} {P : α → Prop} {c : Prop} [Decidable c] {a b : α} (ha : c → P a) (hb : ¬c → P b) :
    P (if c then a else b) := by
  split
  · exact ha ‹_›
  · exact hb ‹_›

theorem of_ite_false {α : Type} {P : α → Prop} {r : Bool} {a b : α} (ha : r = false → P a) (hb : r = true → P b) :
    P (if r = false then a else b) :=
  of_ite ha fun h => hb (Bool.of_not_eq_false h)

theorem ite_eq {α β : Type} (f : α → β) {c : Prop} [Decidable c] {a b : α} {x : β} (ha : f a = x) (hb : f b = x) :
    f (if c then a else b) = x :=
  of_ite (P := (f · = x)) (fun _ => ha) fun _ => hb

/-! ## how the state operations act on ledger, counter and `go_ahead` -/

@[simp] theorem emit_led (k : K) (e : Ev) : (k.emit e).led = step k.led e := by
  simp [K.led, K.emit, ledOf, List.foldl_append]
@[simp] theorem emit_next (k : K) (e : Ev) : (k.emit e).next = k.next := rfl
@[simp] theorem emit_goAhead (k : K) (e : Ev) : (k.emit e).goAhead = k.goAhead := rfl
@[simp] theorem emit_script (k : K) (e : Ev) : (k.emit e).script = k.script := rfl
@[simp] theorem adv_tr (k : K) : k.adv.tr = k.tr := rfl
@[simp] theorem adv_led (k : K) : k.adv.led = k.led := rfl
@[simp] theorem adv_next (k : K) : k.adv.next = k.next := rfl
@[simp] theorem adv_goAhead (k : K) : k.adv.goAhead = k.goAhead := rfl
@[simp] theorem bump_led (k : K) : k.bump.led = k.led := rfl
@[simp] theorem bump_next (k : K) : k.bump.next = k.next + 1 := rfl
@[simp] theorem bump_goAhead (k : K) : k.bump.goAhead = k.goAhead := rfl
@[simp] theorem sys_led (k : K) (mk : Bool → Ev) : (k.sys mk).2.led = step k.led (mk (k.sys mk).1) :=
  emit_led ..
theorem sys_tr (k : K) (mk : Bool → Ev) : (k.sys mk).2.tr = k.tr ++ [mk (k.sys mk).1] := rfl
@[simp] theorem sys_next (k : K) (mk : Bool → Ev) : (k.sys mk).2.next = k.next := rfl
@[simp] theorem sys_goAhead (k : K) (mk : Bool → Ev) : (k.sys mk).2.goAhead = k.goAhead := rfl

/-! ## descriptors the ledger knows -/

/-- every descriptor the ledger knows is below `n` -/
structure Below (L : Led) (n : Nat) : Prop where
  opn : ∀ fd ∈ L.opn, fd < n
  bnd : ∀ p ∈ L.bnd, p.1 < n
  lis : ∀ fd ∈ L.lis, fd < n
  reg : ∀ p ∈ L.reg, p.1 < n
  peers : ∀ p ∈ L.peers, p.1 < n

theorem Below.mono {L : Led} {n m : Nat} (h : Below L n) (hm : n ≤ m) : Below L m :=
  ⟨fun x hx => Nat.lt_of_lt_of_le (h.opn x hx) hm, fun x hx => Nat.lt_of_lt_of_le (h.bnd x hx) hm,
   fun x hx => Nat.lt_of_lt_of_le (h.lis x hx) hm, fun x hx => Nat.lt_of_lt_of_le (h.reg x hx) hm,
   fun x hx => Nat.lt_of_lt_of_le (h.peers x hx) hm⟩

/-- `fd` is not known to the listener part of the ledger -/
structure Fresh (L : Led) (fd : Nat) : Prop where
  opn : fd ∉ L.opn
  bnd : ∀ p ∈ L.bnd, p.1 ≠ fd
  lis : fd ∉ L.lis
  reg : ∀ p ∈ L.reg, p.1 ≠ fd

theorem Below.fresh {L : Led} {n fd : Nat} (h : Below L n) (hf : n ≤ fd) : Fresh L fd :=
  ⟨fun hm => by have := h.opn fd hm; omega, fun p hp => by have := h.bnd p hp; omega,
   fun hm => by have := h.lis fd hm; omega, fun p hp => by have := h.reg p hp; omega⟩

theorem filter_ne_self {l : List Nat} {fd : Nat} (h : fd ∉ l) : l.filter (fun x => x ≠ fd) = l :=
  List.filter_eq_self.2 fun _ hx => decide_eq_true fun e => h (e ▸ hx)

theorem filter_fst_ne_self {α : Type} {l : List (Nat × α)} {fd : Nat} (h : ∀ p ∈ l, p.1 ≠ fd) :
    l.filter (fun p => p.1 ≠ fd) = l :=
  List.filter_eq_self.2 fun x hx => decide_eq_true (h x hx)

theorem Below.f_reg {L : Led} {n fd : Nat} (h : Below L n) (hf : n ≤ fd) : L.reg.filter (fun p => p.1 ≠ fd) = L.reg :=
  filter_fst_ne_self (h.fresh hf).reg

theorem Fresh.not_reg {L : Led} {fd : Nat} (h : Fresh L fd) : fd ∉ L.reg.map (·.1) := fun hm => by
  obtain ⟨p, hp, e⟩ := List.mem_map.1 hm
  exact h.reg p hp e

/-! ## a descriptor on its way to becoming a listener -/

/-- descriptor `fd` was handed out and is open, bound to `b` (if to anything), listening iff `s` -/
def Led.own (L : Led) (fd : Nat) (b : Option Target) (s : Bool) : Led :=
  { L with opn := fd :: L.opn, bnd := (b.map (fd, ·)).toList ++ L.bnd, lis := (if s then [fd] else []) ++ L.lis }

/-- a listener that is up: descriptor open, bound to `t`, listening -/
def Led.withSock (L : Led) (fd : Nat) (t : Target) : Led :=
  { L with opn := fd :: L.opn, bnd := (fd, t) :: L.bnd, lis := fd :: L.lis }

theorem withSock_eq_own (L : Led) (fd : Nat) (t : Target) : L.withSock fd t = L.own fd (some t) true := rfl

theorem own_socket {L : Led} {fd : Nat} (f : Fam) (h : fd ∉ L.opn) :
    step L (.socket f (some fd)) = L.own fd none false := if_neg h
theorem own_use (L : Led) (fd b s) : (L.own fd b s).use fd = L.own fd b s := if_pos List.mem_cons_self
theorem own_bind (L : Led) (fd s t ok) :
    step (L.own fd none s) (.bind fd t ok) = L.own fd (if ok then some t else none) s := by
  cases ok <;> exact if_pos List.mem_cons_self
theorem own_listen (L : Led) (fd b ok) : step (L.own fd b false) (.listen fd ok) = L.own fd b ok := by
  cases ok <;> exact if_pos List.mem_cons_self

theorem own_close {L : Led} {fd : Nat} (h : Fresh L fd) (b s) : step (L.own fd b s) (.close fd) = L := by
  have e1 : ((b.map (fd, ·)).toList ++ L.bnd).filter (fun p => p.1 ≠ fd) = L.bnd := by
    rw [List.filter_append, filter_fst_ne_self h.bnd]; cases b <;> simp
  have e2 : ((if s then [fd] else []) ++ L.lis).filter (fun x => x ≠ fd) = L.lis := by
    rw [List.filter_append, filter_ne_self h.lis]; cases s <;> simp
  have e3 : (fd :: L.opn).filter (fun x => x ≠ fd) = L.opn := by
    rw [List.filter_cons_of_neg (by simp), filter_ne_self h.opn]
  show (if fd ∈ fd :: L.opn then _ else _ : Led) = L
  rw [if_pos List.mem_cons_self]
  simp only [Led.own, e1, e2, e3, h.not_reg, ite_false]

/-! ## what the specifications observe of a state -/

structure K.Is (k : K) (L : Led) (n : Nat) (g : Bool) : Prop where
  led : k.led = L
  next : n ≤ k.next
  goAhead : k.goAhead = g

namespace K.Is
variable {k : K} {L : Led} {n : Nat} {g : Bool}

theorem emit (h : k.Is L n g) (e : Ev) : (k.emit e).Is (step L e) n g :=
  ⟨h.led ▸ emit_led k e, h.next, h.goAhead⟩
theorem sys (h : k.Is L n g) (mk : Bool → Ev) : (k.sys mk).2.Is (step L (mk (k.sys mk).1)) n g :=
  ⟨h.led ▸ sys_led k mk, h.next, h.goAhead⟩
theorem sys_eq (h : k.Is L n g) {mk : Bool → Ev} {b : Bool} (hb : (k.sys mk).1 = b) : (k.sys mk).2.Is (step L (mk b)) n g :=
  hb ▸ h.sys mk
theorem adv (h : k.Is L n g) : k.adv.Is L n g := ⟨h.led, h.next, h.goAhead⟩
theorem mono (h : k.Is L n g) {m : Nat} (hm : m ≤ n) : k.Is L m g := ⟨h.led, Nat.le_trans hm h.next, h.goAhead⟩
theorem led_eq {L' : Led} (h : k.Is L n g) (e : L = L') : k.Is L' n g := e ▸ h

end K.Is

theorem K.Is.of_led {k : K} {L : Led} (h : k.led = L) : k.Is L k.next k.goAhead := ⟨h, Nat.le_refl _, rfl⟩

variable {k : K} {L : Led} {n : Nat} {g : Bool}

namespace K.Is
variable {fd : Nat} {b : Option Target} {s : Bool}

theorem sockopt (h : k.Is (L.own fd b s) n g) (o : Opt) : (k.sys (.sockopt fd o)).2.Is (L.own fd b s) n g :=
  (h.sys _).led_eq (own_use ..)
theorem fcntl (h : k.Is (L.own fd b s) n g) (c : Fc) : (k.sys (.fcntl fd c)).2.Is (L.own fd b s) n g :=
  (h.sys _).led_eq (own_use ..)
theorem nonBlocking (h : k.Is (L.own fd b s) n g) : (setNonBlocking fd k).2.Is (L.own fd b s) n g :=
  of_ite (P := fun r : Bool × K => r.2.Is (L.own fd b s) n g) (fun _ => (h.fcntl _).fcntl _) fun _ => h.fcntl _
theorem bind (h : k.Is (L.own fd none s) n g) (t : Target) :
    (k.sys (.bind fd t)).2.Is (L.own fd (if (k.sys (.bind fd t)).1 then some t else none) s) n g :=
  (h.sys _).led_eq (own_bind ..)
theorem listen (h : k.Is (L.own fd b false) n g) : (k.sys (.listen fd)).2.Is (L.own fd b (k.sys (.listen fd)).1) n g :=
  (h.sys _).led_eq (own_listen ..)
/-- closing the descriptor that was handed out last brings back the state before `socket` -/
theorem close (h : k.Is (L.own fd b s) (fd + 1) g) (hB : Below L n) (hn : n ≤ fd) : (k.emit (.close fd)).Is L n g :=
  ((h.emit _).led_eq (own_close (hB.fresh hn) b s)).mono (Nat.le_succ_of_le hn)

end K.Is

theorem openSocket_spec (f : Fam) (hk : k.Is L n g) (hB : Below L n) :
    match (openSocket f k).1 with
    | none => (openSocket f k).2.Is L n g
    | some fd => n ≤ fd ∧ (openSocket f k).2.Is (L.own fd none false) (fd + 1) g := by
  unfold openSocket
  by_cases ha : k.ans = .ok
  · rw [if_pos ha]
    exact ⟨hk.next, by rw [emit_led, bump_led, adv_led, hk.led, own_socket f (hB.fresh hk.next).opn], Nat.le_refl _,
      hk.goAhead⟩
  · rw [if_neg ha]
    exact hk.adv.emit _

def Created (L : Led) (n : Nat) (g : Bool) (t : Target) (r : Option Nat × K) : Prop :=
  match r.1 with
  | none => r.2.Is L n g
  | some fd => n ≤ fd ∧ r.2.Is (L.withSock fd t) (fd + 1) g

theorem createPlain_spec (f : Fam) (t : Target) (hk : k.Is L n g)
    (hB : Below L n) : Created L n g t (createPlain f t k) := by
  unfold createPlain
  have h1 := openSocket_spec f hk hB
  generalize openSocket f k = r at h1 ⊢
  obtain ⟨_ | fd, k1⟩ := r
  · exact h1
  · have close : ∀ {k' : K} {b s}, k'.Is (L.own fd b s) (fd + 1) g → Created L n g t (none, k'.emit (.close fd)) :=
      fun h => h.close hB h1.1
    have h2 := h1.2.sockopt .reuse
    refine of_ite (fun _ => close h2) fun _ => ?_
    have h3 := h2.nonBlocking
    refine of_ite (fun _ => close h3) fun _ => ?_
    have h4 := h3.bind t
    refine of_ite_false (fun _ => close h4) fun b4 => ?_
    have h5 := h4.listen
    refine of_ite_false (fun _ => close h5) fun b5 => ?_
    rw [b4, b5] at h5
    exact ⟨h1.1, h5⟩

/-! ## create_server_socket_bound -/

def Led.aiUp (L : Led) : Led := { L with ai := L.ai + 1 }

theorem Below.aiUp {L : Led} {n : Nat} (h : Below L n) : Below L.aiUp n := ⟨h.opn, h.bnd, h.lis, h.reg, h.peers⟩

theorem aiUp_own_freeai (L : Led) (fd b s) : step (L.aiUp.own fd b s) .freeai = L.own fd b s := by
  unfold step
  exact if_neg (Nat.succ_ne_zero L.ai)

def Bound (L : Led) (n : Nat) (g : Bool) (t : Target) (r : Option Nat × Bool × K) : Prop :=
  if r.2.1 then ∃ fd, r.1 = some fd ∧ n ≤ fd ∧ r.2.2.Is (L.own fd (some t) false) (fd + 1) g else r.2.2.Is L n g

theorem boundLoop_spec (v6 : Bool) (p : Port) (hB : Below L n) :
    ∀ (cnt : Nat) (last : Option Nat) {k : K}, k.Is L n g →
      Bound L n g (if v6 then .lo6 p else .lo4 p) (boundLoop v6 p cnt last k) := by
  intro cnt
  induction cnt with
  | zero => intro last k hk; exact hk
  | succ cnt ih =>
    intro last k hk
    unfold boundLoop
    have h1 := openSocket_spec (if v6 then .inet6 else .inet) hk hB
    generalize openSocket _ k = r at h1 ⊢
    obtain ⟨_ | fd, k1⟩ := r
    · exact ih _ h1
    · -- a failed step closes the socket and goes on with the next address
      have again : ∀ {k' : K} {b s}, k'.Is (L.own fd b s) (fd + 1) g →
          Bound L n g (if v6 then .lo6 p else .lo4 p) (boundLoop v6 p cnt (some fd) (k'.emit (.close fd))) :=
        fun h => ih _ (h.close hB h1.1)
      have h2 := h1.2.sockopt .reuse
      refine of_ite (fun _ => again h2) fun _ => ?_
      have h6 := of_ite (P := fun r : Bool × K => r.2.Is (L.own fd none false) (fd + 1) g) (c := v6 = true) (b := (true, _))
        (fun _ => h2.sockopt .v6only) fun _ => h2
      refine of_ite (fun _ => again h6) fun _ => ?_
      have h3 := h6.nonBlocking
      refine of_ite (fun _ => again h3) fun _ => ?_
      have h4 := h3.bind (if v6 then .lo6 p else .lo4 p)
      refine of_ite (fun b4 => ?_) fun _ => again h4
      rw [b4] at h4
      exact ⟨fd, rfl, h1.1, h4⟩

theorem createBound_spec (nd : Node) (p : Port) (hk : k.Is L n g)
    (hB : Below L n) :
    Created L n g (if decide (nd = .lo6) then .lo6 p else .lo4 p) (createBound nd p k) := by
  unfold createBound
  cases gaiEntries k.ans with
  | none => exact hk.adv.emit _
  | some cnt =>
    dsimp only
    have hb := boundLoop_spec (decide (nd = .lo6)) p hB.aiUp cnt none (hk.adv.emit (.gai nd p (some cnt)))
    generalize boundLoop _ p cnt none _ = r at hb ⊢
    obtain ⟨last, brk, k1⟩ := r
    cases brk
    · have : (k1.emit .freeai).Is L n g := (K.Is.emit hb .freeai)
      cases last <;> exact this
    · obtain ⟨fd, rfl, hn, ho⟩ := hb
      have h2 := ((ho.emit .freeai).led_eq (aiUp_own_freeai ..)).listen
      refine of_ite_false (fun _ => h2.close hB hn) fun b => ?_
      rw [b] at h2
      exact ⟨hn, h2⟩


/-! ## start_server and the first accept pass -/

def Led.setPeers (L : Led) (P : List (Nat × Kind)) : Led := { L with peers := P }

theorem Below.setPeers {L : Led} {n : Nat} (h : Below L n) {P : List (Nat × Kind)} (hP : ∀ p ∈ P, p.1 < n) :
    Below (L.setPeers P) n := ⟨h.opn, h.bnd, h.lis, h.reg, hP⟩

theorem ledOf_snoc (tr : List Ev) (e : Ev) : ledOf (tr ++ [e]) = step (ledOf tr) e := by
  simp [ledOf, List.foldl_append]

theorem step_accept {L : Led} {fd : Nat} (h : fd ∈ L.opn) (r : Acc) : step L (.accept fd r) = L := if_pos h

theorem step_peer {L : Led} {n : Nat} (h : Below L n) (kind : Kind) :
    step L (.peer n kind) = L.setPeers ((n, kind) :: L.peers) := by
  refine if_neg fun hm => ?_
  rcases hm with hm | hm
  · exact Nat.lt_irrefl _ (h.opn n hm)
  · obtain ⟨p, hp, e⟩ := List.mem_map.1 hm
    exact Nat.lt_irrefl _ (e ▸ h.peers p hp)

/-- `r.2.2.1`: the descriptor counter, `r.2.2.2`: the trace; of the ledger only the peers have changed -/
def Accepted (L : Led) (nx : Nat) (r : Bool × List Ans × Nat × List Ev) : Prop :=
  ∃ P, ledOf r.2.2.2 = L.setPeers P ∧ nx ≤ r.2.2.1 ∧ ∀ p ∈ P, p.1 < r.2.2.1

theorem acceptLoop_spec (fd : Nat) (kind : Kind) :
    ∀ (script : List Ans) (nx : Nat) (tr : List Ev), fd ∈ (ledOf tr).opn → Below (ledOf tr) nx →
      Accepted (ledOf tr) nx (acceptLoop fd kind script nx tr) := by
  -- the pass ends with this call of accept
  have stop : ∀ {nx tr} r b rest, fd ∈ (ledOf tr).opn → Below (ledOf tr) nx →
      Accepted (ledOf tr) nx (b, rest, nx, tr ++ [.accept fd r]) :=
    fun r _ _ hfd hB => ⟨_, (ledOf_snoc ..).trans (step_accept hfd r), Nat.le_refl _, hB.peers⟩
  intro script
  induction script with
  | nil => exact fun _ _ => stop _ _ _
  | cons a rest ih =>
    intro nx tr hfd hB
    cases a <;> rw [acceptLoop]
    case ok | fail | addrs => exact stop _ _ _ hfd hB
    case retry =>
      have e : ledOf (tr ++ [.accept fd .retry]) = ledOf tr := by rw [ledOf_snoc, step_accept hfd]
      exact e ▸ ih nx _ (e ▸ hfd) (e ▸ hB)
    case conn =>
      have e : ledOf (tr ++ [.accept fd (.conn nx), .peer nx kind]) = (ledOf tr).setPeers ((nx, kind) :: (ledOf tr).peers) := by
        rw [List.append_cons, ledOf_snoc, ledOf_snoc, step_accept hfd, step_peer hB]
      have hB' := (hB.mono (Nat.le_succ nx)).setPeers (P := (nx, kind) :: (ledOf tr).peers)
        (List.forall_mem_cons.2 ⟨Nat.lt_succ_self nx, fun p hp => Nat.lt_succ_of_lt (hB.peers p hp)⟩)
      obtain ⟨P, h1, h2, h3⟩ := ih (nx + 1) _ (e ▸ hfd) (e ▸ hB')
      exact ⟨P, by rw [h1, e]; rfl, Nat.le_of_succ_le h2, h3⟩

def Led.addPeers (L : Led) (ps : List (Nat × Kind)) : Led := { L with peers := ps ++ L.peers }

@[simp] theorem addPeers_nil (L : Led) : L.addPeers [] = L := rfl

def PeersAdded (L : Led) (n0 n1 : Nat) (L' : Led) : Prop :=
  ∃ ps : List (Nat × Kind), L' = L.addPeers ps ∧ ∀ p ∈ ps, n0 ≤ p.1 ∧ p.1 < n1

theorem PeersAdded.below {L L' : Led} {n0 n1 : Nat} (h : PeersAdded L n0 n1 L') (hB : Below L n0) (hn : n0 ≤ n1) :
    Below L' n1 := by
  obtain ⟨ps, rfl, hp⟩ := h
  exact (hB.mono hn).setPeers fun p hp' => (List.mem_append.1 hp').elim (fun h => (hp p h).2) ((hB.mono hn).peers p)

/-- the state after something that may have accepted connections: the ledger is `L` but for its peers -/
def K.IsMod (k : K) (L : Led) (n : Nat) (g : Bool) : Prop :=
  ∃ P n', n ≤ n' ∧ k.Is (L.setPeers P) n' g ∧ ∀ p ∈ P, p.1 < n'

theorem K.Is.isMod (h : k.Is L n g) (hB : Below L n) : k.IsMod L n g :=
  ⟨L.peers, n, Nat.le_refl _, h, hB.peers⟩

theorem acceptPass_spec (fd : Nat) (kind : Kind) (hk : k.Is L n g)
    (hB : Below L n) (hfd : fd ∈ L.opn) : (acceptPass fd kind k).2.IsMod L n g := by
  have hl : ledOf k.tr = L := hk.led
  obtain ⟨P, h1, h2, h3⟩ := acceptLoop_spec fd kind k.script k.next k.tr (hl ▸ hfd) (hl ▸ hB.mono hk.next)
  exact ⟨P, _, Nat.le_trans hk.next h2, ⟨hl ▸ h1, Nat.le_refl _, hk.goAhead⟩, h3⟩

def Led.withReg (L : Led) (fd : Nat) (kind : Kind) : Led := { L with reg := (fd, kind) :: L.reg }

theorem Below.withReg {L : Led} {n fd : Nat} (h : Below L n) (hfd : fd < n) (kind : Kind) : Below (L.withReg fd kind) n :=
  ⟨h.opn, h.bnd, h.lis, List.forall_mem_cons.2 ⟨hfd, h.reg⟩, h.peers⟩

theorem step_add {L : Led} {fd : Nat} (hfd : fd ∈ L.opn) (hreg : fd ∉ L.reg.map (·.1)) (hup : L.loopUp = true)
    (kind : Kind) (b : Bool) : step L (.add fd kind b) = if b then L.withReg fd kind else L :=
  if_pos ⟨hfd, hreg, hup⟩

theorem step_remove {L : Led} {fd : Nat} (hreg : fd ∉ L.reg.map (·.1)) (kind : Kind) :
    step (L.withReg fd kind) (.remove fd) = L := by
  have f : ((fd, kind) :: L.reg).filter (fun p => p.1 ≠ fd) = L.reg := by
    rw [List.filter_cons_of_neg (by simp), filter_fst_ne_self fun p hp e => hreg (List.mem_map.2 ⟨p, hp, e⟩)]
  show (if fd ∈ ((fd, kind) :: L.reg).map (·.1) then _ else _ : Led) = L
  rw [if_pos (List.mem_map.2 ⟨_, List.mem_cons_self, rfl⟩)]
  simp only [Led.withReg, f]

def Started (L : Led) (n : Nat) (g : Bool) (fd : Nat) (kind : Kind) (r : Bool × K) : Prop :=
  r.2.IsMod (if r.1 then L.withReg fd kind else L) n g

theorem startServer_spec (fd : Nat) (kind : Kind) (hk : k.Is L n g)
    (hB : Below L n) (hfd : fd ∈ L.opn) (hreg : fd ∉ L.reg.map (·.1)) (hup : L.loopUp = true) :
    Started L n g fd kind (startServer fd kind k) := by
  unfold startServer
  refine of_ite_false (fun b => ((hk.sys_eq b).led_eq (step_add hfd hreg hup kind false)).isMod hB) fun b => ?_
  · have h1 := (hk.sys_eq b).led_eq (step_add hfd hreg hup kind true)
    have h2 := acceptPass_spec fd kind h1 (hB.withReg (hB.opn fd hfd) kind) hfd
    refine of_ite (fun _ => h2) fun _ => ?_
    obtain ⟨P, n', hn, h2, hP⟩ := h2
    exact ⟨P, n', hn, (step_remove (L := L.setPeers P) hreg kind) ▸ h2.emit (.remove fd), hP⟩

/-! ## one listener -/

theorem create_spec (l : LSpec) (hk : k.Is L n g) (hB : Below L n) :
    Created L n g l.target (l.create k) := by
  cases l with
  | bound nd p kind => cases nd <;> exact createBound_spec _ p hk hB
  | all p kind => exact createPlain_spec .inet6 (.any p) hk hB
  | uds => exact createPlain_spec .unix .udsAbstract hk hB

/-- listener `l` is up on descriptor `fd` -/
def Led.up (L : Led) (l : LSpec) (fd : Nat) : Led := (L.withSock fd l.target).withReg fd l.kind

theorem Below.withSock {L : Led} {n fd : Nat} (h : Below L n) (hfd : fd < n) (t : Target) : Below (L.withSock fd t) n :=
  ⟨List.forall_mem_cons.2 ⟨hfd, h.opn⟩, List.forall_mem_cons.2 ⟨hfd, h.bnd⟩, List.forall_mem_cons.2 ⟨hfd, h.lis⟩, h.reg, h.peers⟩

theorem Below.up {L : Led} {n fd : Nat} (h : Below L n) (hfd : fd < n) (l : LSpec) : Below (L.up l fd) n :=
  (h.withSock hfd l.target).withReg hfd l.kind

def Listening (L : Led) (n : Nat) (g : Bool) (l : LSpec) (r : Option Nat × K) : Prop :=
  match r.1 with
  | none => r.2.IsMod L n g
  | some fd => n ≤ fd ∧ r.2.IsMod (L.up l fd) (fd + 1) g

theorem startListener_spec (l : LSpec) (hk : k.Is L n g) (hB : Below L n)
    (hup : L.loopUp = true) : Listening L n g l (startListener l k) := by
  unfold startListener
  have hc := create_spec l hk hB
  generalize l.create k = r at hc ⊢
  obtain ⟨_ | fd, k1⟩ := r
  · exact hc.isMod hB
  · obtain ⟨hn, hc⟩ := hc
    have hF := hB.fresh hn
    have hs := startServer_spec fd l.kind hc ((hB.mono (Nat.le_succ_of_le hn)).withSock (Nat.lt_succ_self _) _)
      List.mem_cons_self hF.not_reg hup
    refine of_ite (fun b => ⟨hn, ?_⟩) fun b => ?_
    · rwa [Started, b] at hs
    · rw [Bool.not_eq_true] at b
      rw [Started, b] at hs
      obtain ⟨P, n', hn', hs, hP⟩ := hs
      refine ⟨P, n', by omega, ?_, hP⟩
      exact own_close (L := L.setPeers P) ⟨hF.opn, hF.bnd, hF.lis, hF.reg⟩ (some l.target) true ▸ hs.emit (.close fd)


/-! ## all listeners: start in order, stop in reverse order -/

/-- the listeners of `acc` (newest first) are up -/
def Led.ups (L : Led) : List (LSpec × Nat) → Led
  | [] => L
  | (l, fd) :: rest => (L.ups rest).up l fd

def Led.unl (L : Led) (n : Nat) : Led := { L with unlinks := L.unlinks + n }

theorem ups_eq (L : Led) : ∀ acc, L.ups acc =
    { L with opn := acc.map (·.2) ++ L.opn, bnd := acc.map (fun x => (x.2, x.1.target)) ++ L.bnd,
             lis := acc.map (·.2) ++ L.lis, reg := acc.map (fun x => (x.2, x.1.kind)) ++ L.reg }
  | [] => rfl
  | (l, fd) :: rest => by rw [Led.ups, ups_eq L rest]; rfl

theorem ups_addPeers (L : Led) (ps) : ∀ acc, (L.addPeers ps).ups acc = (L.ups acc).addPeers ps :=
  fun acc => by rw [ups_eq, ups_eq]; rfl

theorem ups_setPeers (L : Led) (P) (acc) : (L.setPeers P).ups acc = (L.ups acc).setPeers P := by
  rw [ups_eq, ups_eq]; rfl

theorem ups_unl (L : Led) (n) (acc) : (L.unl n).ups acc = (L.ups acc).unl n := by
  rw [ups_eq, ups_eq]; rfl

def AccFresh (L : Led) (acc : List (LSpec × Nat)) : Prop := (acc.map (·.2)).Nodup ∧ ∀ x ∈ acc, Fresh L x.2

theorem AccFresh.fresh_ups {L : Led} {l : LSpec} {fd : Nat} {rest : List (LSpec × Nat)}
    (h : AccFresh L ((l, fd) :: rest)) : Fresh (L.ups rest) fd := by
  have hn := (List.nodup_cons.1 h.1).1
  have hn' : ∀ x ∈ rest, x.2 ≠ fd := fun x hx e => hn (List.mem_map.2 ⟨x, hx, e⟩)
  have hF := h.2 _ List.mem_cons_self
  rw [ups_eq]
  refine ⟨fun hm => (List.mem_append.1 hm).elim hn hF.opn, fun p hp => ?_,
    fun hm => (List.mem_append.1 hm).elim hn hF.lis, fun p hp => ?_⟩ <;>
  rcases List.mem_append.1 hp with hp | hp
  · obtain ⟨x, hx, rfl⟩ := List.mem_map.1 hp; exact hn' x hx
  · exact hF.bnd p hp
  · obtain ⟨x, hx, rfl⟩ := List.mem_map.1 hp; exact hn' x hx
  · exact hF.reg p hp

theorem stopListener_spec (l : LSpec) (fd : Nat) (hk : k.Is (L.up l fd) n g)
    (hF : Fresh L fd) : (stopListener l fd k).Is (L.unl (if l = .uds then 1 else 0)) n g := by
  have h := (hk.emit (.remove fd)).emit (.close fd)
  rw [Led.up, step_remove (L := L.withSock fd l.target) hF.not_reg, withSock_eq_own, own_close hF] at h
  unfold stopListener
  split
  · exact h.emit .unlinkUds
  · exact h

def udsIn (ls : List LSpec) : Nat := ls.count .uds

theorem stopAll_spec : ∀ (acc : List (LSpec × Nat)) {k : K} {L : Led} {n : Nat} {g : Bool}, AccFresh L acc →
    k.Is (L.ups acc) n g → (stopAll acc k).Is (L.unl (udsIn (acc.map (·.1)))) n g
  | [], _, _, _, _, _, hk => hk
  | (l, fd) :: rest, k, L, n, g, hA, hk => by
    have h1 := stopListener_spec l fd hk hA.fresh_ups
    rw [← ups_unl] at h1
    have hA' : AccFresh (L.unl (if l = .uds then 1 else 0)) rest :=
      ⟨(List.nodup_cons.1 hA.1).2, fun x hx => let h := hA.2 x (List.mem_cons_of_mem _ hx); ⟨h.opn, h.bnd, h.lis, h.reg⟩⟩
    have h2 := stopAll_spec rest hA' h1
    have e : (L.unl (if l = .uds then 1 else 0)).unl (udsIn (rest.map (·.1))) = L.unl (udsIn (((l, fd) :: rest).map (·.1))) := by
      simp only [Led.unl, udsIn, List.map_cons, List.count_cons, beq_iff_eq, Nat.add_assoc, Nat.add_comm]
    exact e ▸ h2


/-- the start phase, begun with the listeners of `acc` up on top of `L0`, has started the first `m` of `ls` -/
def StartedAll (L0 : Led) (g : Bool) (ls : List LSpec) (acc : List (LSpec × Nat))
    (r : List (LSpec × Nat) × Bool × K) : Prop :=
  AccFresh L0 r.1 ∧ (∃ P n, r.2.2.Is ((L0.setPeers P).ups r.1) n g) ∧
  ∃ m, m ≤ ls.length ∧ r.1.map (·.1) = (ls.take m).reverse ++ acc.map (·.1) ∧ (r.2.1 = true ↔ m = ls.length)

theorem startAll_spec {L0 : Led} {n0 : Nat} {g : Bool} (hB0 : Below L0 n0) (hup : L0.loopUp = true) :
    ∀ (ls : List LSpec) {k : K} {acc : List (LSpec × Nat)} {n : Nat} {P : List (Nat × Kind)}, n0 ≤ n →
      k.Is ((L0.setPeers P).ups acc) n g → Below ((L0.setPeers P).ups acc) n → AccFresh L0 acc →
      StartedAll L0 g ls acc (startAll ls k acc)
  | [], k, acc, n, P, _, hk, _, hA => ⟨hA, ⟨P, n, hk⟩, 0, Nat.le_refl _, rfl, ⟨fun _ => rfl, fun _ => rfl⟩⟩
  | l :: ls, k, acc, n, P, hn, hk, hB, hA => by
    unfold startAll
    have hs := startListener_spec l hk hB ((congrArg Led.loopUp (ups_eq _ acc)).trans hup)
    generalize startListener l k = r at hs ⊢
    obtain ⟨_ | fd, k1⟩ := r
    · obtain ⟨P', n', -, hs, -⟩ := hs
      exact ⟨hA, ⟨P', n', hs.led_eq (ups_setPeers (L0.setPeers P) P' acc).symm⟩, 0, Nat.zero_le _, rfl, by simp⟩
    · obtain ⟨hfd, P', n', hn', hs, hP⟩ := hs
      have e := (ups_setPeers (L0.setPeers P) P' ((l, fd) :: acc)).symm
      have hA' : AccFresh L0 ((l, fd) :: acc) := by
        refine ⟨List.nodup_cons.2 ⟨fun hm => ?_, hA.1⟩, fun x hx => ?_⟩
        · have := hB.opn fd (by rw [ups_eq]; exact List.mem_append_left _ hm)
          omega
        · rcases List.mem_cons.1 hx with rfl | hx
          · exact hB0.fresh (Nat.le_trans hn hfd)
          · exact hA.2 x hx
      obtain ⟨i1, i2, m, i3, i4, i5⟩ := startAll_spec hB0 hup ls (Nat.le_trans hn (by omega)) (hs.led_eq e)
        (e ▸ (((hB.mono (by omega)).up hn' l).setPeers hP)) hA'
      exact ⟨i1, i2, m + 1, Nat.succ_le_succ i3, by rw [i4]; simp, by rw [i5]; simp⟩

theorem startPhase_spec (ls : List LSpec) (hk : k.Is L n g) (hB : Below L n) (hup : L.loopUp = true) :
    StartedAll L g ls [] (startPhase ls k) :=
  startAll_spec hB hup ls (P := L.peers) (Nat.le_refl _) hk hB ⟨List.nodup_nil, List.forall_mem_nil _⟩


/-! ## run_jet, the two run_io_* functions -/

theorem filter_kinds (P : List (Nat × Kind)) :
    (P.filter (fun p => p.2 ≠ .jet)).filter (fun p => p.2 ≠ .http) = [] := by
  rw [List.filter_filter, List.filter_eq_nil_iff]
  intro p _
  cases p.2 <;> simp

theorem dropPrivileges_spec (hk : k.Is L n g) : (dropPrivileges k).2.Is L n g :=
  of_ite (P := fun r : Bool × K => r.2.Is L n g) (fun _ => hk.sys _) fun _ =>
    of_ite (P := fun r : Bool × K => r.2.Is L n g) (fun _ => (hk.sys _).sys _) fun _ => ((hk.sys _).sys _).sys _

def Ran (L : Led) (n : Nat) (g : Bool) (r : JetEnd × K) : Prop :=
  r.2.Is (match r.1 with | .ran _ => L.setPeers [] | _ => L) n g

theorem runJet_spec (c : Cfg) (hk : k.Is L n g) : Ran L n g (runJet c k) := by
  unfold runJet
  have hp := of_ite (P := fun r : Bool × K => r.2.Is L n g) (c := c.user = true) (b := (true, _))
    (fun _ => dropPrivileges_spec hk) fun _ => hk
  refine of_ite (fun _ => hp) fun _ => ?_
  have hd := of_ite (P := fun r : Bool × K => r.2.Is L n g) (c := c.foreground = true) (a := (true, _))
    (fun _ => hp) fun _ => hp.sys .daemon
  refine of_ite (fun _ => hd) fun _ => ?_
  exact (((hd.sys .run).emit .destroyPeers).emit .destroyConns).led_eq (congrArg L.setPeers (filter_kinds L.peers))

/-- every listener is released again, the unix socket path was unlinked iff that listener had been started, and when the
    loop has run no peer is left -/
def Served (L : Led) (g : Bool) (ls : List LSpec) (r : StackEnd × K) : Prop :=
  ∃ P n, r.2.Is ((L.unl (udsIn (match r.1 with | .startFailed m => ls.take m | .jet _ => ls))).setPeers P) n g ∧
    match r.1 with
    | .startFailed m => m < ls.length
    | .jet (.ran _) => P = []
    | .jet _ => True

theorem runServers_spec (c : Cfg) (ls : List LSpec) (hk : k.Is L n g)
    (hB : Below L n) (hup : L.loopUp = true) : Served L g ls (runServers c ls k) := by
  unfold runServers
  have hs := startPhase_spec ls hk hB hup
  generalize startPhase ls k = r at hs ⊢
  obtain ⟨acc, ok, k1⟩ := r
  unfold StartedAll at hs
  dsimp only at hs ⊢
  obtain ⟨hA, ⟨P, n1, h1⟩, m, hm, hacc, hiff⟩ := hs
  rw [List.map_nil, List.append_nil] at hacc
  have hcnt : udsIn (acc.map (·.1)) = udsIn (ls.take m) := by rw [hacc, udsIn, List.count_reverse]; rfl
  have stop : ∀ {k' : K} {P}, k'.Is ((L.setPeers P).ups acc) n1 g →
      (stopAll acc k').Is ((L.unl (udsIn (ls.take m))).setPeers P) n1 g := fun {_ P} h =>
    hcnt ▸ stopAll_spec (L := L.setPeers P) acc ⟨hA.1, fun x hx => let h := hA.2 x hx; ⟨h.opn, h.bnd, h.lis, h.reg⟩⟩ h
  cases ok
  · have hlen : acc.length = m := by
      have := congrArg List.length hacc
      rw [List.length_map, List.length_reverse, List.length_take] at this
      omega
    have hm' : m < ls.length := Nat.lt_of_le_of_ne hm fun e => Bool.false_ne_true (hiff.2 e)
    show Served L g ls (.startFailed acc.length, stopAll acc k1)
    rw [hlen]
    exact ⟨P, n1, stop h1, hm'⟩
  · rw [hiff.1 rfl, List.take_length] at stop
    have hj := runJet_spec c h1
    generalize runJet c k1 = rj at hj ⊢
    obtain ⟨e, k2⟩ := rj
    cases e with
    | ran b => exact ⟨[], n1, stop (hj.led_eq (ups_setPeers (L.setPeers P) [] acc).symm), rfl⟩
    | privFailed => exact ⟨P, n1, stop hj, trivial⟩
    | daemonFailed => exact ⟨P, n1, stop hj, trivial⟩


/-! ## run_io -/

/-- register_signal_handler: all three dispositions are set, or — failure — they are as before, but for the one path where
    the code does not restore them -/
def Registered (restore : Bool) (L : Led) (n : Nat) (g : Bool) (r : Bool × K) : Prop :=
  if r.1 then r.2.Is { L with term := .handler, int := .handler, pipe := .ign } n g
  else r.2.Is L n g ∨
    (restore = false ∧ r.2.Is { L with term := .handler, int := .handler } n g ∧ Ev.signal .pipe .ign false ∈ r.2.tr)

theorem registerSignals_spec (restore : Bool) (hk : k.Is L n g)
    (ht : L.term = .dfl) (hi : L.int = .dfl) : Registered restore L n g (registerSignals restore k) := by
  unfold registerSignals
  refine of_ite_false (fun b => .inl (hk.sys_eq b)) fun b1 => ?_
  have h1 := hk.sys_eq b1
  refine of_ite_false (fun b => .inl (((h1.sys_eq b).emit (.signal .term .dfl true)).led_eq (by cases L; cases ht; rfl)))
    fun b2 => ?_
  have h2 := h1.sys_eq b2
  refine of_ite_false (fun b => ?_) fun b3 => h2.sys_eq b3
  have h3 := h2.sys_eq b
  cases restore
  · exact .inr ⟨rfl, h3, by
      show _ ∈ (K.sys _ (.signal .pipe .ign)).2.tr
      rw [sys_tr, b]; exact List.mem_append_right _ (List.mem_singleton.2 rfl)⟩
  · exact .inl (((h3.emit (.signal .int .dfl true)).emit (.signal .term .dfl true)).led_eq
      (by cases L; cases ht; cases hi; rfl))


/-- the ledger at return of run_io: only the SIGPIPE disposition, leaked peers and the unlink count differ
    from the initial one -/
def finalLed (ps : List (Nat × Kind)) (u : Nat) : Led := { pipe := .ign, peers := ps, unlinks := u }

/-- the ledger when signal handlers are installed and the loop is up -/
def bootLed : Led := { term := .handler, int := .handler, pipe := .ign, loopUp := true }

theorem below_bootLed (n : Nat) : Below bootLed n :=
  ⟨List.forall_mem_nil _, List.forall_mem_nil _, List.forall_mem_nil _, List.forall_mem_nil _, List.forall_mem_nil _⟩

theorem finish_spec (c : Cfg) {P : List (Nat × Kind)} {u : Nat}
    (hk : k.Is { bootLed with peers := P, unlinks := u } n g) :
    (finish c k).Is (finalLed (if c.code.destroyAtEnd then [] else P) u) n g := by
  unfold finish unregisterSignals
  cases c.code.destroyAtEnd
  · exact ((hk.emit .destroy).emit _).emit _
  · exact (((((hk.emit .destroyPeers).emit .destroyConns).emit .destroy).emit _).emit _).led_eq
      (congrArg (finalLed · u) (filter_kinds P))

/-- how often run_io has unlinked the path of the unix socket: once iff every listener had been started, the unix listener
    being the last (`listeners_eq`) -/
def IoEnd.unlinks : IoEnd → Nat
  | .servers (.jet _) => 1
  | _ => 0

/-- what run_io leaves behind: `go_ahead` is cleared iff the loop could not be initialised; the ledger is `finalLed`, with
    peers only if the loop has not run (and the code does not destroy them at the end), or signal registration failed -/
def Ended (c : Cfg) (g : Bool) (r : IoEnd × K) : Prop :=
  r.2.goAhead = (if r.1 = .initFailed then false else g) ∧
  ((∃ ps, r.2.led = finalLed ps r.1.unlinks ∧ (c.code.destroyAtEnd = true → ps = []) ∧
      ∀ b, r.1 = .servers (.jet (.ran b)) → ps = []) ∨
   (r.1 = .signalFailed ∧ (r.2.led = {} ∨
      (c.code.restoreOnPipeFail = false ∧ r.2.led = { term := .handler, int := .handler } ∧
        Ev.signal .pipe .ign false ∈ r.2.tr))))

theorem listeners_eq (c : Cfg) : ∃ front, listeners c = front ++ [.uds] ∧ .uds ∉ front := by
  unfold listeners
  cases c.localOnly
  · exact ⟨listenersAll.dropLast, rfl, by decide⟩
  · exact ⟨listenersLocal.dropLast, rfl, by decide⟩

theorem udsIn_listeners (c : Cfg) : udsIn (listeners c) = 1 := by
  obtain ⟨front, e, h⟩ := listeners_eq c
  rw [e, udsIn, List.count_append, List.count_eq_zero.2 h]; rfl

theorem udsIn_take (c : Cfg) (m : Nat) (h : m < (listeners c).length) : udsIn ((listeners c).take m) = 0 := by
  obtain ⟨front, e, hf⟩ := listeners_eq c
  rw [e, List.length_append] at h
  rw [e, List.take_append_of_le_length (Nat.le_of_lt_succ h)]
  exact List.count_eq_zero.2 fun hm => hf (List.mem_of_mem_take hm)

theorem runIo_spec (c : Cfg) (k : K) (hl : k.led = {}) : Ended c k.goAhead (runIo c k) := by
  unfold runIo
  have hs := registerSignals_spec c.code.restoreOnPipeFail (.of_led hl) rfl rfl
  generalize registerSignals _ k = r at hs ⊢
  obtain ⟨_ | _, ks⟩ := r
  · exact ⟨hs.elim (·.goAhead) (·.2.1.goAhead),
      .inr ⟨rfl, hs.elim (fun h => .inl h.led) fun h => .inr ⟨h.1, h.2.1.led, h.2.2⟩⟩⟩
  · refine of_ite_false (fun h => nomatch h) fun _ => ?_
    refine of_ite_false (fun b => ⟨rfl, .inl ⟨[], ?_, fun _ => rfl, fun _ _ => rfl⟩⟩) fun b => ?_
    · exact (((hs.sys_eq b).emit (.signal .int .dfl true)).emit (.signal .term .dfl true)).led
    · have hr := runServers_spec c (listeners c) ((hs.sys_eq b).led_eq (rfl : _ = bootLed)) (below_bootLed _) rfl
      generalize runServers c (listeners c) _ = rr at hr ⊢
      obtain ⟨e, kr⟩ := rr
      obtain ⟨P, n', hr, he⟩ := hr
      have hf := finish_spec c (hr.led_eq (congrArg (fun x => ({ bootLed with peers := P, unlinks := x } : Led)) (Nat.zero_add _)))
      refine ⟨hf.goAhead, .inl ⟨if c.code.destroyAtEnd then [] else P, hf.led.trans ?_, fun h => if_pos h, fun b hb => ?_⟩⟩
      · cases e with
        | startFailed m => exact congrArg _ (udsIn_take c m he)
        | jet j => exact congrArg _ (udsIn_listeners c)
      · cases hb; rw [show P = [] from he]; exact ite_self _


/-! ## the violation counters never decrease; descriptors opened = descriptors closed -/

def CntLe (L L' : Led) : Prop :=
  L.dbl ≤ L'.dbl ∧ L.early ≤ L'.early ∧ L.misuse ≤ L'.misuse ∧ L.regbad ≤ L'.regbad

theorem CntLe.refl (L : Led) : CntLe L L := ⟨Nat.le_refl _, Nat.le_refl _, Nat.le_refl _, Nat.le_refl _⟩

theorem CntLe.trans {A B C : Led} (h1 : CntLe A B) (h2 : CntLe B C) : CntLe A C :=
  ⟨Nat.le_trans h1.1 h2.1, Nat.le_trans h1.2.1 h2.2.1, Nat.le_trans h1.2.2.1 h2.2.2.1, Nat.le_trans h1.2.2.2 h2.2.2.2⟩

theorem step_socket_of_open {L : Led} {fd : Nat} (f : Fam) (h : fd ∈ L.opn) :
    step L (.socket f (some fd)) = { L with misuse := L.misuse + 1 } := if_pos h

theorem step_close_of_closed {L : Led} {fd : Nat} (h : fd ∉ L.opn) : step L (.close fd) = { L with dbl := L.dbl + 1 } :=
  if_neg h

theorem step_close_of_registered {L : Led} {fd : Nat} (ho : fd ∈ L.opn) (hr : fd ∈ L.reg.map (·.1)) :
    (step L (.close fd)).early = L.early + 1 := by
  show (if _ then _ else _ : Led).early = _
  rw [if_pos ho]
  exact if_pos hr

theorem step_mono (L : Led) (e : Ev) : CntLe L (step L e) := by
  have keep := CntLe.refl L
  have mis : CntLe L { L with misuse := L.misuse + 1 } := ⟨Nat.le_refl _, Nat.le_refl _, Nat.le_succ _, Nat.le_refl _⟩
  have bad : CntLe L { L with regbad := L.regbad + 1 } := ⟨Nat.le_refl _, Nat.le_refl _, Nat.le_refl _, Nat.le_succ _⟩
  cases e with
  | signal s d ok => cases ok <;> cases s <;> exact keep
  | init | unlinkUds | getpwnam | setgid | setuid | daemon | run | destroyPeers | destroyConns => exact keep
  | gai => exact of_ite (fun _ => keep) fun _ => keep
  | freeai | peer => exact of_ite (fun _ => mis) fun _ => keep
  | socket f o => cases o; exact keep; exact of_ite (fun _ => mis) fun _ => keep
  | sockopt | fcntl | accept => exact of_ite (fun _ => keep) fun _ => mis
  | bind | listen => exact of_ite (fun _ => of_ite (fun _ => keep) fun _ => keep) fun _ => mis
  | add => exact of_ite (fun _ => of_ite (fun _ => keep) fun _ => keep) fun _ => bad
  | remove | destroy => exact of_ite (fun _ => keep) fun _ => bad
  | close fd =>
    exact of_ite (fun _ => ⟨Nat.le_refl _, by dsimp only; split <;> omega, Nat.le_refl _, Nat.le_refl _⟩)
      fun _ => ⟨Nat.le_succ _, Nat.le_refl _, Nat.le_refl _, Nat.le_refl _⟩

theorem foldl_mono (tr : List Ev) : ∀ (L : Led), CntLe L (tr.foldl step L) := by
  induction tr with
  | nil => exact CntLe.refl
  | cons e tr ih => exact fun L => (step_mono L e).trans (ih _)

/-- violation counters of a prefix are bounded by those of the whole trace -/
theorem prefix_counters (pre post : List Ev) : CntLe (ledOf pre) (ledOf (pre ++ post)) := by
  rw [ledOf, ledOf, List.foldl_append]; exact foldl_mono post _

theorem step_opn (L : Led) (e : Ev) : (step L e).opn = match e with
    | .socket _ (some fd) => if fd ∈ L.opn then L.opn else fd :: L.opn
    | .close fd => L.opn.filter (fun x => x ≠ fd)
    | _ => L.opn := by
  cases e with
  | signal s d ok => cases ok <;> cases s <;> rfl
  | init | unlinkUds | getpwnam | setgid | setuid | daemon | run | destroyPeers | destroyConns => rfl
  | socket f o => cases o; rfl; exact apply_ite Led.opn ..
  | gai | freeai | destroy | sockopt | fcntl | accept | remove | peer => exact ite_eq _ rfl rfl
  | bind | listen | add => exact ite_eq _ (ite_eq _ rfl rfl) rfl
  | close fd =>
    exact of_ite (P := fun L' : Led => L'.opn = L.opn.filter fun x => x ≠ fd) (fun _ => rfl) fun h => (filter_ne_self h).symm


def opens (fd : Nat) (tr : List Ev) : Nat := (tr.filter (fun e => match e with | .socket _ (some x) => x = fd | _ => false)).length
def closes (fd : Nat) (tr : List Ev) : Nat := (tr.filter (fun e => e = .close fd)).length

def ind (fd : Nat) (l : List Nat) : Nat := if fd ∈ l then 1 else 0

theorem length_filter_singleton {α : Type} (p : α → Bool) (a : α) : ([a].filter p).length = if p a then 1 else 0 := by
  cases h : p a <;> simp [List.filter, h]

/-- one step that the ledger accepts: `fd` is counted as opened or closed exactly when it enters or leaves `opn` -/
theorem counts_step (fd : Nat) (L : Led) (e : Ev) (hd : (step L e).dbl = L.dbl) (hm : (step L e).misuse = L.misuse) :
    opens fd [e] + ind fd L.opn = closes fd [e] + ind fd (step L e).opn := by
  rw [step_opn]
  split
  · rename_i f x
    -- the number is new, or `misuse` would have gone up
    have hx : x ∉ L.opn := fun hx => by
      rw [step_socket_of_open f hx] at hm; exact absurd hm (Nat.succ_ne_self _)
    rw [if_neg hx]
    by_cases hfd : x = fd
    · subst hfd; simp [opens, closes, ind, hx]
    · simp [opens, closes, ind, hfd, Ne.symm hfd]
  · rename_i x
    -- the descriptor is open, or `dbl` would have gone up
    have hx : x ∈ L.opn := Classical.byContradiction fun hx => by
      rw [step_close_of_closed hx] at hd; exact absurd hd (Nat.succ_ne_self _)
    by_cases hfd : x = fd
    · subst hfd; simp [opens, closes, ind, hx]
    · simp [opens, closes, ind, hfd, Ne.symm hfd, List.mem_filter]
  · rename_i hs hc
    have ho : opens fd [e] = 0 := by
      rw [opens, length_filter_singleton]
      exact if_neg fun h => by split at h; exact hs _ _ rfl; cases h
    have hc : closes fd [e] = 0 := by
      rw [closes, length_filter_singleton]
      exact if_neg fun h => hc fd (of_decide_eq_true h)
    rw [ho, hc]

theorem counts_foldl (fd : Nat) (tr : List Ev) : ∀ (L : Led), (tr.foldl step L).dbl = L.dbl →
    (tr.foldl step L).misuse = L.misuse →
    opens fd tr + ind fd L.opn = closes fd tr + ind fd (tr.foldl step L).opn := by
  induction tr with
  | nil => intro L _ _; rfl
  | cons e tr ih =>
    intro L hd hm
    have m1 := step_mono L e
    have m2 := foldl_mono tr (step L e)
    rw [List.foldl_cons] at hd hm
    have hd1 : (step L e).dbl = L.dbl := Nat.le_antisymm (hd ▸ m2.1) m1.1
    have hm1 : (step L e).misuse = L.misuse := Nat.le_antisymm (hm ▸ m2.2.2.1) m1.2.2.1
    have c1 := counts_step fd L e hd1 hm1
    have i1 := ih (step L e) (hd.trans hd1.symm) (hm.trans hm1.symm)
    have o : opens fd (e :: tr) = opens fd [e] + opens fd tr := by
      rw [opens, ← List.singleton_append, List.filter_append, List.length_append]; rfl
    have c : closes fd (e :: tr) = closes fd [e] + closes fd tr := by
      rw [closes, ← List.singleton_append, List.filter_append, List.length_append]; rfl
    rw [List.foldl_cons]
    omega

/-- for a trace the ledger accepts (no double close, no misuse) that leaves nothing open:
    every descriptor number is closed exactly as often as it was handed out -/
theorem opens_eq_closes (tr : List Ev) (hd : (ledOf tr).dbl = 0) (hm : (ledOf tr).misuse = 0)
    (ho : (ledOf tr).opn = []) (fd : Nat) : opens fd tr = closes fd tr := by
  have := counts_foldl fd tr {} hd hm
  rwa [show (tr.foldl step {}).opn = [] from ho] at this

/-! ## run_io through its boot phase -/

theorem bootPhase_spec (c : Cfg) (k : K) (hl : k.led = {}) (r : List (LSpec × Nat) × Bool × K) :
    bootPhase c k = some r → StartedAll bootLed k.goAhead (listeners c) [] r := by
  unfold bootPhase
  have hs := registerSignals_spec c.code.restoreOnPipeFail (.of_led hl) rfl rfl
  generalize registerSignals _ k = rs at hs ⊢
  obtain ⟨_ | _, ks⟩ := rs
  · exact nofun
  · refine of_ite_false (P := fun o => o = some r → _) (fun h => nomatch h) fun _ => ?_
    refine of_ite_false (P := fun o => o = some r → _) (fun _ => nofun) fun b h => ?_
    cases h
    exact startPhase_spec (listeners c) (hs.sys_eq b) (below_bootLed _) rfl

theorem runIo_boot (c : Cfg) (k : K) :
    match bootPhase c k with
    | none => (runIo c k).1 = .signalFailed ∨ (runIo c k).1 = .initFailed
    | some (acc, okk, k1) => runIo c k =
        if okk then (.servers (.jet (runJet c k1).1), finish c (stopAll acc (runJet c k1).2))
        else (.servers (.startFailed acc.length), finish c (stopAll acc k1)) := by
  unfold bootPhase runIo runServers
  dsimp only
  by_cases h1 : (registerSignals c.code.restoreOnPipeFail k).1 = false
  · rw [if_pos h1, if_pos h1]; exact .inl rfl
  · rw [if_neg h1, if_neg h1]
    by_cases h2 : ((registerSignals c.code.restoreOnPipeFail k).2.sys .init).1 = false
    · rw [if_pos h2, if_pos h2]; exact .inr rfl
    · rw [if_neg h2, if_neg h2]
      dsimp only
      split <;> rfl


theorem IoEnd.ret_eq_zero (e : IoEnd) : e.ret = 0 ↔ e = .servers (.jet (.ran true)) := by
  rcases e with _ | _ | (_ | (_ | _ | (_ | _))) <;> simp [IoEnd.ret, StackEnd.ret, JetEnd.ret]

theorem IoEnd.ret_of_ne_zero (e : IoEnd) : e.ret ≠ 0 → e.ret = -1 := by
  rcases e with _ | _ | (_ | (_ | _ | (_ | _))) <;> simp [IoEnd.ret, StackEnd.ret, JetEnd.ret]

theorem runIo_ran (c : Cfg) (k : K) (b : Bool) (h : (runIo c k).1 = .servers (.jet (.ran b))) :
    ∃ acc k1, bootPhase c k = some (acc, true, k1) ∧ (runJet c k1).1 = .ran b ∧
      runIo c k = (.servers (.jet (.ran b)), finish c (stopAll acc (runJet c k1).2)) := by
  have hb := runIo_boot c k
  cases hboot : bootPhase c k with
  | none => rw [hboot] at hb; rcases hb with h' | h' <;> rw [h'] at h <;> cases h
  | some r =>
    obtain ⟨acc, okk, k1⟩ := r
    rw [hboot] at hb
    dsimp only at hb
    rw [hb] at h ⊢
    cases okk
    · cases h
    · have hj : (runJet c k1).1 = .ran b := by injection h with h; injection h
      exact ⟨acc, k1, rfl, hj, by rw [if_pos rfl, hj]⟩

/-! ## the trace after the loop has run -/

def Ext (P : Ev → Prop) (k k' : K) : Prop := ∃ seg, k'.tr = k.tr ++ seg ∧ ∀ e ∈ seg, P e

namespace Ext
variable {P : Ev → Prop} {a b c : K}

theorem refl (k : K) : Ext P k k := ⟨[], (List.append_nil _).symm, List.forall_mem_nil _⟩
theorem trans (h1 : Ext P a b) (h2 : Ext P b c) : Ext P a c := by
  obtain ⟨s1, t1, q1⟩ := h1
  obtain ⟨s2, t2, q2⟩ := h2
  exact ⟨s1 ++ s2, by rw [t2, t1, List.append_assoc], fun e he => (List.mem_append.1 he).elim (q1 e) (q2 e)⟩
theorem emit (h : Ext P a b) {e : Ev} (he : P e) : Ext P a (b.emit e) :=
  h.trans ⟨[e], rfl, fun _ h' => List.mem_singleton.1 h' ▸ he⟩
theorem sys (h : Ext P a b) {mk : Bool → Ev} (he : P (mk (b.sys mk).1)) : Ext P a (b.sys mk).2 :=
  h.trans ⟨[_], rfl, fun _ h' => List.mem_singleton.1 h' ▸ he⟩
theorem sys_ok (h : Ext P a b) {mk : Bool → Ev} (hb : (b.sys mk).1 = true) (he : P (mk true)) : Ext P a (b.sys mk).2 :=
  h.sys (hb ▸ he)
theorem mono {Q : Ev → Prop} (h : Ext P a b) (hPQ : ∀ e, P e → Q e) : Ext Q a b :=
  let ⟨s, t, q⟩ := h; ⟨s, t, fun e he => hPQ e (q e he)⟩

end Ext

def OkExt (P : Ev → Prop) (k : K) (r : Bool × K) : Prop := r.1 = true → Ext P k r.2

/-- what the fall-through chain of stop calls does, newest listener first -/
def stopEvents : List (LSpec × Nat) → List Ev
  | [] => []
  | (l, fd) :: rest => [.remove fd, .close fd] ++ (if l = .uds then [.unlinkUds] else []) ++ stopEvents rest

theorem stopAll_tr : ∀ (acc : List (LSpec × Nat)) (k : K), (stopAll acc k).tr = k.tr ++ stopEvents acc
  | [], k => (List.append_nil _).symm
  | (l, fd) :: rest, k => by
    rw [stopAll, stopAll_tr rest, stopEvents]
    unfold stopListener
    split <;> simp [K.emit, *]

/-- the successful calls of drop_privileges and daemon() -/
def PrivEv (e : Ev) : Prop := e = .getpwnam true ∨ e = .setgid true ∨ e = .setuid true ∨ e = .daemon true

theorem dropPrivileges_tr (k : K) : OkExt PrivEv k (dropPrivileges k) :=
  of_ite_false (fun _ => nofun) fun b1 =>
    of_ite_false (fun _ => nofun) fun b2 b3 =>
      (((Ext.refl k).sys_ok b1 (.inl rfl)).sys_ok b2 (.inr (.inl rfl))).sys_ok b3 (.inr (.inr (.inl rfl)))

/-- when the loop has run, the trace of run_jet is successful calls, the loop, then destroy_all_peers and
    destroy_all_http_connections -/
def JetRan (k : K) (b : Bool) (r : JetEnd × K) : Prop :=
  r.1 = .ran b → ∃ k', Ext PrivEv k k' ∧ r.2.tr = k'.tr ++ [.run b, .destroyPeers, .destroyConns]

theorem runJet_tr (c : Cfg) (k : K) (b : Bool) : JetRan k b (runJet c k) := by
  unfold runJet
  have hp := of_ite (P := OkExt PrivEv k) (c := c.user = true) (b := (true, k))
    (fun _ => dropPrivileges_tr k) fun _ _ => .refl k
  refine of_ite_false (fun _ => nofun) fun bp => ?_
  have hd := of_ite (P := OkExt PrivEv k) (c := c.foreground = true)
    (a := (true, _)) (fun _ _ => hp bp) fun _ h => (hp bp).sys_ok h (.inr (.inr (.inr rfl)))
  refine of_ite_false (fun _ => nofun) fun bd h => ?_
  cases h
  exact ⟨_, hd bd, by show ((_ ++ _) ++ _) ++ _ = _; rw [List.append_assoc, List.append_assoc]; rfl⟩

/-! ## no `peer` event, no peer -/

theorem step_peers_nil (L : Led) (e : Ev) (hp : L.peers = []) (he : ∀ p k, e ≠ .peer p k) :
    (step L e).peers = [] := by
  cases e with
  | peer p k => exact absurd rfl (he p k)
  | destroyPeers | destroyConns => show List.filter _ L.peers = []; rw [hp]; rfl
  | signal s d ok => cases ok <;> cases s <;> exact hp
  | init | unlinkUds | getpwnam | setgid | setuid | daemon | run => exact hp
  | socket f o => cases o; exact hp; exact ite_eq _ hp hp
  | gai | freeai | destroy | sockopt | fcntl | accept | remove | close => exact ite_eq _ hp hp
  | bind | listen | add => exact ite_eq _ (ite_eq _ hp hp) hp

theorem foldl_peers_nil (tr : List Ev) : ∀ (L : Led), L.peers = [] → (∀ e ∈ tr, ∀ p k, e ≠ .peer p k) →
    (tr.foldl step L).peers = [] := by
  induction tr with
  | nil => intro L h _; exact h
  | cons e tr ih =>
    intro L h he
    exact ih _ (step_peers_nil L e h (he e List.mem_cons_self)) fun e' h' => he e' (List.mem_cons_of_mem _ h')

theorem peers_nil_of_noPeerAccepted (tr : List Ev) (h : noPeerAccepted tr = true) : (ledOf tr).peers = [] := by
  refine foldl_peers_nil tr {} rfl fun e he p k hek => ?_
  subst hek
  exact Bool.false_ne_true (List.all_eq_true.1 h _ he)

/-! ## predicates used by the property statements -/

/-- signal dispositions at return: restored, or — the one path where the code does not restore them —
    `signal(SIGPIPE, SIG_IGN)` failed after both handlers were installed (linux_io.c:547-550) -/
def SignalsAsCoded (restore : Bool) (e : IoEnd) (tr : List Ev) (L : Led) : Prop :=
  (L.term = .dfl ∧ L.int = .dfl) ∨
  (restore = false ∧ e = .signalFailed ∧ Ev.signal .pipe .ign false ∈ tr ∧ L.term = .handler ∧ L.int = .handler)

/-- everything that belongs to listeners is released and the monitor saw no violation -/
def ListenersReleased (L : Led) : Prop :=
  L.opn = [] ∧ L.bnd = [] ∧ L.lis = [] ∧ L.reg = [] ∧ L.ai = 0 ∧ L.loopUp = false ∧
  L.dbl = 0 ∧ L.early = 0 ∧ L.misuse = 0 ∧ L.regbad = 0

theorem listenersReleased (t i p : Disp) (ps : List (Nat × Kind)) (u : Nat) :
    ListenersReleased { term := t, int := i, pipe := p, peers := ps, unlinks := u } :=
  ⟨rfl, rfl, rfl, rfl, rfl, rfl, rfl, rfl, rfl, rfl⟩

end Cjet.Startup
