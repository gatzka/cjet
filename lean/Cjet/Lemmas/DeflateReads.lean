import Cjet.Deflate
/-!
Lemmas for C19 (c): the indices `fill_requested_extension` reads (`fillReads`) all lie below `length`
(repair of F38).  The work is the invariant of the splitting loop: a parameter with counted length `l ≥ 2`
that starts at `p` satisfies `p + l ≤ length` (the counted length only counts characters of the element),
and the parameter loop reads below `p + l` only.
-/
namespace Cjet.Deflate
open Cjet.Generated.Deflate

theorem getD_set_eq (l : List Nat) {n : Nat} (a : Nat) (h : n < l.length) : (l.set n a).getD n 0 = a := by
  simp [List.getD_eq_getElem?_getD, h]

theorem getD_set_ne (l : List Nat) {n m : Nat} (a : Nat) (h : n ≠ m) : (l.set n a).getD m 0 = l.getD m 0 := by
  simp [List.getD_eq_getElem?_getD, List.getElem?_set_ne h]

variable {buf : Bytes} {length i : Nat} {sp : Split}

/-! ### blank skipping -/

theorem skipSpaces_ge (fuel i : Nat) : i ≤ skipSpaces buf length fuel i := by
  induction fuel generalizing i with
  | zero => simp [skipSpaces]
  | succ n ih =>
    simp only [skipSpaces]
    split
    · have := ih (i + 1); omega
    · exact Nat.le_refl _

theorem skipSpaces_le (fuel : Nat) {i : Nat} (h : i ≤ length) :
    skipSpaces buf length fuel i ≤ length := by
  induction fuel generalizing i with
  | zero => simpa [skipSpaces] using h
  | succ n ih =>
    simp only [skipSpaces]
    split
    · rename_i hc
      have : i < length := by
        simp only [Bool.and_eq_true, decide_eq_true_eq] at hc
        exact hc.1
      exact ih (Nat.succ_le_of_lt this)
    · exact h

/-! ### lists of indices below a bound -/

def Below (n : Nat) (l : List Nat) : Prop := ∀ k ∈ l, k < n

theorem Below.nil {n : Nat} : Below n [] := nofun

theorem Below.cons {n a : Nat} {l : List Nat} (h : a < n) (hl : Below n l) : Below n (a :: l) :=
  List.forall_mem_cons.2 ⟨h, hl⟩

theorem Below.append {n : Nat} {l₁ l₂ : List Nat} (h₁ : Below n l₁) (h₂ : Below n l₂) : Below n (l₁ ++ l₂) :=
  List.forall_mem_append.2 ⟨h₁, h₂⟩

theorem Below.ite {n : Nat} {c : Prop} [Decidable c] {a b : List Nat} (ha : c → Below n a) (hb : ¬c → Below n b) :
    Below n (if c then a else b) := by
  split
  · exact ha ‹_›
  · exact hb ‹_›

theorem Below.mono {m n : Nat} {l : List Nat} (h : Below m l) (hmn : m ≤ n) : Below n l :=
  fun k hk => Nat.lt_of_lt_of_le (h k hk) hmn

theorem skipReads_lt (fuel i : Nat) : Below length (skipReads buf length fuel i) := by
  induction fuel generalizing i with
  | zero => exact .nil
  | succ n ih =>
    rw [skipReads]
    exact .ite (fun hi => .cons hi (.ite (fun _ => ih _) fun _ => .nil)) fun _ => .nil

theorem splitReads_lt (fuel i cnt : Nat) : Below length (splitReads buf length fuel i cnt) := by
  induction fuel generalizing i cnt with
  | zero => exact .nil
  | succ n ih =>
    rw [splitReads]
    exact .ite (fun hi => .ite (fun _ => .ite (fun _ => .cons hi .nil)
      fun _ => .cons hi (.append (skipReads_lt _ _) (ih _ _))) fun _ => .cons hi (ih _ _)) fun _ => .nil

/-! ### the splitting loop -/

/-- invariant of the `for (i = 0; i < length; i++)` loop at index `i` -/
structure SInv (length i : Nat) (sp : Split) : Prop where
  cnt : sp.count < maxParams
  sl : sp.starts.length = maxParams
  ll : sp.lens.length = maxParams
  s0 : sp.starts.getD 0 0 = 0
  /-- slots not yet started still hold their initial length -/
  fut : ∀ k, sp.count < k → sp.lens.getD k 0 ≤ 1
  /-- finished parameters lie inside the element -/
  fin : ∀ k, k < sp.count → sp.starts.getD k 0 + sp.lens.getD k 0 ≤ length
  /-- the parameter being counted has not counted more than was scanned -/
  cur : sp.starts.getD sp.count 0 + sp.lens.getD sp.count 0 ≤ i
  curb : i ≤ length ∨ sp.lens.getD sp.count 0 ≤ 1

theorem sinv_init (length : Nat) : SInv length 0 Split.init := by
  refine ⟨by decide, by decide, by decide, by decide, ?_, ?_, by decide, Or.inl (Nat.zero_le _)⟩
  · intro k hk
    simp only [Split.init, paramLenInit]
    match k, hk with
    | 1, _ => decide
    | 2, _ => decide
    | 3, _ => decide
    | 4, _ => decide
    | k + 5, _ => simp [List.getD_eq_getElem?_getD]
  · intro k hk
    simp [Split.init] at hk

/-- what the parameter loop and the name check rely on -/
structure SOut (length : Nat) (sp : Split) : Prop where
  s0 : sp.starts.getD 0 0 = 0
  inside : ∀ k, k ≤ sp.count → 2 ≤ sp.lens.getD k 0 → sp.starts.getD k 0 + sp.lens.getD k 0 ≤ length

theorem SInv.out (hI : SInv length i sp) : SOut length sp := by
  refine ⟨hI.s0, fun k hk h2 => ?_⟩
  rcases Nat.lt_or_ge k sp.count with hlt | hge
  · exact hI.fin k hlt
  · obtain rfl : k = sp.count := Nat.le_antisymm hk hge
    have := hI.cur
    rcases hI.curb with hb | hb <;> omega

theorem SInv.skip (hI : SInv length i sp) (hi : i < length) : SInv length (i + 1) sp :=
  { hI with cur := Nat.le_succ_of_le hI.cur, curb := .inl hi }

theorem SInv.count (hI : SInv length i sp) (hi : i < length) :
    SInv length (i + 1) { sp with lens := bump sp.lens sp.count } where
  cnt := hI.cnt
  sl := hI.sl
  ll := (List.length_set ..).trans hI.ll
  s0 := hI.s0
  fut k hk := by simpa only [bump, getD_set_ne _ _ (Nat.ne_of_lt hk)] using hI.fut k hk
  fin k hk := by simpa only [bump, getD_set_ne _ _ (Nat.ne_of_gt hk)] using hI.fin k hk
  cur := by
    simp only [bump, getD_set_eq _ _ (hI.ll ▸ hI.cnt)]
    exact Nat.add_le_add_right hI.cur 1
  curb := .inl hi

/-- a `;`: the parameter is finished (inside the element); the next one starts at `j` with the initial length of its
    slot, which only the characters from `j + 1` on are added to -/
theorem SInv.next (hI : SInv length i sp) (hi : i < length)
    (hcnt : sp.count + 1 < maxParams) (j : Nat) :
    SInv length (j + 1) { sp with count := sp.count + 1, starts := sp.starts.set (sp.count + 1) j } where
  cnt := hcnt
  sl := (List.length_set ..).trans hI.sl
  ll := hI.ll
  s0 := by simpa only [getD_set_ne _ _ (Nat.succ_ne_zero _)] using hI.s0
  fut k hk := hI.fut k (Nat.lt_of_succ_lt hk)
  fin k hk := by
    simp only [getD_set_ne _ _ (Nat.ne_of_gt hk)]
    rcases Nat.lt_or_ge k sp.count with hlt | hge
    · exact hI.fin k hlt
    · obtain rfl : k = sp.count := Nat.le_antisymm (Nat.le_of_lt_succ hk) hge
      exact Nat.le_trans hI.cur (Nat.le_of_lt hi)
  cur := by
    simp only [getD_set_eq _ _ (hI.sl ▸ hcnt)]
    exact Nat.add_le_add_left (hI.fut _ (Nat.lt_succ_self _)) j
  curb := .inr (hI.fut _ (Nat.lt_succ_self _))

theorem splitLoop_out {fuel : Nat} {sp' : Split} (hI : SInv length i sp)
    (h : splitLoop buf length fuel i sp = some sp') : SOut length sp' := by
  induction fuel generalizing i sp with
  | zero => cases h; exact hI.out
  | succ n ih =>
    rw [splitLoop] at h
    by_cases hi : i < length
    · rw [if_pos hi] at h
      dsimp only at h
      by_cases hsc : (rd buf i == chSemicolon) = true
      · have hne : (rd buf i != chSemicolon) = false := by rw [bne, hsc]; rfl
        rw [hne, Bool.and_false, if_neg Bool.false_ne_true, if_pos hsc] at h
        by_cases hmax : (sp.count + 1 == maxParams) = true
        · rw [if_pos hmax] at h; cases h
        · rw [if_neg hmax] at h
          have hcnt : sp.count + 1 < maxParams :=
            Nat.lt_of_le_of_ne hI.cnt fun h => hmax (beq_iff_eq.2 h)
          exact ih (hI.next hi hcnt _) h
      · rw [if_neg hsc] at h
        refine ih ?_ h
        split
        · exact hI.count hi
        · exact hI.skip hi
    · rw [if_neg hi] at h; cases h; exact hI.out

/-! ### the parameter loop -/

theorem memReads_lt (p n : Nat) : Below (p + n) (memReads p n) := by
  intro k hk
  obtain ⟨a, ha, rfl⟩ := List.mem_map.1 hk
  exact Nat.add_lt_add_left (List.mem_range.1 ha) p

theorem valueReads_lt (p l m : Nat) (h : m < l) :
    Below (p + l) ((p + m) :: (if (l == m + 2) = true then [p + m + 1]
      else if (l == m + 3) = true then [p + m + 1, p + m + 2] else [])) :=
  .cons (by omega) (.ite (fun h2 => .cons (by rw [beq_iff_eq] at h2; omega) .nil)
    fun _ => .ite (fun h3 => by rw [beq_iff_eq] at h3; exact .cons (by omega) (.cons (by omega) .nil)) fun _ => .nil)

theorem cmwValueReads_lt (p l : Nat) : Below (p + l) (cmwValueReads p l) :=
  .ite (valueReads_lt p l _) fun _ => .nil

theorem smwValueReads_lt (p l : Nat) : Below (p + l) (smwValueReads p l) :=
  .ite (fun _ => .nil) fun h => valueReads_lt p l _ (Nat.lt_of_not_le h)

/-- everything read for one parameter lies inside its counted length; nothing is read for a parameter
    shorter than the shortest name -/
theorem classifyReads_lt (fl : Flags) (p l : Nat) :
    Below (p + l) (classifyReads buf fl p l) ∧ (classifyReads buf fl p l ≠ [] → 2 ≤ l) := by
  unfold classifyReads
  by_cases h22 : l < nameCmw.length
  · rw [if_pos h22]; exact ⟨.nil, nofun⟩
  rw [if_neg h22]
  have h22 : 22 ≤ l := Nat.le_of_not_lt h22
  -- the names have 22 and 26 bytes; the longer ones are compared only with a parameter of at least 26
  have hm : ∀ n, n ≤ l → Below (p + l) (memReads p n) := fun n hn => (memReads_lt p n).mono (by omega)
  refine ⟨.append (hm 22 h22) (.ite (fun _ => .ite (fun _ => .nil) fun _ => .ite (fun _ => .nil)
    fun _ => cmwValueReads_lt p l) fun _ => .append (hm 22 h22) (.ite (fun _ => .ite (fun _ => .nil)
    fun _ => .ite (fun _ => .nil) fun _ => smwValueReads_lt p l) fun _ => .ite (fun _ => .nil)
    fun h26 => .append (hm 26 (Nat.le_of_not_lt h26)) (.ite (fun _ => .nil) fun _ => hm 26 (Nat.le_of_not_lt h26)))),
    fun _ => by omega⟩

theorem paramLoopReads_lt (ps : List (Nat × Nat)) {e : Ext} {fl : Flags}
    (hps : ∀ q ∈ ps, 2 ≤ q.2 → q.1 + q.2 ≤ length) : Below length (paramLoopReads buf e fl ps) := by
  induction ps generalizing e fl with
  | nil => exact .nil
  | cons q rest ih =>
    obtain ⟨p, l⟩ := q
    obtain ⟨h1, h2⟩ := classifyReads_lt (buf := buf) fl p l
    have hrest : ∀ q ∈ rest, 2 ≤ q.2 → q.1 + q.2 ≤ length := fun q hq => hps q (List.mem_cons_of_mem _ hq)
    rw [paramLoopReads]
    refine .append (fun k hk => ?_) ?_
    · exact Nat.lt_of_lt_of_le (h1 k hk) (hps (p, l) (.head _) (h2 (List.ne_nil_of_mem hk)))
    · cases classify buf fl p l with
      | none => exact .nil
      | some a => exact ih hrest

theorem params_inside (h : SOut length sp) :
    ∀ q ∈ sp.params, 2 ≤ q.2 → q.1 + q.2 ≤ length := by
  intro q hq h2
  obtain ⟨k, hk, rfl⟩ := List.mem_map.1 hq
  exact h.inside (k + 1) (List.mem_range.1 hk) h2

/-- `fill_requested_extension(s, start, length)` reads `start[0 .. length)` only — for EVERY memory
    content, every length and every state of the negotiation. -/
theorem fillReads_lt (e : Ext) (buf : Bytes) (length : Nat) : Below length (fillReads e buf length) := by
  unfold fillReads
  refine .ite (fun _ => .nil) fun _ => .append (splitReads_lt _ _ _) ?_
  cases hsp : splitLoop buf length (length + 1) 0 Split.init with
  | none => exact .nil
  | some sp =>
    have hout := splitLoop_out (sinv_init length) hsp
    refine .ite (fun hname => ?_) fun _ => .nil
    -- the element's own name lies inside it, being the first token of the split
    have hin := hout.inside 0 (Nat.zero_le _) (by rw [beq_iff_eq.1 hname]; decide)
    rw [hout.s0, beq_iff_eq.1 hname, Nat.zero_add] at hin
    exact .append ((memReads_lt 0 _).mono (by omega))
      (.ite (fun _ => paramLoopReads_lt sp.params (params_inside hout)) fun _ => .nil)

end Cjet.Deflate
