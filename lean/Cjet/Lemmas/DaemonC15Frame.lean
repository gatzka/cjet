/-
  DaemonC15Frame — generic facts about `Cjet.Unwind.runLadder`:

  * the frame property: running a ladder in an ambient state that shares no name with it gives the
    result of the run from the empty state, with the ambient objects and links untouched;
  * `audit L = true` covers every `fail : Option Nat` (indices beyond the last step and steps that
    cannot fail behave like the success path);
  * the audit path by path (`audit_of_leads`; `Leads` composes along `++`), by which the `fetch` ladder passes
    for every matcher shape (`audit_ladderFetch`): a failure releases a permutation of what is held.
-/
import Cjet.Unwind.Ladders

namespace Cjet.Unwind

variable {R Lb : Type} [DecidableEq R] [DecidableEq Lb]

/-- `s` placed into an ambient state -/
def St.frame (s : St R) (A : List R) (K : List (R × R)) (n b : Nat) : St R :=
  ⟨s.held ++ A, s.links ++ K, s.responses + n, s.bad + b⟩

theorem St.frame_empty (A : List R) (K : List (R × R)) (n b : Nat) :
    (({} : St R).frame A K n b) = ⟨A, K, n, b⟩ := by
  simp [St.frame]

theorem exec1_frame (s : St R) (a : Act R) (A : List R) (K : List (R × R)) (n b : Nat)
    (hA : ∀ r ∈ a.res, r ∉ A) (hK : ∀ p ∈ a.pairs, p ∉ K) :
    exec1 (s.frame A K n b) a = (exec1 s a).frame A K n b := by
  cases a with
  | acquire r | release r =>
    -- `r` is in `s.held ++ A` exactly when it is in `s.held`
    have hr : r ∉ A := hA r (by simp [Act.res])
    by_cases h : r ∈ s.held <;> simp [exec1, St.frame, h, hr, Nat.add_right_comm, List.erase_append_left]
  | link t r | unlink t r =>
    have hp : (t, r) ∉ K := hK (t, r) (by simp [Act.pairs])
    by_cases h : (t, r) ∈ s.links <;> simp [exec1, St.frame, h, hp, Nat.add_right_comm, List.erase_append_left]
  | respond => simp [exec1, St.frame, Nat.add_right_comm]

theorem exec_frame {L : Ladder R Lb} {A : List R} {K : List (R × R)} (hf : Fresh L A K) {as : List (Act R)}
    (h : ∀ a ∈ as, a ∈ L.acts) (s : St R) (n b : Nat) : exec (s.frame A K n b) as = (exec s as).frame A K n b := by
  induction as generalizing s with
  | nil => rfl
  | cons a t ih =>
    have ha := h a List.mem_cons_self
    show exec (exec1 (s.frame A K n b) a) t = _
    rw [exec1_frame s a A K n b (hf.1 a ha) (hf.2 a ha)]
    exact ih (fun a' h' => h a' (List.mem_cons_of_mem _ h')) _

theorem chainFrom_subset {chain : List (Lb × List (Act R))} {t : Option Lb} {c : List (Act R)}
    (h : chainFrom chain t = some c) : ∀ a ∈ c, a ∈ chain.flatMap (·.2) := by
  cases t with
  | none => cases h; exact fun _ ha => nomatch ha
  | some l =>
    simp only [chainFrom] at h
    cases hd : chain.dropWhile (fun e => decide (e.1 ≠ l)) with
    | nil => rw [hd] at h; cases h
    | cons x rest =>
      rw [hd] at h
      cases h
      intro a ha
      obtain ⟨e, he, hae⟩ := List.mem_flatMap.mp ha
      exact List.mem_flatMap.mpr ⟨e, (List.dropWhile_sublist _).subset (hd ▸ he), hae⟩

theorem step_acts_subset {L : Ladder R Lb} {st : Step R Lb} (hst : st ∈ L.steps) {a : Act R} (ha : a ∈ st.acts) :
    a ∈ L.acts :=
  List.mem_append_left _ (List.mem_append_left _ (List.mem_flatMap.mpr ⟨st, hst, ha⟩))

theorem failActs_subset {L : Ladder R Lb} {st : Step R Lb} (hst : st ∈ L.steps) {as : List (Act R)}
    (h : failActs L st = some as) : ∀ a ∈ as, a ∈ L.acts := by
  obtain ⟨c, hc, rfl⟩ := Option.map_eq_some_iff.mp h
  intro a ha
  rcases List.mem_append.mp ha with ha | ha
  · exact step_acts_subset hst (by rw [Step.acts, List.append_assoc]; exact List.mem_append_right _ ha)
  · exact List.mem_append_left _ (List.mem_append_right _ (chainFrom_subset hc a ha))

theorem runFrom_frame (L : Ladder R Lb) (fail : Option Nat) (A : List R) (K : List (R × R)) (n b : Nat)
    (hf : Fresh L A K) (steps : List (Step R Lb)) (hsub : ∀ st ∈ steps, st ∈ L.steps) (s : St R) (i : Nat) :
    runFrom L fail (s.frame A K n b) steps i = (runFrom L fail s steps i).frame A K n b := by
  induction steps generalizing s i with
  | nil => exact exec_frame hf (fun _ ha => List.mem_append_right _ ha) s n b
  | cons st rest ih =>
    have hst := hsub st List.mem_cons_self
    unfold runFrom
    by_cases hc : fail = some i ∧ st.canFail = true
    · simp only [hc, and_self, ↓reduceIte]
      cases hfa : failActs L st with
      | none => simp [St.frame, Nat.add_right_comm]
      | some as => exact exec_frame hf (failActs_subset hst hfa) s n b
    · simp only [hc, ↓reduceIte]
      rw [exec_frame hf fun _ ha => step_acts_subset hst (List.mem_append_left _ (List.mem_append_left _ ha))]
      exact ih (fun st' h => hsub st' (List.mem_cons_of_mem _ h)) _ _

/-- the frame property of a ladder run: entered with its own pre-existing objects plus an ambient
    state that shares no name with it, the ladder behaves as from its bare entry state and leaves
    the ambient objects and links untouched -/
theorem runLadder_frame (L : Ladder R Lb) (fail : Option Nat) (A : List R) (K : List (R × R)) (n b : Nat)
    (hf : Fresh L A K) :
    runLadder L fail ⟨L.pre ++ A, L.preLinks ++ K, n, b⟩ = (runLadder L fail (entry L)).frame A K n b := by
  have := runFrom_frame L fail A K n b hf L.steps (fun _ h => h) (entry L) 0
  simpa [St.frame, entry, runLadder] using this

/-! ## `fail` values that are no failure points -/

theorem runFrom_nofail (L : Ladder R Lb) (fail : Option Nat) (steps : List (Step R Lb)) (s : St R) (i : Nat)
    (h : ∀ k st, steps[k]? = some st → fail = some (i + k) → st.canFail = false) :
    runFrom L fail s steps i = runFrom L none s steps i := by
  induction steps generalizing s i with
  | nil => rfl
  | cons st rest ih =>
    have hno : ¬ (fail = some i ∧ st.canFail = true) := fun ⟨hf, hc⟩ => by simp [h 0 st rfl hf] at hc
    simp only [runFrom, hno, ↓reduceIte, reduceCtorEq, false_and]
    exact ih _ _ fun k st' hst' hf => h (k + 1) st' hst' (by rw [hf, Nat.add_right_comm]; rfl)

theorem run_of_not_failsAt (L : Ladder R Lb) (fail : Option Nat) (h : failsAt L fail = false) (s : St R) :
    runLadder L fail s = runLadder L none s := by
  apply runFrom_nofail
  intro k st hst hj
  simpa [hj, failsAt, hst] using h

theorem auditOne_of_not_failsAt (L : Ladder R Lb) (fail : Option Nat) (h : failsAt L fail = false) :
    auditOne L fail = auditOne L none := by
  unfold auditOne
  rw [run_of_not_failsAt L fail h, h]
  rfl

theorem failsAt_some {L : Ladder R Lb} {i : Nat} (h : failsAt L (some i) = true) :
    ∃ st, L.steps[i]? = some st ∧ st.canFail = true := by
  simp only [failsAt] at h
  split at h
  · exact ⟨_, ‹_›, h⟩
  · cases h

theorem audit_all (L : Ladder R Lb) (h : audit L = true) (fail : Option Nat) : auditOne L fail = true := by
  unfold audit at h
  rw [Bool.and_eq_true, List.all_eq_true] at h
  cases hf : failsAt L fail with
  | false => rw [auditOne_of_not_failsAt L fail hf]; exact h.1
  | true =>
    cases fail with
    | none => exact h.1
    | some i =>
      obtain ⟨st, hs, _⟩ := failsAt_some hf
      exact h.2 i (List.mem_range.mpr (List.getElem?_eq_some_iff.mp hs).1)

/-- what the audit says about the run from the empty state -/
theorem auditOne_iff {L : Ladder R Lb} {fail : Option Nat} :
    auditOne L fail = true ↔
      let s := runLadder L fail (entry L)
      s.bad = 0 ∧ s.responses ≤ 1 ∧
      (failsAt L fail = true → s.held = L.pre ∧ s.links = L.preLinks) ∧
      (failsAt L fail = false → s.held = L.intended ∧ s.links = L.intendedLinks ∧
        ∀ p ∈ L.intendedLinks, p.2 ∈ L.intended) := by
  cases hf : failsAt L fail <;> simp [auditOne, hf, and_assoc]

/-! ## the audit, path by path -/

theorem exec_append (s : St R) (as bs : List (Act R)) : exec s (as ++ bs) = exec (exec s as) bs :=
  List.foldl_append

theorem exec_release_perm {rs hd : List R} (h : rs.Perm hd) (tl : List R) (K : List (R × R)) (n b : Nat) :
    exec ⟨hd ++ tl, K, n, b⟩ (rs.map .release) = ⟨tl, K, n, b⟩ := by
  induction rs generalizing hd with
  | nil => rw [← h.nil_eq]; rfl
  | cons r rs ih =>
    have hr : r ∈ hd := h.mem_iff.mp List.mem_cons_self
    have h' : rs.Perm (hd.erase r) := by simpa using h.erase r
    simp only [List.map_cons, exec, List.foldl_cons, exec1, List.mem_append, hr, true_or, ↓reduceIte,
      List.erase_append_left _ hr]
    exact ih h'

def Restores (L : Ladder R Lb) (t : St R) : Prop :=
  t.bad = 0 ∧ t.responses ≤ 1 ∧ t.held = L.pre ∧ t.links = L.preLinks

/-- from `s` the steps, all succeeding, lead to `t`, and every failure point among them, reached over the success
    branches before it, unwinds -/
def Leads (L : Ladder R Lb) : St R → List (Step R Lb) → St R → Prop
  | s, [], t => s = t
  | s, st :: rest, t =>
    (st.canFail = true → ∃ as, failActs L st = some as ∧ Restores L (exec s as)) ∧ Leads L (exec s st.ok) rest t

theorem Leads.append {L : Ladder R Lb} {s t u : St R} {a b : List (Step R Lb)} (h1 : Leads L s a t)
    (h2 : Leads L t b u) : Leads L s (a ++ b) u := by
  induction a generalizing s with
  | nil => exact h1 ▸ h2
  | cons st a ih => exact ⟨h1.1, ih h1.2⟩

theorem Leads.range {L : Ladder R Lb} {e : Nat → Step R Lb} {S : Nat → St R}
    (h : ∀ j, Leads L (S j) [e j] (S (j + 1))) (m : Nat) : Leads L (S 0) ((List.range m).map e) (S m) := by
  induction m with
  | zero => rfl
  | succ m ih => rw [List.range_succ, List.map_append]; exact ih.append (h m)

theorem runFrom_none {L : Ladder R Lb} {steps : List (Step R Lb)} {s t : St R} (h : Leads L s steps t) (i : Nat) :
    runFrom L none s steps i = exec t L.done := by
  induction steps generalizing s i with
  | nil => rw [← h]; rfl
  | cons st rest ih => simpa [runFrom] using ih h.2 _

theorem runFrom_fails {L : Ladder R Lb} {steps : List (Step R Lb)} {s t : St R} {i k : Nat} {st : Step R Lb}
    (h : Leads L s steps t) (hst : steps[k]? = some st) (hc : st.canFail = true) :
    Restores L (runFrom L (some (i + k)) s steps i) := by
  induction steps generalizing s i k with
  | nil => cases hst
  | cons st' rest ih =>
    cases k with
    | zero =>
      cases hst
      obtain ⟨as, has, hr⟩ := h.1 hc
      simpa [runFrom, hc, has] using hr
    | succ k =>
      have := ih (i := i + 1) h.2 hst
      rw [Nat.add_right_comm] at this
      simp only [runFrom, Option.some.injEq, Nat.add_eq_left, Nat.succ_ne_zero, false_and, ↓reduceIte]
      exact this

theorem audit_of_leads (L : Ladder R Lb) {t : St R} (hl : Leads L (entry L) L.steps t)
    (hok : let u := exec t L.done
           u.bad = 0 ∧ u.responses ≤ 1 ∧ u.held = L.intended ∧ u.links = L.intendedLinks)
    (hin : ∀ p ∈ L.intendedLinks, p.2 ∈ L.intended) : audit L = true := by
  have h0 : auditOne L none = true := by
    rw [auditOne_iff, runLadder, runFrom_none hl]
    exact ⟨hok.1, hok.2.1, fun h => Bool.noConfusion h, fun _ => ⟨hok.2.2.1, hok.2.2.2, hin⟩⟩
  rw [audit, Bool.and_eq_true, List.all_eq_true]
  refine ⟨h0, fun i _ => ?_⟩
  cases hf : failsAt L (some i) with
  | false => rw [auditOne_of_not_failsAt L _ hf]; exact h0
  | true =>
    obtain ⟨st, hs, hc⟩ := failsAt_some hf
    obtain ⟨h1, h2, h3⟩ := Nat.zero_add i ▸ runFrom_fails (i := 0) hl hs hc
    exact auditOne_iff.mpr ⟨h1, h2, fun _ => h3, fun h' => by rw [hf] at h'; cases h'⟩

/-! ## the `fetch` ladder passes the audit for every matcher shape -/

section fetch
open Act

theorem perm_flatMap_of_forall {α β : Type} {f g : α → List β} (l : List α) (h : ∀ a, (f a).Perm (g a)) :
    (l.flatMap f).Perm (l.flatMap g) := by
  induction l with
  | nil => exact .refl _
  | cons a l ih => simpa only [List.flatMap_cons] using (h a).append ih

/-- what the matchers of the shape `done` hold, newest first: matcher `p.2` with `p.1` path elements acquires
    `pm p.2`, then its path elements -/
def heldOf (done : List Nat) : List RB :=
  (done.zipIdx.flatMap fun p => RB.pm p.2 :: (List.range p.1).map (RB.pe p.2)).reverse

/-- the state after the matchers of `done` have been created; with `done ++ [j]`: after `j` path elements of the
    next one -/
def afterMatchers (done : List Nat) : St RB := ⟨heldOf done ++ [.fid, .fetch], [], 0, 0⟩

theorem heldOf_snoc (done : List Nat) (m : Nat) :
    heldOf (done ++ [m]) = ((List.range m).map (RB.pe done.length)).reverse ++ RB.pm done.length :: heldOf done := by
  simp [heldOf, List.zipIdx_append]

theorem not_mem_heldOf {x : RB} {done : List Nat} {k : Nat} (hk : done.length ≤ k)
    (hx : x = .pm k ∨ ∃ i, x = .pe k i) : x ∉ heldOf done := by
  simp only [heldOf, List.mem_reverse, List.mem_flatMap, List.mem_cons, List.mem_map]
  rintro ⟨⟨m, j⟩, hp, h⟩
  have := List.mem_zipIdx hp
  rcases hx with rfl | ⟨_, rfl⟩ <;> rcases h with h | ⟨_, _, h⟩ <;> cases h <;> omega

/-- `free_matcher` for the matchers of `done` releases what they hold, oldest matcher first -/
theorem freeMatchers_eq (done l : List Nat) :
    ∃ rs : List RB, rs.Perm (heldOf done) ∧ freeMatchers (done ++ l) done.length = rs.map release := by
  refine ⟨done.zipIdx.flatMap (fun p => (List.range p.1).map (RB.pe p.2) ++ [RB.pm p.2]), ?_, ?_⟩
  · exact (perm_flatMap_of_forall _ fun p => List.perm_append_comm).trans (List.reverse_perm _).symm
  · rw [freeMatchers, List.take_left' rfl, List.map_flatMap]
    congr 1
    funext ⟨m, j⟩
    simp [freeMatcher]

/-- the common end of the failure paths: the matchers' resources in any order; then the response, the id copy and
    the fetch, in the order of the path at hand -/
theorem fetch_cleanup {rs : List RB} {done : List Nat} (h : rs.Perm (heldOf done)) {tl : List (Act RB)}
    (htl : exec ⟨[.fid, .fetch], [], 0, 0⟩ tl = ⟨[], [], 1, 0⟩) :
    exec (afterMatchers done) (rs.map release ++ tl) = ⟨[], [], 1, 0⟩ := by
  rw [exec_append, afterMatchers, exec_release_perm h, htl]

theorem unwinds_step (shape : List Nat) {st : Step RB LB} {s : St RB} (hj : st.failTo = none)
    (h : exec s (st.half ++ st.failPre) = ⟨[], [], 1, 0⟩) :
    ∃ as, failActs (ladderFetch shape) st = some as ∧ Restores (ladderFetch shape) (exec s as) :=
  ⟨st.half ++ st.failPre, by simp [failActs, chainFrom, hj], h ▸ ⟨rfl, Nat.le_refl 1, rfl, rfl⟩⟩

/-- `create_matcher` for the matcher after `done` -/
theorem leads_matcher {shape done l : List Nat} {m : Nat} (hs : shape = done ++ m :: l) :
    Leads (ladderFetch shape) (afterMatchers done) (matcherSteps shape done.length m) (afterMatchers (done ++ [m])) := by
  obtain ⟨rs, hrs, hfree⟩ := freeMatchers_eq done (m :: l)
  rw [← hs] at hfree
  -- before the first path element is copied, a failure frees the earlier matchers, answers, frees id and fetch
  have h0 := hfree ▸ fetch_cleanup hrs (tl := [respond, release .fid, release .fetch]) rfl
  have hpm : exec (afterMatchers done) [acquire (RB.pm done.length)] = afterMatchers (done ++ [0]) := by
    simp [afterMatchers, heldOf_snoc, exec, exec1, not_mem_heldOf (Nat.le_refl _)]
  refine ⟨fun _ => unwinds_step shape rfl h0, fun _ => unwinds_step shape rfl h0,
    hpm ▸ Leads.range (S := fun j => afterMatchers (done ++ [j])) (fun j => ⟨fun _ => unwinds_step shape rfl ?_, ?_⟩) m⟩
  · -- after `j` path elements a failure frees them and the matcher, then goes on as before
    have hp : ((List.range j).map (RB.pe done.length) ++ RB.pm done.length :: rs).Perm (heldOf (done ++ [j])) :=
      heldOf_snoc .. ▸ (List.reverse_perm _).symm.append (hrs.cons _)
    simpa [hfree, Function.comp_def] using fetch_cleanup hp rfl
  · -- path element `j` of this matcher is new
    simp [Leads, afterMatchers, heldOf_snoc, exec, exec1, List.range_succ, not_mem_heldOf (Nat.le_refl _)]

theorem leads_matchers (shape : List Nat) : ∀ (l done : List Nat), shape = done ++ l →
    Leads (ladderFetch shape) (afterMatchers done)
      ((l.zipIdx done.length).flatMap (fun p => matcherSteps shape p.2 p.1)) (afterMatchers shape)
  | [], done, hs => by rw [hs, List.append_nil]; rfl
  | m :: l, done, hs => by
    have h := leads_matchers shape l (done ++ [m]) (by rw [hs, List.append_assoc]; rfl)
    rw [List.length_append, List.length_singleton] at h
    exact (leads_matcher hs).append h

/-- (b) `fetch`, for every path object: any number of matchers with any number of operands each -/
theorem audit_ladderFetch (shape : List Nat) : audit (ladderFetch shape) = true := by
  obtain ⟨rs, hrs, hfree⟩ := freeMatchers_eq shape []
  rw [List.append_nil] at hfree
  have hu := @unwinds_step shape
  refine audit_of_leads _ (t := exec (afterMatchers shape) [link .fetchList .fetch, link .elemTables .fetch]) ?_
    ⟨rfl, Nat.le_refl 1, rfl, rfl⟩ ?_
  · refine .append (.append (t := afterMatchers []) ⟨fun _ => hu rfl rfl, fun _ => hu rfl rfl, fun _ => hu rfl rfl, rfl⟩
      (leads_matchers shape shape [] rfl))
      ⟨fun _ => hu rfl (hfree ▸ fetch_cleanup hrs rfl), fun h => Bool.noConfusion h, fun _ => hu rfl ?_, rfl⟩
    -- the late failure: the two links are taken back first
    rw [hfree, exec_append, List.append_assoc, exec_append]
    exact fetch_cleanup hrs rfl
  · intro p hp
    refine List.mem_append_right _ ?_
    rcases hp with _ | ⟨_, _ | ⟨_, ⟨⟩⟩⟩ <;> decide

end fetch

end Cjet.Unwind
