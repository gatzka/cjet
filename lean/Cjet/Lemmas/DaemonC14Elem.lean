/-
  DaemonC14Elem — what no handler can do to an element: move it to another peer, change its owner
  field, its path or its timeout.  Stated as an invariant: a predicate `P conn owner path timeout`
  that holds of every element of every peer's list is kept by every operation, provided `add`
  establishes it for the element it creates (`AddOk`) and `P` implies `owner = conn` (needed where
  `change` writes back an element it found through the path index).

  `EO` (DaemonC03Sim) is the instance `owner = conn`; the timeout theorems of C14 are instances
  with `owner = conn ∧ …`.
-/
import Cjet.Lemmas.DaemonC03SetCall

namespace Cjet.Daemon.C14

open Cjet Cjet.Json Cjet.Daemon Cjet.Daemon.C03

def EPp (P : Nat → Nat → Bytes → Nat → Prop) (q : Peer) : Prop :=
  ∀ e ∈ q.elements, P q.conn e.owner e.path e.timeoutNs

def EP (P : Nat → Nat → Bytes → Nat → Prop) (s : State) : Prop := ∀ p ∈ s.peers, EPp P p

variable {P : Nat → Nat → Bytes → Nat → Prop}

theorem ep_updatePeer {ps : List Peer} {c : Nat} {f : Peer → Peer} (h : ∀ p ∈ ps, EPp P p)
    (hf : ∀ q ∈ ps, q.conn = c → EPp P q → EPp P (f q)) : ∀ p ∈ updatePeer ps c f, EPp P p := by
  intro p hp
  obtain ⟨q, hq, rfl⟩ := mem_updatePeer.mp hp
  split
  · next hc => exact hf q hq (beq_iff_eq.mp hc) (h q hq)
  · exact h q hq

theorem ep_map {ps : List Peer} {g : Peer → Peer} (h : ∀ p ∈ ps, EPp P p)
    (hg : ∀ q ∈ ps, EPp P q → EPp P (g q)) : ∀ p ∈ ps.map g, EPp P p := by
  intro p hp
  obtain ⟨q, hq, rfl⟩ := List.mem_map.mp hp
  exact hg q hq (h q hq)

theorem ep_mapElements {ps : List Peer} {f : Element → Element} (h : ∀ p ∈ ps, EPp P p)
    (hf : ∀ e, f e = { e with fetchers := (f e).fetchers }) : ∀ p ∈ mapElements ps f, EPp P p := by
  refine ep_map h fun q _ hq e he => ?_
  obtain ⟨e0, he0, rfl⟩ := List.mem_map.mp he
  rw [hf e0]
  exact hq e0 he0

theorem epp_map {q : Peer} {g : Element → Element}
    (hg : ∀ el ∈ q.elements, P q.conn (g el).owner (g el).path (g el).timeoutNs) :
    EPp P { q with elements := q.elements.map g } := by
  intro e' he'
  obtain ⟨el, hel, rfl⟩ := List.mem_map.mp he'
  exact hg el hel

/-! ## handlers -/

theorem ep_changeState (hown : ∀ {c o path t}, P c o path t → o = c) (x : Ctx) (p : Peer) (req : Json)
    (h : EP P x.st) : EP P (changeState x p req).1.st := by
  rcases changeState_cases x p req with ⟨_, _, hc⟩ | ⟨_, path, v, e, _, _, he, ho, _, hc⟩ <;> rw [hc]
  · exact h
  · rw [notifyFetchers_st]
    -- `e` sits in the list of a peer with its owner's connection number, the requester's
    obtain ⟨q', hq', heq', _⟩ := findElement_mem he
    have hPe := h q' hq' e heq'
    refine ep_updatePeer h fun q _ hqc hq => epp_map fun el hel => ?_
    split
    · exact (hqc.trans (ho.symm.trans (hown hPe))) ▸ hPe
    · exact hq el hel

/-- what `add` demands of the predicate: it holds for the new element's path and the timeout the
    add request declares (or the configured default) -/
def AddOk (P : Nat → Nat → Bytes → Nat → Prop) (cfg : Config) (c : Nat) (req : Json) : Prop :=
  ∀ params path tns, getParamsAndPath req = .ok params path →
    getTimeout cfg (params.getItem (k "timeout")) cfg.defaultTimeoutNs = .ns tns → P c c path tns

theorem ep_addElement (cfg : Config) (x : Ctx) (p : Peer) (req : Json) (h : EP P x.st)
    (hnew : AddOk P cfg p.conn req) : EP P (addElement cfg x p req).1.st := by
  rw [addElement_eq]
  cases hc : addChecks cfg x.st p req with
  | error r => exact h
  | ok e0 =>
    dsimp only
    obtain ⟨params, hpp, _, ho, _, ht, _⟩ := addChecks_ok hc
    rcases addCore_cases cfg x p req e0 with ⟨_, hc⟩ | ⟨_, hc⟩ <;> rw [hc]
    · show EP P (notifyFetchers _ _ _).st
      rw [notifyFetchers_st, findFetchersForElement_st]
      exact h
    · refine ep_updatePeer h fun q _ hqc hq e' he' => ?_
      rcases List.mem_append.mp he' with he' | he'
      · exact hq e' he'
      · cases List.mem_singleton.mp he'
        rw [findFetchersForElement_snd, hqc]
        exact ho ▸ hnew params _ _ hpp ht

theorem ep_removeElement (x : Ctx) (e : Element) (h : EP P x.st) : EP P (removeElement x e).st := by
  rw [removeElement_eq]
  exact ep_updatePeer h fun q _ _ hq e' he' => hq e' (List.mem_filter.mp he').1

theorem ep_removeElementReq (x : Ctx) (p : Peer) (req : Json) (h : EP P x.st) :
    EP P (removeElementReq x p req).1.st := by
  rcases removeElementReq_cases x p req with ⟨_, _, hc⟩ | ⟨_, _, e, _, _, hc⟩ <;> rw [hc]
  · exact h
  · exact ep_removeElement x e h

theorem ep_offerStep (cfg : Config) (fp : Peer) (f : Fetch) (owner : Peer) (y : Ctx) (e0 : Element)
    (hy : EP P y.st) (he0 : P owner.conn e0.owner e0.path e0.timeoutNs) :
    EP P (offerStep cfg fp f owner.conn y e0).st := by
  unfold offerStep
  extract_lets e z
  -- the element offered is the one read back from `owner.conn`'s list, or `e0`
  have he : P owner.conn e.owner e.path e.timeoutNs := by
    unfold e
    split
    · next e hfind =>
      obtain ⟨q', hq', hfe⟩ := Option.bind_eq_some_iff.mp hfind
      exact findPeer_conn hq' ▸ hy q' (findPeer_mem hq') e (List.mem_of_find?_eq_some hfe)
    · exact he0
  clear_value e
  show EP P { z.1.st with peers := _ }
  rw [offerElement_st]
  refine ep_updatePeer hy fun q _ hqc hq => epp_map fun el hel => ?_
  split
  · rw [offerElement_snd, hqc]; exact he
  · exact hq el hel

theorem ep_offerAllElements (cfg : Config) (x : Ctx) (fp : Peer) (f : Fetch) (h : EP P x.st) :
    EP P (offerAllElements cfg x fp f).st := by
  rw [offerAllElements_eq]
  refine foldl_inv (fun y : Ctx => EP P y.st) _ _ _ h fun y owner hown hy => ?_
  exact foldl_inv (fun y : Ctx => EP P y.st) _ _ _ hy fun y' e0 he0 hy' =>
    ep_offerStep cfg fp f owner y' e0 hy' (h owner hown e0 he0)

theorem ep_fetchReq (cfg : Config) (x : Ctx) (p : Peer) (req : Json) (h : EP P x.st) :
    EP P (fetchReq cfg x p req).1.st := by
  rcases fetchReq_cases cfg x p req with ⟨_, _, _, hc⟩ | ⟨_, _, _, _, _, _, hc⟩ <;> rw [hc]
  · exact h
  · exact ep_offerAllElements cfg _ _ _ (ep_updatePeer h fun _ _ _ hq => hq)

theorem ep_unfetchReq (x : Ctx) (p : Peer) (req : Json) (h : EP P x.st) : EP P (unfetchReq x p req).1.st := by
  rcases unfetchReq_cases x p req with ⟨_, hc⟩ | ⟨_, _, _, _, _, hc⟩ <;> rw [hc]
  · exact h
  · exact ep_updatePeer (ep_mapElements h fun _ => rfl) fun _ _ _ hq => hq

theorem ep_configReq (x : Ctx) (p : Peer) (req : Json) (h : EP P x.st) : EP P (configReq x p req).1.st := by
  rcases configReq_cases x p req with ⟨_, hc⟩ | hc | ⟨_, hc⟩ <;> rw [hc]
  · exact h
  · exact h
  · exact ep_updatePeer h fun _ _ _ hq => hq

theorem ep_authenticateReq (cfg : Config) (x : Ctx) (p : Peer) (req : Json) (h : EP P x.st) :
    EP P (authenticateReq cfg x p req).1.st := by
  rcases authenticateReq_cases cfg x p req with ⟨_, _, hc⟩ | ⟨_, _, _, _, _, _, _, _, _, hc⟩ <;> rw [hc]
  · exact h
  · exact ep_updatePeer h fun _ _ _ hq => hq

theorem ep_passwdReq (x : Ctx) (p : Peer) (req : Json) (h : EP P x.st) : EP P (passwdReq x p req).1.st := by
  rcases passwdReq_cases x p req with ⟨_, hc⟩ | ⟨_, _, _, _, _, _, _, _, _, hc⟩ <;> rw [hc] <;> exact h

theorem ep_removeRoute {ps : List Peer} {o : Nat} {rid : Bytes} (h : ∀ p ∈ ps, EPp P p) :
    ∀ p ∈ removeRoute ps o rid, EPp P p :=
  ep_updatePeer h fun _ _ _ hq => hq

theorem ep_setOrCall (cfg : Config) (x : Ctx) (p : Peer) (req : Json) (isState : Bool) (h : EP P x.st) :
    EP P (setOrCall cfg x p req isState).1.st := by
  rcases setOrCall_cases cfg x p req isState with h1 | ⟨params, path, e, hc⟩
  · rw [h1]; exact h
  · rw [setOrCall_of_checks hc]
    have hst : ∀ tns, EP P (stored x (newRoute x p req e) tns).st := fun _ =>
      ep_updatePeer h fun _ _ _ hq => hq
    rcases routeCore_cases cfg x p req isState params path e with
      ⟨_, _, hc⟩ | ⟨_, _, hc⟩ | ⟨tns, _, ⟨_, hc⟩ | ⟨_, ⟨_, hc⟩ | ⟨_, hc⟩⟩⟩ <;> rw [hc]
    · exact h
    · exact h
    · exact h
    · rw [send_st]; exact hst tns
    · show ∀ q ∈ removeRoute (send _ _ _).1.st.peers _ _, EPp P q
      rw [send_st]
      exact ep_removeRoute (hst tns)

theorem ep_routingResponse (x : Ctx) (p : Peer) (msg payload : Json) (typ : String) (h : EP P x.st) :
    EP P (routingResponse x p msg payload typ).1.st := by
  rcases routingResponse_cases x p msg payload typ with hc | hc | ⟨_, _, _, _, hc | ⟨_, _, _, _, hc⟩⟩ <;>
    rw [hc]
  · exact h
  · exact h
  · exact ep_removeRoute h
  · rw [send'_st]; exact ep_removeRoute h

theorem ep_timeoutFired (x : Ctx) (t : Nat) (h : EP P x.st) : EP P (timeoutFired x t).st := by
  rcases timeoutFired_cases x t with hc | ⟨_, _, hc | ⟨_, _, _, _, hc⟩⟩ <;> rw [hc]
  · exact h
  · exact ep_removeRoute h
  · rw [emit_st, send'_st]; exact ep_removeRoute h

/-- `add` is the only method that needs the side condition -/
theorem ep_handleMethod (hown : ∀ {c o path t}, P c o path t → o = c) (cfg : Config) (x : Ctx) (p : Peer)
    (req : Json) (m : Bytes) (h : EP P x.st) (hnew : m = k "add" → AddOk P cfg p.conn req) :
    EP P (handleMethod cfg x p req m).1.st :=
  handleMethod_induct (P := fun y => EP P y.1.st) cfg x p req m
    (fun _ => ep_changeState hown x p req h) (fun _ => ep_setOrCall cfg x p req true h)
    (fun _ => ep_setOrCall cfg x p req false h) (fun hm => ep_addElement cfg x p req h (hnew hm))
    (fun _ => ep_removeElementReq x p req h) (fun _ => ep_fetchReq cfg x p req h)
    (fun _ => ep_unfetchReq x p req h) (fun _ => (getReq_fst cfg x p req).symm ▸ h)
    (fun _ => ep_configReq x p req h) (fun _ => h) (fun _ => ep_authenticateReq cfg x p req h)
    (fun _ => ep_passwdReq x p req h) h

/-- the side condition for one request object of peer `c` -/
def ReqOk (P : Nat → Nat → Bytes → Nat → Prop) (cfg : Config) (c : Nat) (req : Json) : Prop :=
  req.getItem (k "method") = some (.str (k "add")) → AddOk P cfg c req

theorem ep_parseJsonRpc (hown : ∀ {c o path t}, P c o path t → o = c) (cfg : Config) (x : Ctx) (c : Nat)
    (req : Json) (h : EP P x.st) (hnew : ReqOk P cfg c req) : EP P (parseJsonRpc cfg x c req).1.st := by
  unfold parseJsonRpc
  split
  · exact h
  · next p hp =>
    split
    · next m hm =>
      rw [sendResponse_st]
      exact ep_handleMethod hown cfg x p req m h fun e => findPeer_conn hp ▸ hnew (e ▸ hm)
    · rw [sendResponse_st]; exact h
    · split
      · exact ep_routingResponse _ _ _ _ _ h
      · split
        · exact ep_routingResponse _ _ _ _ _ h
        · rw [sendResponse_st]; exact h

theorem ep_parseJsonArray (hown : ∀ {c o path t}, P c o path t → o = c) (cfg : Config) (c : Nat)
    (l : List Json) (x : Ctx) (h : EP P x.st) (hnew : ∀ req ∈ l, ReqOk P cfg c req) :
    EP P (parseJsonArray cfg x c l).1.st := by
  induction l generalizing x with
  | nil => exact h
  | cons j rest ih =>
    cases j with
    | obj m =>
      rw [parseJsonArray_cons_obj]
      have h1 := ep_parseJsonRpc hown cfg x c (.obj m) h (hnew _ (List.mem_cons_self ..))
      split
      · exact ih _ h1 fun r hr => hnew r (List.mem_cons_of_mem _ hr)
      · exact h1
    | _ => exact h

/-- the request objects of a message -/
def msgRequests : Option Json → List Json
  | some (.arr l) => l
  | some (.obj m) => [.obj m]
  | _ => []

theorem ep_parseMessage (hown : ∀ {c o path t}, P c o path t → o = c) (cfg : Config) (x : Ctx) (c : Nat)
    (msg : Option Json) (h : EP P x.st) (hnew : ∀ req ∈ msgRequests msg, ReqOk P cfg c req) :
    EP P (parseMessage cfg x c msg).1.st := by
  unfold parseMessage
  split
  · exact ep_parseJsonArray hown cfg c _ x h hnew
  · exact ep_parseJsonRpc hown cfg x c _ h (hnew _ (List.mem_singleton.mpr rfl))
  · exact h

/-! the phases of `free_peer_resources` -/

theorem ep_freeTable (x : Ctx) (c : Nat) (p : Peer) (h : EP P x.st) : EP P (freeTable x c p).st := by
  rw [freeTable_st]; exact ep_updatePeer h fun _ _ _ hq => hq

theorem ep_freeRequests (x : Ctx) (c : Nat) (h : EP P x.st) : EP P (freeRequests x c).st := by
  rw [freeRequests_st]; exact ep_map h fun _ _ hq => hq

theorem ep_unsubscribe (x : Ctx) (c : Nat) (h : EP P x.st) : EP P (unsubscribe x c).st :=
  ep_updatePeer (ep_mapElements (f := freeSlots c) h fun _ => rfl) fun _ _ _ hq => hq

theorem ep_closePeer (x : Ctx) (c : Nat) (h : EP P x.st) : EP P (closePeer x c).st := by
  show EP P (freePeerResources x c).st
  cases hp : findPeer x.st.peers c with
  | none => rw [freePeerResources_none hp]; exact h
  | some p =>
    rw [freePeerResources_phases hp]
    have h2 := removeElements_induct (P := fun y => EP P y.st) c p.elements
      (ep_unsubscribe _ c (ep_freeRequests _ c (ep_freeTable x c p h))) fun y e _ _ _ _ hy => ep_removeElement y e hy
    exact fun q hq => h2 q (List.mem_filter.mp hq).1

/-- the side condition for one operation -/
def OpAddOk (P : Nat → Nat → Bytes → Nat → Prop) (cfg : Config) : Op → Prop
  | .message c msg _ => ∀ req ∈ msgRequests msg, ReqOk P cfg c req
  | _ => True

theorem ep_step (hown : ∀ {c o path t}, P c o path t → o = c) (cfg : Config) (s : State) (op : Op)
    (h : EP P s) (hnew : OpAddOk P cfg op) : EP P (step cfg s op).1 := by
  cases op with
  | connect c ws isLocal addr =>
    rw [step_connect_eq]
    by_cases hc : (findPeer s.peers c).isSome = true
    · rw [if_pos hc]; exact h
    · rw [if_neg hc]
      intro p hp
      rcases List.mem_append.mp hp with hp | hp
      · exact h p hp
      · cases List.mem_singleton.mp hp
        exact fun _ he => nomatch he
  | message c msg o =>
    rw [step_message_eq]
    by_cases hc : (findPeer s.peers c).isNone = true
    · rw [if_pos hc]; exact h
    · rw [if_neg hc]
      have h1 := ep_parseMessage hown cfg (mkCtx s o) c msg h hnew
      dsimp only
      cases (parseMessage cfg (mkCtx s o) c msg).2 with
      | true => exact h1
      | false => exact ep_closePeer _ c h1
  | disconnect c o =>
    rw [step_disconnect_eq]
    by_cases hc : (findPeer s.peers c).isNone = true
    · rw [if_pos hc]; exact h
    · rw [if_neg hc]; exact ep_closePeer _ c h
  | timerFire t o => exact ep_timeoutFired _ t h

end Cjet.Daemon.C14
