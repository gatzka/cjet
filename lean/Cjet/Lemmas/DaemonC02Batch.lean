/-
  C02 helper lemmas: a batch is processed as its members one by one.  No model function reads
  `Ctx.out`, so processing with some earlier output `pre` already recorded gives the same result
  with `pre` underneath (`shift`); this is what allows a batch to be compared with separate
  messages at the level of `step`.
-/
import Cjet.Lemmas.DaemonC02Step

namespace Cjet.Daemon.C02

open Cjet Cjet.Json Cjet.Daemon

/-! ## the recorded output is never read -/

/-- put `pre` underneath the recorded output -/
def shift (pre : List Obs) (x : Ctx) : Ctx := { x with out := x.out ++ pre }

def shift2 {β : Type} (pre : List Obs) (r : Ctx × β) : Ctx × β := (shift pre r.1, r.2)

@[simp] theorem shift_st (pre : List Obs) (x : Ctx) : (shift pre x).st = x.st := rfl
@[simp] theorem shift_sends (pre : List Obs) (x : Ctx) : (shift pre x).sends = x.sends := rfl
@[simp] theorem shift_indexFull (pre : List Obs) (x : Ctx) : (shift pre x).indexFull = x.indexFull := rfl
@[simp] theorem shift_routeFull (pre : List Obs) (x : Ctx) : (shift pre x).routeFull = x.routeFull := rfl
@[simp] theorem shift_out (pre : List Obs) (x : Ctx) : (shift pre x).out = x.out ++ pre := rfl
@[simp] theorem shift2_fst {β : Type} (pre : List Obs) (r : Ctx × β) : (shift2 pre r).1 = shift pre r.1 := rfl
@[simp] theorem shift2_snd {β : Type} (pre : List Obs) (r : Ctx × β) : (shift2 pre r).2 = r.2 := rfl
theorem shift2_mk {β : Type} (pre : List Obs) (x : Ctx) (b : β) : shift2 pre (x, b) = (shift pre x, b) := rfl

/-- record updates that do not touch `out` commute with `shift` -/
theorem shift_setSt (pre : List Obs) (x : Ctx) (st : State) :
    { shift pre x with st := st } = shift pre { x with st := st } := rfl

theorem send_shift (pre : List Obs) (x : Ctx) (c : Nat) (j : Json) :
    send (shift pre x) c j = shift2 pre (send x c j) := by
  rw [send_eq, send_eq]; rfl

theorem send'_shift (pre : List Obs) (x : Ctx) (c : Nat) (j : Json) :
    send' (shift pre x) c j = shift pre (send' x c j) := congrArg Prod.fst (send_shift pre x c j)

theorem emit_shift (pre : List Obs) (x : Ctx) (o : Obs) : emit (shift pre x) o = shift pre (emit x o) := rfl

theorem notifyOne_shift (pre : List Obs) (x : Ctx) (e : Element) (fk : FetchKey) (event : String) :
    notifyOne (shift pre x) e fk event = shift pre (notifyOne x e fk event) := by
  unfold notifyOne
  rw [shift_st]
  split
  · exact send'_shift ..
  · rfl

theorem notifyFetchers_shift (pre : List Obs) (x : Ctx) (e : Element) (event : String) :
    notifyFetchers (shift pre x) e event = shift pre (notifyFetchers x e event) := by
  refine foldl_comm (shift pre) _ _ (fun y s _ => ?_) x
  split
  · exact notifyOne_shift ..
  · rfl

theorem offerElement_shift (cfg : Config) (pre : List Obs) (x : Ctx) (e : Element) (fp : Peer) (f : Fetch) :
    offerElement cfg (shift pre x) e fp f = shift2 pre (offerElement cfg x e fp f) := by
  unfold offerElement
  exact ite_eq_map _ _ rfl (ite_eq_map _ _ (congrArg (·, _) (send'_shift ..)) rfl)

theorem findFetchersForElement_shift (cfg : Config) (pre : List Obs) (x : Ctx) (e : Element) :
    findFetchersForElement cfg (shift pre x) e = shift2 pre (findFetchersForElement cfg x e) := by
  refine foldl_comm (shift2 pre) _ _ (fun acc fp _ => ?_) (x, e)
  exact foldl_comm (shift2 pre) _ _ (fun acc f _ => offerElement_shift ..) acc

theorem removeElement_shift (pre : List Obs) (x : Ctx) (e : Element) :
    removeElement (shift pre x) e = shift pre (removeElement x e) := by
  unfold removeElement
  rw [notifyFetchers_shift]
  rfl

theorem shift_mk (pre : List Obs) (x : Ctx) (st : State) (s : List Bool) (i r : Bool) :
    ({ st := st, out := (shift pre x).out, sends := s, indexFull := i, routeFull := r } : Ctx) =
      shift pre { st := st, out := x.out, sends := s, indexFull := i, routeFull := r } := rfl

/-! Each handler: in the form in which its decisions read the request and the state only, walk the
    decision tree on both sides at once (`split` for a `match`, `ite_eq_map` for a conditional); a
    refusal is `rfl`, the other exits are the lemmas for what the handler calls. -/

theorem changeState_shift (pre : List Obs) (x : Ctx) (p : Peer) (req : Json) :
    changeState (shift pre x) p req = shift2 pre (changeState x p req) := by
  rw [changeState_eq, changeState_eq, shift_st]
  split
  · rfl
  · split
    · rfl
    · split
      · rfl
      · exact ite_eq_map _ _ rfl (ite_eq_map _ _ rfl (congrArg (·, _) (notifyFetchers_shift pre { x with st := _ } ..)))

theorem addCore_shift (cfg : Config) (pre : List Obs) (x : Ctx) (p : Peer) (req : Json) (e0 : Element) :
    addCore cfg (shift pre x) p req e0 = shift2 pre (addCore cfg x p req e0) := by
  unfold addCore
  rw [findFetchersForElement_shift]
  exact ite_eq_map _ _ (congrArg (fun y : Ctx => ({ y with indexFull := false }, _)) (notifyFetchers_shift ..)) rfl

theorem addElement_shift (cfg : Config) (pre : List Obs) (x : Ctx) (p : Peer) (req : Json) :
    addElement cfg (shift pre x) p req = shift2 pre (addElement cfg x p req) := by
  rw [addElement_eq, addElement_eq, shift_st]
  split
  · rfl
  · exact addCore_shift ..

theorem removeElementReq_shift (pre : List Obs) (x : Ctx) (p : Peer) (req : Json) :
    removeElementReq (shift pre x) p req = shift2 pre (removeElementReq x p req) := by
  unfold removeElementReq
  split
  · rfl
  · split
    · exact congrArg (·, _) (removeElement_shift ..)
    · rfl

theorem routeCore_shift (cfg : Config) (pre : List Obs) (x : Ctx) (p : Peer) (req : Json) (isState : Bool)
    (params : Json) (path : Bytes) (e : Element) :
    C03.routeCore cfg (shift pre x) p req isState params path e =
      shift2 pre (C03.routeCore cfg x p req isState params path e) := by
  unfold C03.routeCore
  refine ite_eq_map _ _ rfl ?_
  split
  · rfl
  · refine ite_eq_map _ _ rfl ?_
    -- the record is stored and the timer armed in the state alone; then comes the send
    dsimp only
    rw [show C03.stored (shift pre x) (C03.newRoute (shift pre x) p req e) _ =
      shift pre (C03.stored x (C03.newRoute x p req e) _) from rfl, send_shift]
    exact ite_eq_map _ _ rfl rfl

theorem setOrCall_shift (cfg : Config) (pre : List Obs) (x : Ctx) (p : Peer) (req : Json) (isState : Bool) :
    setOrCall cfg (shift pre x) p req isState = shift2 pre (setOrCall cfg x p req isState) := by
  rw [C03.setOrCall_eq, C03.setOrCall_eq, shift_st]
  split
  · rfl
  · exact routeCore_shift ..

theorem routingResponse_shift (pre : List Obs) (x : Ctx) (p : Peer) (msg payload : Json) (typ : String) :
    routingResponse (shift pre x) p msg payload typ = shift2 pre (routingResponse x p msg payload typ) := by
  unfold routingResponse
  split
  · split
    · rfl
    · split
      · rfl
      · split
        · exact congrArg (·, true) (send'_shift pre (emit { x with st := _ } _) ..)
        · rfl
  · rfl

theorem offerAllElements_shift (cfg : Config) (pre : List Obs) (x : Ctx) (fp : Peer) (f : Fetch) :
    offerAllElements cfg (shift pre x) fp f = shift pre (offerAllElements cfg x fp f) := by
  refine foldl_comm (shift pre) _ _ (fun y owner _ => ?_) x
  refine foldl_comm (shift pre) _ _ (fun z e0 _ => ?_) y
  simp only [shift_st, offerElement_shift, shift2]
  rfl

theorem fetchReq_shift (cfg : Config) (pre : List Obs) (x : Ctx) (p : Peer) (req : Json) :
    fetchReq cfg (shift pre x) p req = shift2 pre (fetchReq cfg x p req) := by
  rw [fetchReq_eq, fetchReq_eq, shift_st]
  split
  · rfl
  · refine ite_eq_map _ _ rfl ?_
    split
    · rfl
    · exact congrArg (·, _) (offerAllElements_shift cfg pre (withFetch x ..) ..)

theorem unfetchReq_shift (pre : List Obs) (x : Ctx) (p : Peer) (req : Json) :
    unfetchReq (shift pre x) p req = shift2 pre (unfetchReq x p req) := by
  unfold unfetchReq
  split
  · rfl
  · split <;> rfl

theorem getReq_shift (cfg : Config) (pre : List Obs) (x : Ctx) (p : Peer) (req : Json) :
    getReq cfg (shift pre x) p req = shift2 pre (getReq cfg x p req) := by
  unfold getReq
  split
  · rfl
  · split <;> rfl

theorem configReq_shift (pre : List Obs) (x : Ctx) (p : Peer) (req : Json) :
    configReq (shift pre x) p req = shift2 pre (configReq x p req) := by
  unfold configReq
  split
  · rfl
  · split <;> rfl

theorem infoReq_shift (cfg : Config) (pre : List Obs) (x : Ctx) (req : Json) :
    infoReq cfg (shift pre x) req = shift2 pre (infoReq cfg x req) := rfl

theorem authenticateReq_shift (cfg : Config) (pre : List Obs) (x : Ctx) (p : Peer) (req : Json) :
    authenticateReq cfg (shift pre x) p req = shift2 pre (authenticateReq cfg x p req) := by
  rw [authenticateReq_eq, authenticateReq_eq, shift_st]
  split
  · rfl
  · refine ite_eq_map _ _ rfl ?_
    split <;> rfl

theorem passwdReq_shift (pre : List Obs) (x : Ctx) (p : Peer) (req : Json) :
    passwdReq (shift pre x) p req = shift2 pre (passwdReq x p req) := by
  rw [passwdReq_eq, passwdReq_eq, shift_st]
  split
  · rfl
  · split <;> rfl

theorem handleMethod_shift (cfg : Config) (pre : List Obs) (x : Ctx) (p : Peer) (req : Json) (m : Bytes) :
    handleMethod cfg (shift pre x) p req m = shift2 pre (handleMethod cfg x p req m) :=
  handleMethod_induct₂ (P := fun _ r r' => r = shift2 pre r') cfg (shift pre x) x p p req req
    (changeState_shift ..) (setOrCall_shift ..) (setOrCall_shift ..) (addElement_shift ..)
    (removeElementReq_shift ..) (fetchReq_shift ..) (unfetchReq_shift ..) (getReq_shift ..) (configReq_shift ..)
    (infoReq_shift ..) (authenticateReq_shift ..) (passwdReq_shift ..) (fun _ => rfl) m

theorem sendResponse_shift (pre : List Obs) (x : Ctx) (c : Nat) (r : Option Json) :
    sendResponse (shift pre x) c r = shift2 pre (sendResponse x c r) := by
  unfold sendResponse
  split
  · rfl
  · exact send_shift ..

theorem parseJsonRpc_shift (cfg : Config) (pre : List Obs) (x : Ctx) (c : Nat) (req : Json) :
    parseJsonRpc cfg (shift pre x) c req = shift2 pre (parseJsonRpc cfg x c req) := by
  unfold parseJsonRpc
  simp only [shift_st]
  split
  · rfl
  · split
    · simp only [handleMethod_shift, shift2, sendResponse_shift]
    · exact sendResponse_shift ..
    · split
      · exact routingResponse_shift ..
      · split
        · exact routingResponse_shift ..
        · exact sendResponse_shift ..

theorem parseJsonArray_shift (cfg : Config) (pre : List Obs) (c : Nat) (l : List Json) (x : Ctx) :
    parseJsonArray cfg (shift pre x) c l = shift2 pre (parseJsonArray cfg x c l) := by
  induction l generalizing x with
  | nil => rfl
  | cons m rest ih =>
    cases m with
    | obj lm =>
      simp only [parseJsonArray, parseJsonRpc_shift, shift2]
      split
      · exact ih _
      · rfl
    | _ => rfl

theorem parseMessage_shift (cfg : Config) (pre : List Obs) (x : Ctx) (c : Nat) (msg : Option Json) :
    parseMessage cfg (shift pre x) c msg = shift2 pre (parseMessage cfg x c msg) := by
  unfold parseMessage
  split
  · exact parseJsonArray_shift ..
  · exact parseJsonRpc_shift ..
  · rfl

/-! ## `freePeerResources` and `closePeer` do not read the recorded output -/

theorem clearRoute_shift (pre : List Obs) (x : Ctx) (r : Route) (c : Nat) :
    clearRoute (shift pre x) r c = shift pre (clearRoute x r c) := by
  unfold clearRoute
  refine ite_eq_map _ _ rfl ?_
  split
  · rfl
  · split
    · exact send'_shift pre (emit x _) ..
    · rfl

theorem clearRoutes_shift (pre : List Obs) (x : Ctx) (l : List Route) (c : Nat) :
    clearRoutes (shift pre x) l c = shift pre (clearRoutes x l c) :=
  foldl_comm (shift pre) _ _ (fun _ _ _ => clearRoute_shift ..) x

theorem removeElements_shift (pre : List Obs) (x : Ctx) (c : Nat) (l : List Element) :
    removeElements (shift pre x) c l = shift pre (removeElements x c l) := by
  refine foldl_comm (shift pre) _ _ (fun y e0 _ => ?_) x
  rw [shift_st]
  split
  · exact removeElement_shift ..
  · rfl

theorem freeTable_shift (pre : List Obs) (x : Ctx) (c : Nat) (p : Peer) :
    freeTable (shift pre x) c p = shift pre (freeTable x c p) := by
  rw [freeTable, clearRoutes_shift]; rfl

theorem freeRequests_shift (pre : List Obs) (x : Ctx) (c : Nat) :
    freeRequests (shift pre x) c = shift pre (freeRequests x c) := by
  rw [freeRequests, shift_st, clearRoutes_shift]; rfl

theorem unsubscribe_shift (pre : List Obs) (x : Ctx) (c : Nat) :
    unsubscribe (shift pre x) c = shift pre (unsubscribe x c) := rfl

theorem deletePeer_shift (pre : List Obs) (x : Ctx) (c : Nat) :
    deletePeer (shift pre x) c = shift pre (deletePeer x c) := rfl

theorem freePeerResources_shift (pre : List Obs) (x : Ctx) (c : Nat) :
    freePeerResources (shift pre x) c = shift pre (freePeerResources x c) := by
  cases hp : findPeer x.st.peers c with
  | none => rw [freePeerResources_none hp, freePeerResources_none (x := shift pre x) hp]
  | some p =>
    rw [freePeerResources_phases hp, freePeerResources_phases (x := shift pre x) hp, freeTable_shift, freeRequests_shift,
      unsubscribe_shift, removeElements_shift, deletePeer_shift]

theorem closePeer_shift (pre : List Obs) (x : Ctx) (c : Nat) :
    closePeer (shift pre x) c = shift pre (closePeer x c) := by
  unfold closePeer
  rw [freePeerResources_shift]
  rfl

/-! ## the batch loop as a fold -/

/-- one step of the loop of `parse_json_array`: once a member has failed, nothing more is done -/
def batchStep (cfg : Config) (c : Nat) (acc : Ctx × Bool) (m : Json) : Ctx × Bool :=
  if acc.2 then
    match m with
    | .obj l => parseJsonRpc cfg acc.1 c (.obj l)
    | _ => (acc.1, false)
  else acc

theorem batchStep_false (cfg : Config) (c : Nat) (l : List Json) (x : Ctx) :
    l.foldl (batchStep cfg c) (x, false) = (x, false) := by
  induction l with
  | nil => rfl
  | cons m rest ih => simpa [List.foldl_cons, batchStep] using ih

/-! ## a batch against separate messages, at the level of `step` -/

/-- the oracle values a context has not consumed yet -/
def restOracle (x : Ctx) : Oracle := { sends := x.sends, indexFull := x.indexFull, routeFull := x.routeFull }

theorem ctx_eq_shift (x : Ctx) : x = shift x.out (mkCtx x.st (restOracle x)) := rfl

/-- the tail of `step` for a message operation, from an arbitrary context -/
def finish (c : Nat) (r : Ctx × Bool) : State × List Obs :=
  let x := if r.2 then r.1 else closePeer r.1 c
  (x.st, x.out.reverse)

theorem finish_shift (c : Nat) (pre : List Obs) (r : Ctx × Bool) :
    finish c (shift2 pre r) = ((finish c r).1, pre.reverse ++ (finish c r).2) := by
  unfold finish
  cases h : r.2 with
  | true => simp [shift2, h, List.reverse_append]
  | false => simp [shift2, h, closePeer_shift, List.reverse_append]

theorem step_message_eq (cfg : Config) (s : State) (c : Nat) (msg : Option Json) (o : Oracle)
    (hlive : (findPeer s.peers c).isSome = true) :
    step cfg s (.message c msg o) = finish c (parseMessage cfg (mkCtx s o) c msg) :=
  step_message_live cfg hlive msg o

theorem step_batch_append (cfg : Config) (s : State) (c : Nat) (l1 l2 : List Json) (o : Oracle)
    (hlive : (findPeer s.peers c).isSome = true) (hok : (parseJsonArray cfg (mkCtx s o) c l1).2 = true) :
    step cfg s (.message c (some (.arr (l1 ++ l2))) o) =
      ((step cfg (step cfg s (.message c (some (.arr l1)) o)).1
          (.message c (some (.arr l2)) (restOracle (parseJsonArray cfg (mkCtx s o) c l1).1))).1,
       (step cfg s (.message c (some (.arr l1)) o)).2 ++
        (step cfg (step cfg s (.message c (some (.arr l1)) o)).1
          (.message c (some (.arr l2)) (restOracle (parseJsonArray cfg (mkCtx s o) c l1).1))).2) := by
  have h1 : step cfg s (.message c (some (.arr l1)) o) =
      ((parseJsonArray cfg (mkCtx s o) c l1).1.st, (parseJsonArray cfg (mkCtx s o) c l1).1.out.reverse) := by
    rw [step_message_eq cfg s c _ o hlive]
    simp [finish, parseMessage, hok]
  have hlive1 : (findPeer (parseJsonArray cfg (mkCtx s o) c l1).1.st.peers c).isSome = true :=
    (findPeer_isSome_of_conns (parseMessage_routeStep cfg (mkCtx s o) c (some (.arr l1))).conns c).trans hlive
  rw [h1]
  dsimp only
  rw [step_message_eq cfg s c _ o hlive, step_message_eq cfg _ c _ _ hlive1, parseMessage_arr,
    parseJsonArray_append, if_pos hok]
  -- the second part runs in a context that already holds the output of the first
  generalize parseJsonArray cfg (mkCtx s o) c l1 = r
  have h3 : parseJsonArray cfg r.1 c l2 =
      shift2 r.1.out (parseJsonArray cfg (mkCtx r.1.st (restOracle r.1)) c l2) := by
    rw [← parseJsonArray_shift]; rfl
  rw [h3, finish_shift]
  rfl

theorem step_batch_single (cfg : Config) (s : State) (c : Nat) (la : List (Bytes × Json)) (o : Oracle) :
    step cfg s (.message c (some (.arr [.obj la])) o) = step cfg s (.message c (some (.obj la)) o) := by
  unfold step
  simp only [parseMessage, parseJsonArray_single]
  rfl

end Cjet.Daemon.C02
