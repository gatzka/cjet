/-
  Cjet.Lemmas.DaemonC11Answer — a set/call request whose delivery to the owner fails: the exact
  step (outputs and post-state); and the concrete history used by the non-vacuity examples of
  `Cjet.Props.C11`.
-/
import Cjet.Lemmas.DaemonC11Run
import Cjet.Lemmas.DaemonC11Dec

namespace Cjet.Daemon.C11

open Cjet Cjet.Json Cjet.Daemon Cjet.Daemon.C03 Cjet.Daemon.C05

/-- the checks of set_or_call: either the error response, or the arguments of the routing part -/
def setOrCallPlan (cfg : Config) (st : State) (p : Peer) (req : Json) (isState : Bool) :
    Sum (Option Json) (Json × Bytes × Element × Option Json × Option Json) :=
  match getParamsAndPath req with
  | .err r => .inl r
  | .ok params path =>
    match findElement st path with
    | none => .inl (errorFromRequest req INVALID_PARAMS "not exists" path)
    | some e =>
      if e.fetchOnly then .inl (errorFromRequest req INVALID_PARAMS "fetchOnly" path)
      else if isState != e.value.isSome then
        .inl (errorFromRequest req INVALID_PARAMS "set/call on element not possible" path)
      else if !(if isState then hasAccess cfg e.setGroups p.setGroups else hasAccess cfg e.callGroups p.callGroups) then
        .inl (errorFromRequest req INVALID_PARAMS "request not authorized" path)
      else
        match req.getItem (k "id") with
        | some (.str s) => .inr (params, path, e, some (.str s),
            if isState then params.getItem (k "value") else params.getItem (k "args"))
        | some (.num n) => .inr (params, path, e, some (.num n),
            if isState then params.getItem (k "value") else params.getItem (k "args"))
        | none => .inr (params, path, e, none,
            if isState then params.getItem (k "value") else params.getItem (k "args"))
        | some _ => .inl (errorFromRequest req INVALID_PARAMS "request id is neither string nor number" path)

theorem setOrCallPlan_eq (cfg : Config) (s : State) (p : Peer) (req : Json) (isState : Bool) :
    setOrCallPlan cfg s p req isState =
      match routeChecks cfg s p req isState with
      | .error r => .inl r
      | .ok (params, path, e) => .inr (params, path, e, req.getItem (k "id"), reqValue isState params) := by
  unfold setOrCallPlan routeChecks reqValue
  cases getParamsAndPath req with
  | err r => rfl
  | ok params path =>
    dsimp only
    cases findElement s path with
    | none => rfl
    | some e =>
      dsimp only
      cases e.fetchOnly with
      | true => rfl
      | false =>
        cases (isState != e.value.isSome) with
        | true => rfl
        | false =>
          cases (if isState then hasAccess cfg e.setGroups p.setGroups else hasAccess cfg e.callGroups p.callGroups) with
          | false => rfl
          | true =>
            cases req.getItem (k "id") with
            | none => rfl
            | some j => cases j <;> rfl

theorem setOrCallPlan_inr {cfg : Config} {s : State} {p : Peer} {req : Json} {isState : Bool} {params : Json}
    {path : Bytes} {e : Element} {oid value : Option Json}
    (h : setOrCallPlan cfg s p req isState = .inr (params, path, e, oid, value)) :
    routeChecks cfg s p req isState = .ok (params, path, e) ∧ req.getItem (k "id") = oid ∧
      reqValue isState params = value := by
  rw [setOrCallPlan_eq] at h
  cases hc : routeChecks cfg s p req isState with
  | error r => rw [hc] at h; cases h
  | ok a =>
    rw [hc] at h
    cases h
    exact ⟨rfl, rfl, rfl⟩

/-- `req`, sent by `c` (record `p`) in state `s`, is a `set` (`isState`) or `call` request that
    passes every check of set_or_call and is therefore routed to the owner of the element `e`
    addressed by `path`, with request id `id`, payload `value` and timeout `tns`. -/
def RoutedBy (cfg : Config) (s : State) (c : Nat) (req : Json) (p : Peer) (isState : Bool) (path : Bytes)
    (e : Element) (id : Json) (value : Option Json) (tns : Nat) : Prop :=
  findPeer s.peers c = some p ∧
  (∃ m, req.getItem (k "method") = some (.str m) ∧ (m == k "change") = false ∧
    (if isState then (m == k "set") = true else ((m == k "set") = false ∧ (m == k "call") = true))) ∧
  (∃ params, setOrCallPlan cfg s p req isState = .inr (params, path, e, some id, value) ∧
    getTimeout cfg (params.getItem (k "timeout")) e.timeoutNs = .ns tns) ∧
  (isState && value.isNone) = false

theorem handleMethod_routed (cfg : Config) (x : Ctx) (p : Peer) (req : Json) {m : Bytes} {isState : Bool}
    (h2 : if isState then (m == k "set") = true else ((m == k "set") = false ∧ (m == k "call") = true)) :
    handleMethod cfg x p req m = setOrCall cfg x p req isState := by
  cases isState with
  | true => rw [beq_iff_eq.1 h2, handleMethod_set]
  | false => rw [beq_iff_eq.1 h2.2, handleMethod_call]

theorem errorFromRequest_of_idOk {req id : Json} (hid : req.getItem (k "id") = some id)
    (hok : idOk (some id) = true) (code : Int) (tag : String) (reason : Bytes) :
    errorFromRequest req code tag reason = some (.obj [(k "id", id), (k "error", errorObject code tag reason)]) := by
  unfold errorFromRequest
  rw [hid]
  cases id <;> first | rfl | cases hok

theorem parseMessage_routed {cfg : Config} {s : State} {c : Nat} {l : List (Bytes × Json)} {p : Peer} {m : Bytes}
    {isState : Bool} {params : Json} {path : Bytes} {e : Element} (hp : findPeer s.peers c = some p)
    (hm : (Json.obj l).getItem (k "method") = some (.str m))
    (hm2 : if isState then (m == k "set") = true else ((m == k "set") = false ∧ (m == k "call") = true))
    (hchk : routeChecks cfg s p (.obj l) isState = .ok (params, path, e)) (o : Oracle) :
    parseMessage cfg (mkCtx s o) c (some (.obj l)) =
      sendResponse (routeCore cfg (mkCtx s o) p (.obj l) isState params path e).1 c
        (routeCore cfg (mkCtx s o) p (.obj l) isState params path e).2 := by
  have hchk' : routeChecks cfg (mkCtx s o).st p (.obj l) isState = .ok (params, path, e) := hchk
  show parseJsonRpc cfg (mkCtx s o) c (.obj l) = _
  rw [parseJsonRpc_method hp hm, handleMethod_routed cfg (mkCtx s o) p (.obj l) hm2, setOrCall_eq, hchk']

theorem step_message_live (cfg : Config) {s : State} {c : Nat} {p : Peer} (hp : findPeer s.peers c = some p)
    (msg : Option Json) (o : Oracle) {x : Ctx} (h : parseMessage cfg (mkCtx s o) c msg = (x, true)) :
    step cfg s (.message c msg o) = (x.st, x.out.reverse) := by
  rw [Daemon.step_message_live cfg (by rw [hp]; rfl), h]
  rfl

/-- The delivery of a routed request to the owner fails, the requester is healthy: the step arms
    the timer, attempts the delivery, destroys the timer again, removes the routing entry and
    sends the requester exactly one response: INTERNAL_ERROR "could not send routing information". -/
theorem routed_failed_delivery (cfg : Config) {s : State} {c : Nat} {l : List (Bytes × Json)} {p : Peer}
    {isState : Bool} {path : Bytes} {e : Element} {id : Json} {value : Option Json} {tns : Nat}
    (h : RoutedBy cfg s c (.obj l) p isState path e id value tns) (o : Oracle) (hrf : o.routeFull = false)
    (rest : List Bool) (hs : o.sends = false :: true :: rest) :
    step cfg s (.message c (some (.obj l)) o) =
      ({ s with
          uuid := (s.uuid + 1) % 4294967296, nextTimer := s.nextTimer + 1,
          peers := removeRoute (updatePeer s.peers e.owner (fun q => { q with routes := q.routes ++
            [⟨routedId (some id) s.uuid p.addrTok, c, e.owner, some id, s.nextTimer⟩] })) e.owner
            (routedId (some id) s.uuid p.addrTok) },
       [.timerArm s.nextTimer tns,
        .send e.owner (routedMessage (routedId (some id) s.uuid p.addrTok) path isState value) false,
        .timerDestroy s.nextTimer,
        .send c (.obj [(k "id", id), (k "error",
          errorObject INTERNAL_ERROR "reason" (k "could not send routing information"))]) true]) := by
  obtain ⟨hp, ⟨m, hm, _, hm2⟩, ⟨params, hplan, htn⟩, hval⟩ := h
  obtain ⟨hchk, hid, rfl⟩ := setOrCallPlan_inr hplan
  obtain rfl := findPeer_conn hp
  have hok := hid ▸ (routeChecks_ok_iff.1 hchk).id
  have hx : mkCtx s o = ⟨s, [], false :: true :: rest, o.indexFull, false⟩ := by
    unfold mkCtx; rw [hs, hrf]
  rw [step_message_live cfg hp _ o (by
    rw [parseMessage_routed hp hm hm2 hchk, routeCore_send hval htn hrf, hx,
      errorFromRequest_of_idOk hid hok]; rfl), ← hid]
  rfl

/-- the same request when the delivery succeeds: the request is routed, a routing entry with an
    armed timer records it, nothing is answered yet -/
theorem routed_delivered (cfg : Config) {s : State} {c : Nat} {l : List (Bytes × Json)} {p : Peer}
    {isState : Bool} {path : Bytes} {e : Element} {id : Json} {value : Option Json} {tns : Nat}
    (h : RoutedBy cfg s c (.obj l) p isState path e id value tns) (o : Oracle) (hrf : o.routeFull = false)
    (rest : List Bool) (hs : o.sends = true :: rest) :
    step cfg s (.message c (some (.obj l)) o) =
      ({ s with
          uuid := (s.uuid + 1) % 4294967296, nextTimer := s.nextTimer + 1,
          peers := updatePeer s.peers e.owner (fun q => { q with routes := q.routes ++
            [⟨routedId (some id) s.uuid p.addrTok, c, e.owner, some id, s.nextTimer⟩] }) },
       [.timerArm s.nextTimer tns,
        .send e.owner (routedMessage (routedId (some id) s.uuid p.addrTok) path isState value) true]) := by
  obtain ⟨hp, ⟨m, hm, _, hm2⟩, ⟨params, hplan, htn⟩, hval⟩ := h
  obtain ⟨hchk, hid, rfl⟩ := setOrCallPlan_inr hplan
  obtain rfl := findPeer_conn hp
  have hx : mkCtx s o = ⟨s, [], true :: rest, o.indexFull, false⟩ := by
    unfold mkCtx; rw [hs, hrf]
  rw [step_message_live cfg hp _ o (by
    rw [parseMessage_routed hp hm hm2 hchk, routeCore_send hval htn hrf, hx]; rfl), ← hid]
  rfl

end Cjet.Daemon.C11

namespace Cjet.Props.C11

open Cjet Cjet.Json Cjet.Daemon Cjet.Daemon.C05 Cjet.Daemon.C11

/-! ## concrete history used by the non-vacuity examples of `Cjet.Props.C11` -/

/-! peer 1 owns state "a"; peers 2 and 3 fetch everything -/

def exNum (i : Int) : Json := .num ⟨0, i⟩
def exReq (method : String) (id : Int) (params : List (Bytes × Json)) : Json :=
  .obj [(k "method", mkStr method), (k "id", exNum id), (k "params", .obj params)]
def exOps : List Op :=
  [.connect 1 false true [49], .connect 2 false true [50], .connect 3 true false [51],
   .message 1 (some (exReq "add" 1 [(k "path", mkStr "a"), (k "value", exNum 1)])) {},
   .message 2 (some (exReq "fetch" 2 [(k "id", mkStr "f2")])) {},
   .message 3 (some (exReq "fetch" 3 [(k "id", exNum 7)])) {}]
def exS : State := (run {} {} exOps).1
theorem exS_reachable : Reachable {} exS := exS.eq_1 ▸ (Reachable.init {} []).run exOps

/-- peer 1 changes "a": notification to 2 (fails / succeeds), to 3, then the response to 1 -/
def exChange : Option Json := some (exReq "change" 4 [(k "path", mkStr "a"), (k "value", exNum 5)])
/-- peer 3 sets "a" (owned by 1) -/
def exSet : Json := exReq "set" 9 [(k "path", mkStr "a"), (k "value", exNum 2)]


theorem ex_h3 : (findPeer exS.peers 3).isSome = true := by decide +kernel
def exP : Peer := (findPeer exS.peers 3).get ex_h3
theorem ex_hpl : ((setOrCallPlan {} exS exP exSet true).getRight?).isSome = true := by decide +kernel
def exPlan : Json × Bytes × Element × Option Json × Option Json :=
  ((setOrCallPlan {} exS exP exSet true).getRight?).get ex_hpl

theorem ex_routedBy : RoutedBy {} exS 3 exSet exP true exPlan.2.1 exPlan.2.2.1 (exNum 9) exPlan.2.2.2.2 5000000000 := by
  have hm : exSet.getItem (k "method") = some (.str (k "set")) ∧ (k "set" == k "change") = false ∧
      (k "set" == k "set") = true := by decide +kernel
  have hp : exPlan.2.2.2.1 = some (exNum 9) ∧ exPlan.1.getItem (k "timeout") = none ∧
      exPlan.2.2.1.timeoutNs = 5000000000 ∧ (true && exPlan.2.2.2.2.isNone) = false := by decide +kernel
  refine ⟨(Option.some_get ex_h3).symm, ⟨k "set", hm.1, hm.2.1, hm.2.2⟩, ⟨exPlan.1, ?_, ?_⟩, hp.2.2.2⟩
  · rw [← hp.1]
    exact Sum.getRight?_eq_some_iff.1 (Option.some_get ex_hpl).symm
  · rw [hp.2.1, hp.2.2.1]
    rfl

/-- target, routed-request shape and result of each output (non-sends as `(0, false, true)`) -/
def exSummary (o : List Obs) : List (Nat × Bool × Bool) :=
  o.map fun | .send d j b => (d, isRouted j, b) | _ => (0, false, true)

theorem exSummary_getElem? {o : List Obs} {i d : Nat} {j : Json} {b : Bool} (h : o[i]? = some (.send d j b)) :
    (exSummary o)[i]? = some (d, isRouted j, b) := by
  simp [exSummary, List.getElem?_map, h]

/-- peer 1 changes "a" and the notification to subscriber 2 fails: what the step sends -/
theorem ex_change_failed :
    exSummary (step {} exS (.message 1 exChange { sends := [false, true, true] })).2 =
      [(2, false, false), (3, false, true), (1, false, true)] := by decide +kernel

/-- the same step when every send succeeds -/
theorem ex_change_ok :
    exSummary (step {} exS (.message 1 exChange { sends := [true, true, true] })).2 =
      [(2, false, true), (3, false, true), (1, false, true)] := by decide +kernel

end Cjet.Props.C11
