/-
  Cjet.Lemmas.DaemonC11Run — lockstep of two runs that differ only in send results.  Two runs of
  the same message from such contexts stay in lockstep as long as the results of the *decisive*
  sends agree: the response sent to the requester, and a routed request sent to the owner of the
  addressed element.  From one message to whole messages, steps, runs.
-/
import Cjet.Lemmas.DaemonC11Sim

namespace Cjet.Daemon.C11

open Cjet Cjet.Json Cjet.Daemon Cjet.Daemon.C05

/-! ## decisive sends -/

section
open Cjet.Daemon.C03

/-- the shape of a routed request (`routedMessage`): `{"id": <string>, "method": <string>, "params": …}`;
    notifications have no "id", responses no "method" -/
def isRouted : Json → Bool
  | .obj [(a, .str _), (b, .str _), (c, _)] => a == k "id" && b == k "method" && c == k "params"
  | _ => false

theorem isRouted_routedMessage (rid path : Bytes) (isState : Bool) (value : Option Json) :
    isRouted (routedMessage rid path isState value) = true := by
  unfold routedMessage isRouted
  simp

/-- the sends whose result the daemon looks at while it serves a message of `c` -/
def Crit (c : Nat) (d : Nat) (j : Json) : Prop := d = c ∨ isRouted j = true

/-- wherever both output lists have a send to the same peer at the same position and that send is
    decisive, its result is the same in both -/
def AgreeOn (K : Nat → Json → Prop) (o1 o2 : List Obs) : Prop :=
  ∀ (i d : Nat) (j1 j2 : Json) (b1 b2 : Bool),
    o1[i]? = some (Obs.send d j1 b1) → o2[i]? = some (Obs.send d j2 b2) → K d j1 → b1 = b2

/-- `o` (oldest first) begins with the outputs of `z` -/
def Ext (z : Ctx) (o : List Obs) : Prop := ∃ t, o = z.out.reverse ++ t

theorem Ext.refl (z : Ctx) : Ext z z.out.reverse := ⟨[], by simp⟩

theorem Ext.of_grows {z z' : Ctx} {o : List Obs} (hg : ∃ D, z'.out = D ++ z.out) (h : Ext z' o) : Ext z o := by
  obtain ⟨D, hD⟩ := hg
  obtain ⟨t, ht⟩ := h
  exact ⟨D.reverse ++ t, by rw [ht, hD]; simp⟩

theorem AgreeOn.prefix {K : Nat → Json → Prop} {a b a' b' : List Obs} (h : AgreeOn K (a ++ a') (b ++ b')) :
    AgreeOn K a b := by
  intro i d j1 j2 b1 b2 h1 h2 hk
  apply h i d j1 j2 b1 b2 _ _ hk
  · have hi : i < a.length := by
      rcases Nat.lt_or_ge i a.length with hlt | hge
      · exact hlt
      · rw [List.getElem?_eq_none hge] at h1; cases h1
    rw [List.getElem?_append_left hi]; exact h1
  · have hi : i < b.length := by
      rcases Nat.lt_or_ge i b.length with hlt | hge
      · exact hlt
      · rw [List.getElem?_eq_none hge] at h2; cases h2
    rw [List.getElem?_append_left hi]; exact h2

/-- a decisive send has the same result in both runs -/
theorem send_sync {K : Nat → Json → Prop} {x y : Ctx} (h : Sim x y) (d : Nat) (j : Json) (hK : K d j)
    {o1 o2 : List Obs} (e1 : Ext (send x d j).1 o1) (e2 : Ext (send y d j).1 o2) (ha : AgreeOn K o1 o2) :
    (send x d j).2 = (send y d j).2 := by
  obtain ⟨t1, ht1⟩ := e1
  obtain ⟨t2, ht2⟩ := e2
  rw [send_out_snd] at ht1 ht2
  have hl := h.out_length
  have g1 : o1[x.out.length]? = some (Obs.send d j (send x d j).2) := by
    rw [ht1]
    simp only [List.reverse_cons, List.append_assoc, List.singleton_append]
    rw [List.getElem?_append_right (by simp)]
    simp
  have g2 : o2[x.out.length]? = some (Obs.send d j (send y d j).2) := by
    rw [ht2, hl]
    simp only [List.reverse_cons, List.append_assoc, List.singleton_append]
    rw [List.getElem?_append_right (by simp)]
    simp
  exact ha _ d j j _ _ g1 g2 hK

theorem sendResponse_grows (z : Ctx) (c : Nat) (r : Option Json) : ∃ D, (sendResponse z c r).1.out = D ++ z.out :=
  ⟨_, sendResponse_out z c r⟩

theorem sendResponse_sync {K : Nat → Json → Prop} {x y : Ctx} (h : Sim x y) (c : Nat) (r : Option Json)
    (hK : ∀ j, K c j) {o1 o2 : List Obs} (e1 : Ext (sendResponse x c r).1 o1)
    (e2 : Ext (sendResponse y c r).1 o2) (ha : AgreeOn K o1 o2) :
    SimR (sendResponse x c r) (sendResponse y c r) := by
  unfold sendResponse at e1 e2 ⊢
  cases r with
  | none => exact ⟨h, rfl⟩
  | some j => exact ⟨h.send c j, send_sync h c j (hK j) e1 e2 ha⟩

/-! ## set / call -/

/-- the routed request is a decisive send: the two runs go on alike if its result is the same -/
theorem routeCore_sync (cfg : Config) {K : Nat → Json → Prop} {x y : Ctx} (h : Sim x y) (p : Peer) (req : Json)
    (isState : Bool) (params : Json) (path : Bytes) (e : Element)
    (hK : ∀ j, isRouted j = true → K e.owner j) {o1 o2 : List Obs}
    (e1 : Ext (routeCore cfg x p req isState params path e).1 o1)
    (e2 : Ext (routeCore cfg y p req isState params path e).1 o2) (ha : AgreeOn K o1 o2) :
    SimR (routeCore cfg x p req isState params path e) (routeCore cfg y p req isState params path e) := by
  have hr : newRoute y p req e = newRoute x p req e := by rw [newRoute, ← h.1]; rfl
  unfold routeCore
  dsimp only
  rw [← h.2.2.1, hr, ← h.1]
  -- each conditional is reduced before the results are compared: the kernel, given the two
  -- unreduced conditionals, would compare the branches not taken as well
  cases hv : (isState && (reqValue isState params).isNone) with
  | true => rw [if_pos rfl, if_pos rfl]; exact ⟨h.ticked, rfl⟩
  | false =>
    simp only [Bool.false_eq_true, ↓reduceIte]
    cases ht : getTimeout cfg (params.getItem (k "timeout")) e.timeoutNs with
    | err reason => dsimp only; exact ⟨h.ticked, rfl⟩
    | ns tns =>
      dsimp only
      cases hf : x.routeFull with
      | true => rw [if_pos rfl, if_pos rfl]; exact ⟨(h.timed.emit _).setRouteFull false, rfl⟩
      | false =>
        simp only [Bool.false_eq_true, ↓reduceIte]
        -- only here do the final outputs matter: they fix the result of the routed send
        rw [routeCore_send hv ht hf] at e1
        rw [routeCore_send hv ht (h.2.2.1 ▸ hf), hr] at e2
        dsimp only at e1 e2
        have hs := h.stored (newRoute x p req e) tns
        have hb := send_sync hs e.owner
          (routedMessage (newRoute x p req e).rid path isState (reqValue isState params))
          (hK _ (isRouted_routedMessage _ _ _ _))
          (by split at e1
              · exact e1
              · exact Ext.of_grows ⟨[_], rfl⟩ e1)
          (by split at e2
              · exact e2
              · exact Ext.of_grows ⟨[_], rfl⟩ e2) ha
        rw [← hb]
        split
        · exact ⟨hs.send _ _, rfl⟩
        · exact ⟨((hs.send _ _).setSt fun st =>
            { st with peers := removeRoute st.peers e.owner (newRoute x p req e).rid }).emit _, rfl⟩

theorem setOrCall_sync (cfg : Config) {K : Nat → Json → Prop} {x y : Ctx} (h : Sim x y) (p : Peer)
    (req : Json) (isState : Bool) (hK : ∀ d j, isRouted j = true → K d j) {o1 o2 : List Obs}
    (e1 : Ext (setOrCall cfg x p req isState).1 o1) (e2 : Ext (setOrCall cfg y p req isState).1 o2)
    (ha : AgreeOn K o1 o2) :
    SimR (setOrCall cfg x p req isState) (setOrCall cfg y p req isState) := by
  rw [setOrCall_eq cfg x] at e1 ⊢
  rw [setOrCall_eq cfg y, ← h.1] at e2 ⊢
  generalize routeChecks cfg x.st p req isState = checks at e1 e2 ⊢
  obtain r | ⟨params, path, e⟩ := checks
  · exact ⟨h, rfl⟩
  · exact routeCore_sync cfg h p req isState params path e (fun j hj => hK _ j hj) e1 e2 ha

/-! ## handle_method -/

theorem handleMethod_sync (cfg : Config) {K : Nat → Json → Prop} {x y : Ctx} (h : Sim x y) (p : Peer)
    (req : Json) (m : Bytes) (hK : ∀ d j, isRouted j = true → K d j) {o1 o2 : List Obs}
    (e1 : Ext (handleMethod cfg x p req m).1 o1) (e2 : Ext (handleMethod cfg y p req m).1 o2)
    (ha : AgreeOn K o1 o2) :
    SimR (handleMethod cfg x p req m) (handleMethod cfg y p req m) :=
  -- only set and call look at a send result, and then the final outputs decide
  handleMethod_induct₂ (P := fun _ a b => Ext a.1 o1 → Ext b.1 o2 → SimR a b) cfg x y p p req req
    (fun _ _ => changeState_sim h p req)
    (fun e1 e2 => setOrCall_sync cfg h p req true hK e1 e2 ha)
    (fun e1 e2 => setOrCall_sync cfg h p req false hK e1 e2 ha)
    (fun _ _ => addElement_sim cfg h p req) (fun _ _ => removeElementReq_sim h p req)
    (fun _ _ => fetchReq_sim cfg h p req) (fun _ _ => unfetchReq_sim h p req) (fun _ _ => getReq_sim cfg h p req)
    (fun _ _ => configReq_sim h p req) (fun _ _ => infoReq_sim cfg h req)
    (fun _ _ => authenticateReq_sim cfg h p req) (fun _ _ => passwdReq_sim h p req)
    (fun _ _ _ => ⟨h, rfl⟩) m e1 e2

/-! ## parse_json_rpc -/

/-- One JSON-RPC object of connection `c`, processed from two contexts that differ only in send
    results: if the two runs agree on the results of the sends to `c` and of routed requests
    (`Crit c`), they end in contexts that again differ only in send results, with the same
    verdict (keep / drop the connection). -/
theorem parseJsonRpc_sync (cfg : Config) {x y : Ctx} (h : Sim x y) (c : Nat) (req : Json) {o1 o2 : List Obs}
    (e1 : Ext (parseJsonRpc cfg x c req).1 o1) (e2 : Ext (parseJsonRpc cfg y c req).1 o2)
    (ha : AgreeOn (Crit c) o1 o2) :
    SimR (parseJsonRpc cfg x c req) (parseJsonRpc cfg y c req) := by
  cases hp : findPeer x.st.peers c with
  | none => rw [parseJsonRpc_noPeer hp, parseJsonRpc_noPeer (h.1 ▸ hp)]; exact ⟨h, rfl⟩
  | some p =>
    have hp' : findPeer y.st.peers c = some p := h.1 ▸ hp
    have answer : ∀ r, parseJsonRpc cfg x c req = sendResponse x c r → parseJsonRpc cfg y c req = sendResponse y c r →
        SimR (parseJsonRpc cfg x c req) (parseJsonRpc cfg y c req) := fun r h1 h2 => by
      rw [h1] at e1 ⊢
      rw [h2] at e2 ⊢
      exact sendResponse_sync h c r (fun j => Or.inl rfl) e1 e2 ha
    cases hm : req.getItem (k "method") with
    | some j =>
      cases j with
      | str m =>
        rw [parseJsonRpc_method hp hm] at e1 ⊢
        rw [parseJsonRpc_method hp' hm] at e2 ⊢
        have hm := handleMethod_sync cfg (K := Crit c) h p req m (fun d j hj => Or.inr hj)
          (Ext.of_grows (sendResponse_grows _ _ _) e1) (Ext.of_grows (sendResponse_grows _ _ _) e2) ha
        rw [← hm.2] at e2 ⊢
        exact sendResponse_sync hm.1 c _ (fun j => Or.inl rfl) e1 e2 ha
      | _ => exact answer _ (parseJsonRpc_badMethod hp hm nofun) (parseJsonRpc_badMethod hp' hm nofun)
    | none =>
      cases hr : req.getItem (k "result") with
      | some res =>
        rw [parseJsonRpc_result hp hm hr, parseJsonRpc_result hp' hm hr]
        exact routingResponse_sim h p req res "result"
      | none =>
        cases he : req.getItem (k "error") with
        | some err =>
          rw [parseJsonRpc_error hp hm hr he, parseJsonRpc_error hp' hm hr he]
          exact routingResponse_sim h p req err "error"
        | none => exact answer _ (parseJsonRpc_neither hp hm hr he) (parseJsonRpc_neither hp' hm hr he)

end

/-! ## whole messages -/

theorem Sim.inv {x y : Ctx} (h : Sim x y) (hI : Inv x.st) : Inv y.st := h.1 ▸ hI

theorem parseJsonArray_nil (cfg : Config) (x : Ctx) (c : Nat) : parseJsonArray cfg x c [] = (x, true) := rfl

theorem Ext.of_batch {cfg : Config} {x : Ctx} (hI : Inv x.st) {c : Nat} {l : List (Bytes × Json)} {rest : List Json}
    {o : List Obs} (e : Ext (parseJsonArray cfg x c (.obj l :: rest)).1 o) : Ext (parseJsonRpc cfg x c (.obj l)).1 o := by
  rw [parseJsonArray_cons_obj] at e
  split at e
  · exact Ext.of_grows (parseJsonArray_ok cfg (parseJsonRpc_ok cfg hI c (.obj l)).inv c rest).grows e
  · exact e

theorem parseJsonArray_sync (cfg : Config) {x y : Ctx} (hI : Inv x.st) (h : Sim x y) (c : Nat) (l : List Json)
    {o1 o2 : List Obs} (e1 : Ext (parseJsonArray cfg x c l).1 o1) (e2 : Ext (parseJsonArray cfg y c l).1 o2)
    (ha : AgreeOn (Crit c) o1 o2) :
    SimR (parseJsonArray cfg x c l) (parseJsonArray cfg y c l) := by
  induction l generalizing x y with
  | nil => exact ⟨h, rfl⟩
  | cons j rest ih =>
    cases j with
    | obj l' =>
      obtain ⟨hs, hb⟩ := parseJsonRpc_sync cfg h c (.obj l') (Ext.of_batch hI e1) (Ext.of_batch (h.inv hI) e2) ha
      rw [parseJsonArray_cons_obj] at e1 e2
      rw [parseJsonArray_cons_obj, parseJsonArray_cons_obj]
      rw [← hb] at e2 ⊢
      cases hbb : (parseJsonRpc cfg x c (.obj l')).2 with
      | true =>
        rw [hbb] at e1 e2
        exact ih (parseJsonRpc_ok cfg hI c (.obj l')).inv hs e1 e2
      | false => exact ⟨hs, rfl⟩
    | _ => exact ⟨h, rfl⟩

theorem parseMessage_sync (cfg : Config) {x y : Ctx} (hI : Inv x.st) (h : Sim x y) (c : Nat) (msg : Option Json)
    {o1 o2 : List Obs} (e1 : Ext (parseMessage cfg x c msg).1 o1) (e2 : Ext (parseMessage cfg y c msg).1 o2)
    (ha : AgreeOn (Crit c) o1 o2) :
    SimR (parseMessage cfg x c msg) (parseMessage cfg y c msg) := by
  cases msg with
  | none => exact ⟨h, rfl⟩
  | some j =>
    cases j with
    | arr l => exact parseJsonArray_sync cfg hI h c l e1 e2 ha
    | obj l => exact parseJsonRpc_sync cfg h c (.obj l) e1 e2 ha
    | _ => exact ⟨h, rfl⟩

/-! ## steps -/

theorem Sim.out_reverse {x y : Ctx} (h : Sim x y) : x.out.reverse.map strip = y.out.reverse.map strip := by
  rw [List.map_reverse, List.map_reverse, h.2.2.2]

theorem Ext.of_step {cfg : Config} {s : State} (hI : Inv s) {c : Nat} (hc : c ∈ conns s.peers) (msg : Option Json)
    (o : Oracle) : Ext (parseMessage cfg (mkCtx s o) c msg).1
      (if (parseMessage cfg (mkCtx s o) c msg).2 = true then (parseMessage cfg (mkCtx s o) c msg).1
        else closePeer (parseMessage cfg (mkCtx s o) c msg).1 c).out.reverse := by
  have ok := parseMessage_ok cfg (x := mkCtx s o) hI c msg
  split
  · exact Ext.refl _
  · obtain ⟨p, hp⟩ := findPeer_of_conns (ps := (parseMessage cfg (mkCtx s o) c msg).1.st.peers) (ok.2.1 ▸ hc)
    obtain ⟨D, hD, _⟩ := closePeer_out ok.inv hp
    exact ⟨D ++ [Obs.closed c], by rw [hD, List.append_assoc]⟩

/-- The same message of `c`, served from the same state with two oracles (same table refusals,
    any send results): if the two output lists agree on the results of the sends to `c` and of
    the routed requests, the post-states are equal and the outputs are equal up to send results. -/
theorem message_sync (cfg : Config) {s : State} (hI : Inv s) (c : Nat) (msg : Option Json) (o1 o2 : Oracle)
    (hif : o1.indexFull = o2.indexFull) (hrf : o1.routeFull = o2.routeFull)
    (ha : AgreeOn (Crit c) (step cfg s (.message c msg o1)).2 (step cfg s (.message c msg o2)).2) :
    (step cfg s (.message c msg o1)).1 = (step cfg s (.message c msg o2)).1 ∧
    (step cfg s (.message c msg o1)).2.map strip = (step cfg s (.message c msg o2)).2.map strip := by
  rw [step_message_eq, step_message_eq] at ha ⊢
  by_cases hn : (findPeer s.peers c).isNone = true
  · rw [if_pos hn, if_pos hn]; exact ⟨rfl, rfl⟩
  · simp only [if_neg hn] at ha ⊢
    have hc : c ∈ conns s.peers := Classical.not_not.1 (mt findPeer_isNone.2 hn)
    obtain ⟨hs, hb⟩ := parseMessage_sync cfg (x := mkCtx s o1) (y := mkCtx s o2) hI ⟨rfl, hif, hrf, rfl⟩ c msg
      (Ext.of_step hI hc msg o1) (Ext.of_step hI hc msg o2) ha
    rw [← hb]
    cases (parseMessage cfg (mkCtx s o1) c msg).2 with
    | true => exact ⟨hs.1, hs.out_reverse⟩
    | false => exact ⟨(closePeer_sim hs c).1, (closePeer_sim hs c).out_reverse⟩

/-- a disconnect and a timer expiry do not look at any send result -/
theorem disconnect_sync (cfg : Config) (s : State) (c : Nat) (o1 o2 : Oracle)
    (hif : o1.indexFull = o2.indexFull) (hrf : o1.routeFull = o2.routeFull) :
    (step cfg s (.disconnect c o1)).1 = (step cfg s (.disconnect c o2)).1 ∧
    (step cfg s (.disconnect c o1)).2.map strip = (step cfg s (.disconnect c o2)).2.map strip := by
  rw [step_disconnect_eq, step_disconnect_eq]
  by_cases hn : (findPeer s.peers c).isNone = true
  · rw [if_pos hn, if_pos hn]; exact ⟨rfl, rfl⟩
  · simp only [if_neg hn]
    have hsim : Sim (mkCtx s o1) (mkCtx s o2) := ⟨rfl, hif, hrf, rfl⟩
    have := closePeer_sim hsim c
    exact ⟨this.1, this.out_reverse⟩

theorem timerFire_sync (cfg : Config) (s : State) (t : Nat) (o1 o2 : Oracle)
    (hif : o1.indexFull = o2.indexFull) (hrf : o1.routeFull = o2.routeFull) :
    (step cfg s (.timerFire t o1)).1 = (step cfg s (.timerFire t o2)).1 ∧
    (step cfg s (.timerFire t o1)).2.map strip = (step cfg s (.timerFire t o2)).2.map strip := by
  rw [step_timerFire_eq, step_timerFire_eq]
  have hsim : Sim (mkCtx s o1) (mkCtx s o2) := ⟨rfl, hif, hrf, rfl⟩
  have := timeoutFired_sim hsim t
  exact ⟨this.1, this.out_reverse⟩

/-- the same operation with the same table refusals; the send results may differ -/
def SameOp : Op → Op → Prop
  | .connect c ws l a, .connect c' ws' l' a' => c = c' ∧ ws = ws' ∧ l = l' ∧ a = a'
  | .message c m o, .message c' m' o' => c = c' ∧ m = m' ∧ o.indexFull = o'.indexFull ∧ o.routeFull = o'.routeFull
  | .disconnect c o, .disconnect c' o' => c = c' ∧ o.indexFull = o'.indexFull ∧ o.routeFull = o'.routeFull
  | .timerFire t o, .timerFire t' o' => t = t' ∧ o.indexFull = o'.indexFull ∧ o.routeFull = o'.routeFull
  | _, _ => False

/-- the sends whose results decide how an operation goes on: for a message of `c` the sends to
    `c` and the routed requests; for every other operation none -/
def critOf : Op → Nat → Json → Prop
  | .message c _ _ => Crit c
  | _ => fun _ _ => False

theorem step_sync (cfg : Config) {s : State} (hI : Inv s) {op1 op2 : Op} (hs : SameOp op1 op2)
    (ha : AgreeOn (critOf op1) (step cfg s op1).2 (step cfg s op2).2) :
    (step cfg s op1).1 = (step cfg s op2).1 ∧ (step cfg s op1).2.map strip = (step cfg s op2).2.map strip := by
  -- `SameOp` holds of two operations of the same kind only
  cases op1 <;> cases op2 <;> try exact hs.elim
  · obtain ⟨rfl, rfl, rfl, rfl⟩ := hs
    exact ⟨rfl, rfl⟩
  · obtain ⟨rfl, rfl, h1, h2⟩ := hs
    exact message_sync cfg hI _ _ _ _ h1 h2 ha
  · obtain ⟨rfl, h1, h2⟩ := hs
    exact disconnect_sync cfg s _ _ _ h1 h2
  · obtain ⟨rfl, h1, h2⟩ := hs
    exact timerFire_sync cfg s _ _ _ h1 h2

/-! ## runs -/

/-- per step: the two runs' outputs agree on the decisive send results -/
def AgreeRun (K : Op → Nat → Json → Prop) : List Op → List (List Obs) → List (List Obs) → Prop
  | op :: ops, o1 :: os1, o2 :: os2 => AgreeOn (K op) o1 o2 ∧ AgreeRun K ops os1 os2
  | _, _, _ => True

/-- the same operations, with the same table refusals; send results may differ -/
inductive SameOps : List Op → List Op → Prop
  | nil : SameOps [] []
  | cons {a b : Op} {l l' : List Op} : SameOp a b → SameOps l l' → SameOps (a :: l) (b :: l')

theorem run_sync (cfg : Config) {s : State} (hI : Inv s) {ops1 ops2 : List Op} (hs : SameOps ops1 ops2)
    (ha : AgreeRun critOf ops1 (run cfg s ops1).2 (run cfg s ops2).2) :
    (run cfg s ops1).1 = (run cfg s ops2).1 ∧
    (run cfg s ops1).2.map (·.map strip) = (run cfg s ops2).2.map (·.map strip) := by
  induction hs generalizing s with
  | nil => exact ⟨rfl, rfl⟩
  | cons hop _ ih =>
    rw [run_cons, run_cons] at ha ⊢
    obtain ⟨ha1, ha2⟩ := ha
    obtain ⟨h1, h2⟩ := step_sync cfg hI hop ha1
    rw [← h1] at ha2 ⊢
    obtain ⟨h3, h4⟩ := ih (step_inv hI _) ha2
    exact ⟨h3, by simp only [List.map_cons, h2, h4]⟩

/-! ## faulty peers -/

/-- what peer `r` is sent in an output list: the messages and whether each was delivered -/
def received (r : Nat) : List Obs → List (Json × Bool)
  | [] => []
  | .send d j b :: rest => if d = r then (j, b) :: received r rest else received r rest
  | .closed _ :: rest => received r rest
  | .timerArm _ _ :: rest => received r rest
  | .timerDestroy _ :: rest => received r rest

theorem AgreeOn.tail {K : Nat → Json → Prop} {a b : Obs} {l l' : List Obs} (h : AgreeOn K (a :: l) (b :: l')) :
    AgreeOn K l l' := by
  intro i d j1 j2 b1 b2 h1 h2 hk
  exact h (i + 1) d j1 j2 b1 b2 (by simpa using h1) (by simpa using h2) hk

theorem strip_eq {a b : Obs} (h : strip a = strip b) :
    a = b ∨ ∃ d j b1 b2, a = .send d j b1 ∧ b = .send d j b2 := by
  cases a <;> cases b <;> cases h <;> first | exact .inl rfl | exact .inr ⟨_, _, _, _, rfl, rfl⟩

/-- equal up to send results + agreement on the results for peers outside `F`
    ⇒ a peer outside `F` is sent the same messages with the same results -/
theorem received_eq {F : Nat → Prop} {r : Nat} (hr : ¬ F r) :
    ∀ (o1 o2 : List Obs), o1.map strip = o2.map strip → AgreeOn (fun d _ => ¬ F d) o1 o2 →
      received r o1 = received r o2 := by
  intro o1
  induction o1 with
  | nil =>
    intro o2 hm _
    cases o2 with
    | nil => rfl
    | cons b l => cases hm
  | cons a l ih =>
    intro o2 hm ha
    cases o2 with
    | nil => cases hm
    | cons b l' =>
      obtain ⟨hab, hl⟩ := List.cons.inj hm
      have ht := ih l' hl ha.tail
      rcases strip_eq hab with rfl | ⟨d, j, b1, b2, rfl, rfl⟩
      · cases a <;> simp only [received, ht]
      · unfold received
        by_cases hd : d = r
        · rw [if_pos hd, if_pos hd, ht, ha 0 d j j b1 b2 rfl rfl (hd ▸ hr)]
        · rw [if_neg hd, if_neg hd, ht]

/-- if no faulty peer is the sender of the message and no routed request of the step goes to a
    faulty peer, agreement outside `F` implies agreement on the decisive sends -/
theorem agreeOn_crit_of_faulty {F : Nat → Prop} {op : Op} {o1 o2 : List Obs}
    (hreq : ∀ c m o, op = .message c m o → ¬ F c)
    (hrouted : ∀ d j b, Obs.send d j b ∈ o1 → isRouted j = true → ¬ F d)
    (h : AgreeOn (fun d _ => ¬ F d) o1 o2) : AgreeOn (critOf op) o1 o2 := by
  intro i d j1 j2 b1 b2 h1 h2 hk
  apply h i d j1 j2 b1 b2 h1 h2
  cases op with
  | message c m o =>
    rcases hk with rfl | hk
    · exact hreq _ m o rfl
    · exact hrouted d j1 b1 (List.mem_of_getElem? h1) hk
  | connect _ _ _ _ => exact hk.elim
  | disconnect _ _ => exact hk.elim
  | timerFire _ _ => exact hk.elim

/-- Two runs of the same operations whose oracles differ only in the results of sends addressed
    to peers in `F`, where no peer of `F` sends a message and no routed request goes to a peer of
    `F`: equal final states, equal outputs up to send results, and every peer outside `F` is sent
    the same messages with the same results, step by step. -/
theorem run_sync_faulty (cfg : Config) (F : Nat → Prop) {s : State} (hI : Inv s) {ops1 ops2 : List Op}
    (hs : SameOps ops1 ops2)
    (hreq : ∀ op ∈ ops1, ∀ c m o, op = Op.message c m o → ¬ F c)
    (hrouted : ∀ o ∈ (run cfg s ops1).2, ∀ d j b, Obs.send d j b ∈ o → isRouted j = true → ¬ F d)
    (ha : AgreeRun (fun _ d _ => ¬ F d) ops1 (run cfg s ops1).2 (run cfg s ops2).2) :
    (run cfg s ops1).1 = (run cfg s ops2).1 ∧
    (run cfg s ops1).2.map (·.map strip) = (run cfg s ops2).2.map (·.map strip) ∧
    ∀ r, ¬ F r → (run cfg s ops1).2.map (received r) = (run cfg s ops2).2.map (received r) := by
  induction hs generalizing s with
  | nil => exact ⟨rfl, rfl, fun _ _ => rfl⟩
  | @cons a b l l' hop _ ih =>
    rw [run_cons, run_cons] at ha ⊢
    rw [run_cons] at hrouted
    obtain ⟨ha1, ha2⟩ := ha
    have hcrit := agreeOn_crit_of_faulty (op := a) (fun c m o h => hreq a List.mem_cons_self c m o h)
      (fun d j b' hm hr' => hrouted _ List.mem_cons_self d j b' hm hr') ha1
    obtain ⟨h1, h2⟩ := step_sync cfg hI hop hcrit
    rw [← h1] at ha2 ⊢
    obtain ⟨h3, h4, h5⟩ := ih (step_inv hI _) (fun op hop' => hreq op (List.mem_cons_of_mem _ hop'))
      (fun o ho => hrouted o (List.mem_cons_of_mem _ ho)) ha2
    refine ⟨h3, by simp only [List.map_cons, h2, h4], ?_⟩
    intro r hr
    simp only [List.map_cons, h5 r hr, received_eq hr _ _ h2 ha1]

end Cjet.Daemon.C11
