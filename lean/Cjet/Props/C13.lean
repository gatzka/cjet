import Cjet.Http
import Cjet.Lemmas.Http
/-!
# C13 — HTTP front door: non-upgrades get an error and leave nothing behind

Model: `Cjet.Http` — the lifecycle of one connection on the HTTP/WebSocket port as a ledger over
its primitive objects (descriptor, buffered socket, http_connection + connection list,
websocket_peer + peer list + peer count, routing table), transcribed statement by statement from
`handle_http`, `init_http_connection2`, `on_url`, `read_start_line`, `alloc_websocket_peer`,
`websocket_read_header_line`, `handle_error`, `websocket_close`, `free_connection`,
`free_websocket_peer*`, the buffered socket's end-of-stream / error callbacks and the shutdown
sequence of `run_jet`.

Every theorem quantifies over

* `o c : List Nat` — the peers and HTTP connections that exist when the connection is accepted,
* `evs : List Event` — every sequence of events of any length, where each event carries what the
  environment decided: the accept outcome (5 cases), for a request line what http-parser,
  `find_url_handler` and the handler's `create` returned and whether header data rode along, for a header line what http-parser
  returned, whether `parser.upgrade` was set and whether the 101 was written, the three reader-level
  endings, the end of the WebSocket phase, and SIGTERM.  Events that the current phase cannot
  produce leave the state unchanged (`Cjet.Http.step`), so quantifying over all lists is
  quantifying over all admissible sequences (`Cjet.Http.enabled`) with arbitrary junk interleaved.

The version parameter is `fixed` (the code as it is); the three `…_counterexample_before_…`
theorems evaluate the historic variants of the same transcription.
-/
namespace Cjet.Props.C13

open Cjet.Http

/-! ## the property -/

/-- **non_upgrade_leaves_nothing.**  For every accept outcome and every event sequence after it:
    when the connection has ended and no 101 was written, then the descriptor was closed exactly
    once, every object is released exactly as often as it was acquired (at most once), this
    connection is in neither global list, no statement ever went through a released object,
    released or closed anything twice, or released a node that was still linked (the fault list is
    sticky, so "empty at the end" is "empty at every moment") — and the peer list, the connection
    list and the peer count are what they were before the accept (after SIGTERM, which also closes
    everybody else: empty and zero). -/
theorem non_upgrade_leaves_nothing (o c : List Nat) (a : Accept) (evs : List Event) :
    let s := run fixed (before o c) (.accept a :: evs)
    s.phase = .done → s.sent101 = false →
      s.fd = ⟨false, 1, 1⟩ ∧ s.allSettled ∧ s.faults = [] ∧
      s.connList.contains .mine = false ∧ s.peerList.contains .mine = false ∧
      (evs.any isTerm = false →
        s.peerList = o.map .other ∧ s.connList = c.map .other ∧ s.peerCount = o.length) ∧
      (evs.any isTerm = true → s.peerList = [] ∧ s.connList = [] ∧ s.peerCount = 0) := by
  obtain ⟨tm, htm, h⟩ := inv_of_accepted o c a evs
  dsimp only
  generalize run fixed (before o c) (.accept a :: evs) = s at h ⊢
  intro hph _
  have h' := h.done_of_phase hph
  subst htm
  refine ⟨by simpa [gone1] using h'.fd, settled_of_done h', h'.fl, ?_, ?_, ?_, ?_⟩
  · rw [h'.cl]; split <;> simp
  · rw [h'.pl]; split <;> simp
  · intro ht; simpa [ht] using And.intro h'.pl (And.intro h'.cl h'.pc)
  · intro ht; simpa [ht] using And.intro h'.pl (And.intro h'.cl h'.pc)

/-- non-vacuity: a request line that names the target and then turns out to be malformed (the
    F17 trigger) ends the connection with nothing left, two other peers and one other connection
    untouched. -/
example :
    let s := run fixed (before [7, 9] [3]) [.accept .ok, .startLine false true true false .ok]
    s.phase = .done ∧ s.sent101 = false ∧ s.sent = [400] ∧ s.peerList = [.other 7, .other 9] ∧
      s.connList = [.other 3] ∧ s.peerCount = 2 := by decide +kernel

/-- **no_orphan_peer.**  At every point of every event sequence: if this connection's peer is in
    the peer list (so other peers' notifications and the shutdown sequence can reach it), then its
    descriptor is open and its buffered socket, connection object, peer object and routing table
    are live, and the connection is in the connection list. -/
theorem no_orphan_peer (o c : List Nat) (evs : List Event) :
    let s := run fixed (before o c) evs
    s.peerRegistered = true →
      s.fd.live = true ∧ s.bs.live = true ∧ s.conn.live = true ∧ s.peer.live = true ∧ s.rt.live = true ∧
      s.connList.contains .mine = true := by
  obtain ⟨tm, htm, h⟩ := inv_of_run o c evs
  dsimp only
  generalize run fixed (before o c) evs = s at h ⊢
  intro hreg
  have hreg' : s.peerList.contains Ref.mine = true := hreg
  have hno := contains_absent _ (mine_not_mem_others o)
  cases h with
  | listening => cases hno.symm.trans hreg'
  | start => cases hno.symm.trans hreg'
  | peer => exact ⟨rfl, rfl, rfl, rfl, rfl, by simp⟩
  | done h' => rw [h'.pl] at hreg'; split at hreg' <;> simp at hreg'

example :
    let s := run fixed (before [1] []) [.accept .ok, .startLine true true true false .ok, .headerLine true false none]
    s.peerRegistered = true ∧ s.phase = .headers := by decide +kernel

/-- **no_fault_ever.**  No event sequence makes any statement of the transcribed code go through a
    released object, release or close twice, or release a linked node. -/
theorem no_fault_ever (o c : List Nat) (evs : List Event) :
    (run fixed (before o c) evs).faults = [] := by
  obtain ⟨_, _, h⟩ := inv_of_run o c evs
  exact h.faults

/-- **error_status_or_close.**  A connection that ended without a 101 wrote at most one status
    line, and that line is 400, 404 or 500. -/
theorem error_status_or_close (o c : List Nat) (evs : List Event) :
    let s := run fixed (before o c) evs
    s.phase = .done → s.sent101 = false →
      s.sent = [] ∨ s.sent = [400] ∨ s.sent = [404] ∨ s.sent = [500] := by
  obtain ⟨tm, htm, h⟩ := inv_of_run o c evs
  dsimp only
  generalize run fixed (before o c) evs = s at h ⊢
  intro hph h101
  obtain ⟨pre, hpre, hs⟩ := (h.done_of_phase hph).se
  cases pre with
  | nil => rcases hs with e | ⟨code, rfl | rfl | rfl, e⟩ <;> simp [e]
  | cons x xs =>
    have hm : (101 : Nat) ∈ s.sent := by rcases hs with e | ⟨_, _, e⟩ <;> simp [e, hpre x]
    simp [St.sent101, hm] at h101

example :
    let s := run fixed (before [] []) [.accept .ok, .startLine false false true false .ok]
    s.phase = .done ∧ s.sent101 = false ∧ s.sent = [404] := by decide +kernel

example :
    let s := run fixed (before [] []) [.accept .ok, .startLine true true true false .noTableMem]
    s.phase = .done ∧ s.sent101 = false ∧ s.sent = [500] := by decide +kernel

example :
    let s := run fixed (before [] [])
      [.accept .ok, .startLine true true true false .ok, .headerLine true false none, .lineTooLong]
    s.phase = .done ∧ s.sent101 = false ∧ s.sent = [] := by decide +kernel

/-- **term_releases_all.**  SIGTERM at any point of any event sequence: the connection has ended,
    the ledger is empty, both global lists are empty, the peer count is zero, and nothing was
    touched after its release. -/
theorem term_releases_all (o c : List Nat) (evs : List Event) :
    let s := run fixed (before o c) (evs ++ [.term])
    s.phase = .done ∧ s.allSettled ∧ s.peerList = [] ∧ s.connList = [] ∧ s.peerCount = 0 ∧ s.faults = [] := by
  obtain ⟨tm, htm, h⟩ := inv_of_run o c (evs ++ [.term])
  have ht : tm = true := by rw [htm]; simp [isTerm]
  subst ht
  dsimp only
  generalize run fixed (before o c) (evs ++ [.term]) = s at h ⊢
  cases h with
  | done h' => exact ⟨h'.ph, settled_of_done h', h'.pl, h'.cl, h'.pc, h'.fl⟩

/-- **upgrade_keeps_exactly_one_peer.**  While a connection on which a 101 was written is alive,
    exactly one peer is registered for it (the list has this connection's node once, the count is
    one more than before the accept), every object is live, and the buffered socket's error
    callback is the peer-level one (`free_websocket_peer_on_error`), so that every later ending
    releases peer and connection together. -/
theorem upgrade_keeps_exactly_one_peer (o c : List Nat) (evs : List Event) :
    let s := run fixed (before o c) evs
    s.sent101 = true → s.phase ≠ .done →
      s.peerList.count .mine = 1 ∧ s.peerCount = o.length + 1 ∧ s.handler = .peer ∧
      s.fd.live = true ∧ s.bs.live = true ∧ s.conn.live = true ∧ s.peer.live = true := by
  obtain ⟨tm, htm, h⟩ := inv_of_run o c evs
  dsimp only
  generalize run fixed (before o c) evs = s at h ⊢
  intro h101 hph
  cases h with
  | listening => cases h101
  | start => cases h101
  | peer =>
    refine ⟨?_, by simp, rfl, rfl, rfl, rfl, rfl⟩
    have : List.count Ref.mine (o.map Ref.other) = 0 := List.count_eq_zero.mpr (mine_not_mem_others o)
    simp [List.count_append, this]
  | done h' => exact absurd h'.ph hph

example :
    let s := run fixed (before [4] [])
      [.accept .ok, .startLine true true true false .ok, .headerLine true false none, .headerLine true true (some true)]
    s.sent101 = true ∧ s.phase = .ws ∧ s.peerCount = 2 := by decide +kernel

/-! ## the defects that were repaired, on the same transcription -/

/-- **orphan_peer_counterexample_before_fix** (F17, repaired by b38244f).  With `on_url` as it
    was — the handler's `create` called as soon as the URL matched — the two-event history
    "accept; request line with the matching URL whose rest does not parse" ends the connection
    with a 400 and leaves the peer registered while its connection, buffered socket and
    descriptor are released: `no_orphan_peer` and `non_upgrade_leaves_nothing` fail.  SIGTERM then
    walks the peer list into the released connection (use after release, second close of the
    descriptor, double free). -/
theorem orphan_peer_counterexample_before_fix :
    let s := run original (before [] []) [.accept .ok, .startLine false true true false .ok]
    s.phase = .done ∧ s.sent101 = false ∧ s.sent = [400] ∧
      s.peerRegistered = true ∧ s.peerCount = 1 ∧ s.peer.live = true ∧
      s.conn.live = false ∧ s.bs.live = false ∧ s.fd.live = false ∧
      (step original s .term).faults =
        [.useAfterRelease .conn, .useAfterRelease .bs, .useAfterRelease .bs, .useAfterRelease .fd,
         .doubleClose, .doubleRelease .bs, .useAfterRelease .conn, .doubleRelease .conn] := by
  decide +kernel

/-- The same history on the code as it is. -/
example :
    let s := run fixed (before [] []) [.accept .ok, .startLine false true true false .ok]
    s.phase = .done ∧ s.sent = [400] ∧ s.peerRegistered = false ∧ s.peerCount = 0 ∧ s.peer.acq = 0 ∧
      (step fixed s .term).faults = [] := by decide +kernel

/-- **stale_connection_counterexample_before_F54** (repaired by 10a3299).  With
    `init_http_connection2` as it was, a failing event loop registration released the connection
    while its node stayed in `connection_list`; SIGTERM then releases it a second time. -/
theorem stale_connection_counterexample_before_F54 :
    let s := run beforeF54 (before [] []) [.accept .addFails]
    s.phase = .done ∧ s.conn.live = false ∧ s.connList = [.mine] ∧
      s.faults = [.releasedWhileListed .conn] ∧
      (step beforeF54 s .term).conn.rel = 2 := by
  decide +kernel

example :
    let s := run fixed (before [] []) [.accept .addFails]
    s.phase = .done ∧ s.connList = [] ∧ s.faults = [] ∧ s.fd = ⟨false, 1, 1⟩ := by decide +kernel

/-- **wild_header_callback_counterexample_before_F55** (repaired by 9bd242d).  After b38244f the
    peer is created when the whole start line has parsed, but `on_url` still installed the handler's
    header callbacks at once: a request line ended by a bare LF with header data before the first
    CRLF makes http-parser call them inside `read_start_line`'s `http_parser_execute`, through the
    peer object that does not exist yet (`connection->parser.data` is uninitialised). -/
theorem wild_header_callback_counterexample_before_F55 :
    let s := run beforeF55 (before [] []) [.accept .ok, .startLine true true true true .ok]
    s.faults = [.useAfterRelease .peer] ∧ s.trace.take 10 =
      [.acquire .fd, .acquire .conn, .acquire .bs, .setHandler .conn, .touch .conn, .listConn,
       .setReader .startLine, .epollAdd, .touch .conn, .touch .peer] := by
  decide +kernel

/-- The same line on the code as it is: the refusing callbacks stop the parser, 400, nothing left. -/
example :
    let s := run fixed (before [] []) [.accept .ok, .startLine false true true true .ok]
    s.phase = .done ∧ s.sent = [400] ∧ s.faults = [] ∧ s.peer.acq = 0 ∧ s.allSettled := by decide +kernel

end Cjet.Props.C13
