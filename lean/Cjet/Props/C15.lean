import Cjet.Lemmas.DaemonC15Frame
import Cjet.Props.CjsonTree
import Cjet.Unwind.Ladders
import Cjet.Props.Startup
/-!
# C15 — any single allocation failure is survived without crash, leak or corruption

C15 is a PARTIAL-level property: the unwinding of the C code under allocation failure is enumerated
on the real code by the whole-daemon harness (single-fault enumeration).  The proof side carries
the LOGIC of the unwinding patterns: each hand-written acquisition ladder is transcribed as data
(`Cjet.Unwind.Ladders`, C lines in `docs/C15-proofs.md`) and interpreted by the one generic
`runLadder` (`Cjet.Unwind`).

* `runLadder L fail s`: run ladder `L` from resource state `s`; `fail = some i`: the `i`-th step
  fails (steps that cannot fail and indices past the end behave like `none` = success);
* `failsAt L fail`: `fail` names a real failure point;
* `audit L`: the finite check of EVERY failure point and of the success path, from the ladder's
  bare entry state — discharged per ladder by `decide`, and for the `fetch` ladder, which has a
  parameter, by `audit_ladderFetch` for every value of it;
* `Fresh L A K`: the ambient objects `A` and links `K` share no name with the ladder
  (a fresh allocation is not an object that already exists).

The three generic theorems lift the audit to every ambient state.
-/

namespace Cjet.Props.C15

open Cjet.Unwind

variable {R Lb : Type} [DecidableEq R] [DecidableEq Lb]

/-- `unwind_releases_all`: for EVERY failure point, after the function has returned the set of
    held resources is what it was before the call — nothing leaked — and no release, unlink or
    jump was illegal (`bad = 0`: nothing released twice, no release of something not held); on
    success exactly the intended resources are held in addition.  Whatever else exists (`A`, `K`)
    is untouched. -/
theorem unwind_releases_all (L : Ladder R Lb) (h : audit L = true) (A : List R) (K : List (R × R))
    (hf : Fresh L A K) (fail : Option Nat) :
    let s := runLadder L fail ⟨L.pre ++ A, L.preLinks ++ K, 0, 0⟩
    s.bad = 0 ∧
    (failsAt L fail = true → s.held = L.pre ++ A) ∧
    (failsAt L fail = false → s.held = L.intended ++ A) := by
  intro s
  obtain ⟨h1, _, h3, h4⟩ := auditOne_iff.mp (audit_all L h fail)
  rw [show s = _ from runLadder_frame L fail A K 0 0 hf]
  exact ⟨h1, fun hfa => congrArg (· ++ A) (h3 hfa).1, fun hfa => congrArg (· ++ A) (h4 hfa).1⟩

/-- `at_most_one_response`: every run of the ladder — success or any failure point — produces at
    most one response for the request being processed. -/
theorem at_most_one_response (L : Ladder R Lb) (h : audit L = true) (A : List R) (K : List (R × R))
    (hf : Fresh L A K) (fail : Option Nat) :
    (runLadder L fail ⟨L.pre ++ A, L.preLinks ++ K, 0, 0⟩).responses ≤ 1 := by
  rw [runLadder_frame L fail A K 0 0 hf]
  exact (auditOne_iff.mp (audit_all L h fail)).2.1

/-- `table_not_left_dangling`: on failure the tables / lists / subscribers refer to exactly what
    they referred to before (no entry for a released object stays behind); on success the new
    entries are the intended ones and each of them refers to an object that is held. -/
theorem table_not_left_dangling (L : Ladder R Lb) (h : audit L = true) (A : List R) (K : List (R × R))
    (hf : Fresh L A K) (fail : Option Nat) :
    let s := runLadder L fail ⟨L.pre ++ A, L.preLinks ++ K, 0, 0⟩
    (failsAt L fail = true → s.links = L.preLinks ++ K) ∧
    (failsAt L fail = false → s.links = L.intendedLinks ++ K ∧ ∀ p ∈ L.intendedLinks, p.2 ∈ s.held) := by
  intro s
  obtain ⟨_, _, h3, h4⟩ := auditOne_iff.mp (audit_all L h fail)
  rw [show s = _ from runLadder_frame L fail A K 0 0 hf]
  refine ⟨fun hfa => congrArg (· ++ K) (h3 hfa).2, fun hfa => ?_⟩
  obtain ⟨g1, g2, g3⟩ := h4 hfa
  exact ⟨congrArg (· ++ K) g2, fun p hp => List.mem_append_left _ (g1 ▸ g3 p hp)⟩

/-! ## the ladders: each transcription passes the audit -/

/-- (a) `add` of a state / of a method: add_element_to_peer + init_element -/
theorem audit_add_state : audit (ladderAdd true) = true := by decide +kernel
theorem audit_add_method : audit (ladderAdd false) = true := by decide +kernel

/-- (c) routed `set` / `call` with and without a request id: set_or_call + alloc_routing_request +
    create_routed_message + setup_routing_information (+ remove_routing_information on the late failures) -/
theorem audit_route_with_id : audit (ladderRoute true) = true := by decide +kernel
theorem audit_route_without_id : audit (ladderRoute false) = true := by decide +kernel

/-- (b) `fetch`: fetch-all, one single-operand matcher, two of them, three of them, a
    `containsAllOf` with three operands, and a mixture -/
theorem audit_fetch_all : audit (ladderFetch []) = true := audit_ladderFetch _
theorem audit_fetch_1 : audit (ladderFetch [1]) = true := audit_ladderFetch _
theorem audit_fetch_2 : audit (ladderFetch [1, 1]) = true := audit_ladderFetch _
theorem audit_fetch_3 : audit (ladderFetch [1, 1, 1]) = true := audit_ladderFetch _
theorem audit_fetch_allof : audit (ladderFetch [3]) = true := audit_ladderFetch _
theorem audit_fetch_mixed : audit (ladderFetch [1, 2, 1]) = true := audit_ladderFetch _

/-- … every path object with up to 3 matchers of up to 4 operands each (85 shapes), and up to the
    configured maximum of 12 single-operand matchers -/
theorem audit_fetch_small_shapes : ∀ s ∈ shapes 3 4, audit (ladderFetch s) = true := fun s _ => audit_ladderFetch s
theorem audit_fetch_max_matchers : ∀ n ∈ List.range 13, audit (ladderFetch (List.replicate n 1)) = true :=
  fun _ _ => audit_ladderFetch _

example : (shapes 3 4).length = 85 ∧ [2, 4, 1] ∈ shapes 3 4 := by decide +kernel

/-- (d) growth of an element's fetcher table -/
theorem audit_grow : audit ladderGrow = true := by decide +kernel

/-- (e) connection set-up: raw jet socket, HTTP connection, websocket peer creation -/
theorem audit_jet_conn : audit ladderJetConn = true := by decide +kernel
theorem audit_http_conn : audit ladderHttpConn = true := by decide +kernel
theorem audit_ws_peer : audit ladderWsPeer = true := by decide +kernel

/-! ## non-vacuity: the ladders have real failure points, and the audit notices defects -/

/-- the `add` ladder of a state has 8 failure points; the routed-request ladder 11 -/
example : ((List.range 20).filter (fun i => failsAt (ladderAdd true) (some i))).length = 8 ∧
    ((List.range 20).filter (fun i => failsAt (ladderRoute true) (some i))).length = 11 := by decide +kernel

/-- the ambient state of the generic theorems can be non-empty: e.g. another element's objects
    cannot be named by the `add` ladder at all, links from the containers to other objects can -/
example : Fresh (ladderAdd true) [] [(.index, .subs)] := by
  unfold Fresh; decide

/-- the generic theorems at work: the table-full failure (step 7) of an `add`, with another element
    already indexed: nothing of the failed `add` stays, the other entry is untouched -/
example :
    let s := runLadder (ladderAdd true) (some 7) ⟨[], [(.index, .subs)], 0, 0⟩
    s.bad = 0 ∧ s.held = [] ∧ s.links = [(.index, .subs)] ∧ s.responses ≤ 1 := by
  have hf : Fresh (ladderAdd true) [] [(.index, .subs)] := by unfold Fresh; decide
  have h1 := unwind_releases_all (ladderAdd true) audit_add_state [] [(.index, .subs)] hf (some 7)
  have h2 := table_not_left_dangling (ladderAdd true) audit_add_state [] [(.index, .subs)] hf (some 7)
  have h3 := at_most_one_response (ladderAdd true) audit_add_state [] [(.index, .subs)] hf (some 7)
  exact ⟨h1.1, h1.2.1 (by decide), h2.1 (by decide), h3⟩

/-- the audit is not vacuous: the routed-request ladder as it was before the repair of
    "set_or_call send failure leaves routing entry + armed timer" (send failure only answers) fails it -/
def ladderRouteOld : Ladder RC LC :=
  { ladderRoute true with
    steps := (ladderRoute true).steps.dropLast ++
      [{ name := "owner->send_message (pre-fix)", ok := [],
         failPre := [Act.respond, Act.release .rendered, Act.release .msg] }] }

example : audit ladderRouteOld = false := by decide +kernel

/-- … and so does a double free: releasing the element twice on the table-full path -/
def ladderAddDouble : Ladder RA LA :=
  { ladderAdd true with
    chain := (ladderAdd true).chain ++ [(.caller, [Act.release .elem])] }

example : audit ladderAddDouble = false := by decide +kernel

/-! ### the goto ladders of run_io_only_local / run_io_all_interfaces, label for label -/

theorem startup_goto_ladders_audit : type_of% @Cjet.Props.Startup.goto_ladders_audit := @Cjet.Props.Startup.goto_ladders_audit
theorem startup_failure_releases_all : type_of% @Cjet.Props.Startup.startup_failure_releases_all := @Cjet.Props.Startup.startup_failure_releases_all
theorem startup_releases_all_listeners : type_of% @Cjet.Props.Startup.startup_releases_all_listeners := @Cjet.Props.Startup.startup_releases_all_listeners


/-! ### the cJSON tree layer: every stored, forwarded or routed value is a cJSON_Duplicate (real code tied by vlib/cjsontree_tie.py) -/

theorem json_duplicate_failure_leaks_nothing : type_of% @Cjet.Props.CjsonTree.duplicate_failure_leaks_nothing := @Cjet.Props.CjsonTree.duplicate_failure_leaks_nothing
theorem json_duplicate_stops_at_first_failure : type_of% @Cjet.Props.CjsonTree.duplicate_stops_at_first_failure := @Cjet.Props.CjsonTree.duplicate_stops_at_first_failure
theorem json_duplicate_is_faithful_copy : type_of% @Cjet.Props.CjsonTree.duplicate_is_faithful_copy := @Cjet.Props.CjsonTree.duplicate_is_faithful_copy
theorem json_duplicate_children_ledger : type_of% @Cjet.Props.CjsonTree.duplicate_children_ledger := @Cjet.Props.CjsonTree.duplicate_children_ledger
theorem json_add_member_failure_changes_nothing : type_of% @Cjet.Props.CjsonTree.add_member_failure_changes_nothing := @Cjet.Props.CjsonTree.add_member_failure_changes_nothing
theorem json_add_member_attaches_last : type_of% @Cjet.Props.CjsonTree.add_member_attaches_last := @Cjet.Props.CjsonTree.add_member_attaches_last
theorem json_add_member_conserves_blocks : type_of% @Cjet.Props.CjsonTree.add_member_conserves_blocks := @Cjet.Props.CjsonTree.add_member_conserves_blocks

theorem json_replace_checked_failure_changes_nothing : type_of% @Cjet.Props.CjsonTree.replace_checked_failure_changes_nothing := @Cjet.Props.CjsonTree.replace_checked_failure_changes_nothing
theorem json_create_string_ledger : type_of% @Cjet.Props.CjsonTree.create_string_ledger := @Cjet.Props.CjsonTree.create_string_ledger

end Cjet.Props.C15
