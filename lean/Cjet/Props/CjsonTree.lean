/-
  Cjet.Props.CjsonTree — property theorems of the cJSON tree layer (model: Cjet.Cjson.TreeOps; tie:
  vlib/cjsontree_tie.py against the real cJSON_Duplicate / cJSON_Delete / cJSON_GetObjectItem… of
  /repo/src/json/cJSON.c, every allocation-failure schedule of every generated item included).

  They are obligations of C03 (a routed value is carried unchanged: every forwarded or stored value is a
  cJSON_Duplicate of what the caller sent) and of C15 (a failing allocation inside cJSON_Duplicate leaks
  nothing and is reported, for every allocation index and every schedule of failures).
-/
import Cjet.Lemmas.CjsonTree

namespace Cjet.Props.CjsonTree
open Cjet Cjet.Cjson.TreeOps

/-- A successful deep copy is the original with the reference bits cleared — kind, constant-name bit, both
    number fields, value string, member name and the whole child chain, in order, at every depth — it made
    exactly `allocs i` allocation calls, holds exactly that many blocks, and `cJSON_Delete` of the copy
    gives back every one of them.  For every allocation schedule. -/
theorem duplicate_is_faithful_copy (s : Nat → Bool) (i c : Item) (a a' : A) (h : dup s i a = (some c, a')) :
    c = norm i ∧ a'.next = a.next + allocs i ∧ a'.live = a.live + allocs i ∧ delFrees c = allocs i := by
  have sp := dup_spec s i a
  rw [h] at sp
  obtain ⟨hc, hn, hl, _⟩ := sp
  exact ⟨hc, hn, hl, by rw [hc, delFrees_norm]⟩

/-- … and for a tree without reference items (everything cJSON's parser and the daemon's constructors build)
    the copy equals the original. -/
theorem duplicate_exact_without_references (s : Nat → Bool) (i c : Item) (a a' : A) (hr : noRef i = true)
    (h : dup s i a = (some c, a')) : c = i := by
  rw [(duplicate_is_faithful_copy s i c a a' h).1, norm_of_noRef i hr]

/-- A failed deep copy leaks nothing: whatever had been allocated for it — at any depth, already linked
    or not — has been given back when NULL is returned.  For every schedule of failures (C15 asks for one). -/
theorem duplicate_failure_leaks_nothing (s : Nat → Bool) (i : Item) (a a' : A) (h : dup s i a = (none, a')) :
    a'.live = a.live := by
  have sp := dup_spec s i a
  rw [h] at sp
  exact sp.1

/-- The copy fails only because an allocation it asked for failed, and it stops at the first such call:
    no further allocation is attempted behind it. -/
theorem duplicate_stops_at_first_failure (s : Nat → Bool) (i : Item) (a a' : A) (h : dup s i a = (none, a')) :
    ∃ j, j < allocs i ∧ s (a.next + j) = true ∧ a'.next = a.next + j + 1 ∧ ∀ j', j' < j → s (a.next + j') = false := by
  have sp := dup_spec s i a
  rw [h] at sp
  exact sp.2

/-- Conversely: when none of the `allocs i` calls fails the copy succeeds — a value is never dropped silently. -/
theorem duplicate_succeeds_when_allocations_do (s : Nat → Bool) (i : Item) (a : A)
    (hok : ∀ j, j < allocs i → s (a.next + j) = false) : ∃ a', dup s i a = (some (norm i), a') := by
  have sp := dup_spec s i a
  cases h : dup s i a with
  | mk r a' =>
  rw [h] at sp
  cases r with
  | some c => exact ⟨a', by rw [sp.1]⟩
  | none =>
    obtain ⟨_, j, hj, hs, _, _⟩ := sp
    rw [hok j hj] at hs
    exact absurd hs (by simp)

/-- the same three facts for the child loop alone -/
theorem duplicate_children_ledger (s : Nat → Bool) (l : List Item) (a : A) :
    Spec s (allocsL l) (normL l) a (dupL s l a) := dupL_spec s l a

theorem norm_idempotent (i : Item) : norm (norm i) = norm i := norm_idem i

/-- A member that is found is the FIRST child the comparison accepts: it exists, it is accepted, and no child
    before it is. (Both comparisons.) -/
theorem get_object_item_first_hit (cs : Bool) (key : Bytes) :
    ∀ (l : List Item) (j : Nat), getItem cs key l = some j →
      (∃ k, l[j]? = some k ∧ hit cs key k.name = true) ∧
      ∀ j' k', j' < j → l[j']? = some k' → hit cs key k'.name = false
  | [], j, h => by simp [getItem] at h
  | k :: ks, j, h => by
    unfold getItem at h
    split at h
    next hh =>
      simp only [Option.some.injEq] at h
      subst h
      exact ⟨⟨k, rfl, hh⟩, fun j' _ hj => absurd hj (Nat.not_lt_zero _)⟩
    next hh =>
      split at h
      · simp at h
      · simp only [Option.map_eq_some_iff] at h
        obtain ⟨j0, hj0, rfl⟩ := h
        obtain ⟨⟨k0, hk0, hit0⟩, hbefore⟩ := get_object_item_first_hit cs key ks j0 hj0
        refine ⟨⟨k0, by simpa using hk0, hit0⟩, ?_⟩
        intro j' k' hlt hk'
        cases j' with
        | zero => simp only [List.getElem?_cons_zero, Option.some.injEq] at hk'; subst hk'; simpa using hh
        | succ n => exact hbefore n k' (by omega) (by simpa using hk')

/-- The case-insensitive lookup (the one the daemon uses for every message member) answers NULL exactly when no
    child is accepted; children without a name are stepped over. -/
theorem get_object_item_ci_none_iff (key : Bytes) :
    ∀ l : List Item, getItem false key l = none ↔ ∀ k, k ∈ l → hit false key k.name = false
  | [] => by simp [getItem]
  | k :: ks => by
    unfold getItem
    by_cases hh : hit false key k.name = true
    · simp [hh]
    · have ih := get_object_item_ci_none_iff key ks
      simp only [hh, Bool.false_eq_true, if_false, Bool.false_and, Option.map_eq_none_iff, ih, List.mem_cons,
        forall_eq_or_imp, true_and]

/-- The case-sensitive lookup is weaker: its loop ends at the first child without a name, so a member behind
    such a child is not found although it is there (as the code is; the daemon never calls it). -/
theorem get_object_item_cs_stops_at_nameless :
    let named := Item.mk 4 false false 0 0 none (some [0x61]) []
    let nameless := Item.mk 4 false false 0 0 none none []
    getItem true [0x61] [nameless, named] = none ∧ getItem false [0x61] [nameless, named] = some 1 := by
  decide

/-- the comparison of the case-insensitive lookup is an equivalence that identifies exactly ASCII case -/
theorem ciEq_refl (a : Bytes) : ciEq a a = true := BEq.rfl
theorem ciEq_symm (a b : Bytes) : ciEq a b = ciEq b a := BEq.comm

/-- `cJSON_GetArrayItem`: an index is answered exactly when it is inside the chain -/
theorem get_array_item_in_range (l : List Item) (idx : Int) (j : Nat) :
    getArrayItem l idx = some j ↔ (0 ≤ idx ∧ idx.toNat = j ∧ j < l.length) := by
  unfold getArrayItem
  split
  · constructor
    · intro h; simp at h
    · intro ⟨h, _, _⟩; omega
  · split
    · constructor
      · intro h; simp only [Option.some.injEq] at h; exact ⟨by omega, h, by omega⟩
      · intro ⟨_, h, _⟩; simp [h]
    · constructor
      · intro h; simp at h
      · intro ⟨_, h, h2⟩; omega

/-! ### the statements are not vacuous -/

def sample : Item :=
  .mk 64 false false 0 0 none none
    [.mk 16 false false 0 0 (some [0x78]) (some [0x70, 0x61, 0x74, 0x68]) [],
     .mk 32 true false 0 0 none (some [0x76]) [.mk 8 false true 7 0x401C000000000000 none none [], .mk 2 false false 0 0 none none []]]

/-- a copy that succeeds (8 allocation calls), one that fails at each of the 8 calls and leaks nothing -/
example : allocs sample = 8 := by decide
example : (dup (fun _ => false) sample ⟨0, 0⟩).2 = ⟨8, 8⟩ := by decide
example : (List.range 8).all (fun f => let r := dup (fun n => n == f) sample ⟨0, 0⟩; r.1.isNone && r.2 == ⟨f + 1, 0⟩) = true := by decide
example : (dup (fun _ => false) sample ⟨0, 0⟩).1.isSome = true ∧ noRef sample = false ∧ noRef (norm sample) = true := by decide
example : getItem false [0x50, 0x41, 0x54, 0x48] (match sample with | .mk _ _ _ _ _ _ _ ks => ks) = some 0 := by decide


/-! ### attaching a member (`add_item_to_object`) -/

/-- the item as it hangs in the object afterwards: new name, constant bit as asked, everything else untouched -/
def renamed (constKey : Bool) (key : Bytes) : Item → Item
  | .mk k r _ vi vd vs _ kids => .mk k r constKey vi vd vs (some key) kids

theorem delFreesL_append : ∀ (l : List Item) (x : Item), delFreesL (l ++ [x]) = delFreesL l + delFrees x
  | [], x => by simp [delFreesL]
  | k :: ks, x => by simp only [List.cons_append, delFreesL, delFreesL_append ks x]; omega

/-- When the key copy fails NOTHING has changed: the object is as it was, no block was taken, and the item is not
    attached — the caller still owns it.  (A caller that ignores the result loses `delFrees item ≥ 1` blocks:
    the shape of known finding F60.) -/
theorem add_member_failure_changes_nothing (s : Nat → Bool) (constKey : Bool) (key : Bytes) (obj item : Item) (a : A)
    (h : (addToObject s constKey key obj item a).ok = false) :
    (addToObject s constKey key obj item a).obj = obj ∧ (addToObject s constKey key obj item a).orphan = some item ∧
    (addToObject s constKey key obj item a).a.live = a.live ∧ constKey = false ∧ s a.next = true ∧ 1 ≤ delFrees item := by
  obtain ⟨ok, orf, oc, ovi, ovd, ovs, onm, okids⟩ := obj
  obtain ⟨k, r, c, vi, vd, vs, nm, kids⟩ := item
  cases constKey with
  | true => simp [addToObject, optAlloc] at h
  | false =>
    cases hs : s a.next with
    | false => simp [addToObject, optAlloc, hs] at h
    | true => simp [addToObject, optAlloc, hs, delFrees]; omega

/-- It fails ONLY then: with a constant key, or when the one allocation succeeds, the item is attached — as the LAST
    child, under the new name, otherwise untouched — and nothing is left with the caller. -/
theorem add_member_attaches_last (s : Nat → Bool) (constKey : Bool) (key : Bytes) (obj item : Item) (a : A)
    (hs : constKey = true ∨ s a.next = false) :
    (addToObject s constKey key obj item a).ok = true ∧ (addToObject s constKey key obj item a).orphan = none ∧
    (addToObject s constKey key obj item a).obj.kids = obj.kids ++ [renamed constKey key item] := by
  obtain ⟨ok, orf, oc, ovi, ovd, ovs, onm, okids⟩ := obj
  obtain ⟨k, r, c, vi, vd, vs, nm, kids⟩ := item
  cases constKey with
  | true => simp [addToObject, optAlloc, renamed, Item.kids]
  | false =>
    have hs : s a.next = false := by simpa using hs
    simp [addToObject, optAlloc, renamed, Item.kids, hs]

/-- Block conservation on success: what `cJSON_Delete(object)` gives back afterwards is what it gave back before
    plus the item's blocks plus the net allocation of the call — nothing is lost, nothing is counted twice
    (for an object that is not a reference; with the ledger above the freed name). -/
theorem add_member_conserves_blocks (s : Nat → Bool) (constKey : Bool) (key : Bytes) (obj item : Item) (a : A)
    (hobj : (match obj with | .mk _ r _ _ _ _ _ _ => r) = false)
    (hlive : 1 ≤ a.live)
    (h : (addToObject s constKey key obj item a).ok = true) :
    delFrees (addToObject s constKey key obj item a).obj + a.live =
      delFrees obj + delFrees item + (addToObject s constKey key obj item a).a.live := by
  obtain ⟨ok, orf, oc, ovi, ovd, ovs, onm, okids⟩ := obj
  obtain ⟨k, r, c, vi, vd, vs, nm, kids⟩ := item
  simp only at hobj
  subst hobj
  simp only [addToObject] at h ⊢
  cases h1 : optAlloc s (!constKey) a with
  | mk b a1 =>
  rw [h1] at h
  cases b with
  | false => simp at h
  | true =>
    obtain ⟨_, _, hl⟩ := optAlloc_true h1
    -- the renamed item gives back one block more iff its key was copied, the old name was one block iff it was freed
    have e1 : (if constKey then 0 else b2n (some key).isSome) = b2n (!constKey) := by cases constKey <;> rfl
    have e2 : (if c then 0 else b2n nm.isSome) = b2n (!c && nm.isSome) := by cases c <;> rfl
    have := b2n_le (!c && nm.isSome)
    simp only [delFrees, Bool.false_eq_true, if_false, delFreesL_append, e1, e2, hl]
    omega

/-- a member that was just attached is found under its key (in any ASCII case) unless an earlier member already
    answers to it — then that one is found, as before -/
theorem add_member_then_lookup (key probe : Bytes) (constKey : Bool) (l : List Item) (item : Item)
    (hk : ciEq probe key = true) :
    getItem false probe (l ++ [renamed constKey key item]) =
      (match getItem false probe l with | some j => some j | none => some l.length) := by
  induction l with
  | nil =>
    obtain ⟨k, r, c, vi, vd, vs, nm, kids⟩ := item
    simp [getItem, renamed, Item.name, hit, hk]
  | cons x xs ih =>
    simp only [List.cons_append, getItem, Bool.false_and, Bool.false_eq_true, if_false]
    by_cases hx : hit false probe x.name = true
    · simp [hx]
    · simp only [hx, ih]
      cases getItem false probe xs <;> simp

example : (addToObject (fun n => n == 0) false [0x6B] sample (.mk 4 false false 0 0 none (some [0x6F]) []) ⟨0, 5⟩).ok = false := by decide
example : (addToObject (fun _ => false) false [0x6B] sample (.mk 4 false false 0 0 none (some [0x6F]) []) ⟨0, 5⟩).a = ⟨1, 5⟩ := by decide


/-! ### replacing a member (`cJSON_ReplaceItemInObject`; used by change_password, C20) -/

/-- Code as repaired (finding F69): when the key copy fails the call fails, the object is untouched and the
    replacement is still the caller's. -/
theorem replace_checked_failure_changes_nothing (s : Nat → Bool) (cs : Bool) (key : Bytes) (obj item : Item) (a : A)
    (hf : s a.next = true) :
    (replaceInObject s true cs key obj item a).ok = false ∧ (replaceInObject s true cs key obj item a).obj = obj ∧
    (replaceInObject s true cs key obj item a).orphan.isSome = true := by
  obtain ⟨k, r, c, vi, vd, vs, nm, kids⟩ := item
  simp [replaceInObject, optAlloc, hf]

/-- Code as shipped with cJSON 1.7.13 (`checked = false`): the SAME failure is not noticed — the call succeeds and
    the member that answered to the key is replaced by one WITHOUT a name.  (Witnessed on the real code by the tie
    before the repair: `R 0 0 6964 …`.) -/
theorem replace_unchecked_failure_strips_the_name (s : Nat → Bool) (key : Bytes) (obj item : Item) (a : A) (j : Nat)
    (hf : s a.next = true) (hj : getItem false key obj.kids = some j) :
    (replaceInObject s false false key obj item a).ok = true ∧
    ((replaceInObject s false false key obj item a).obj.kids[j]?).bind Item.name = none := by
  obtain ⟨k, r, c, vi, vd, vs, nm, kids⟩ := item
  have hlt := getItem_some_lt hj
  obtain ⟨ok, orf, oc, ovi, ovd, ovs, onm, okids⟩ := obj
  simp only [Item.kids] at hj hlt
  simp [replaceInObject, optAlloc, hf, hj, Item.kids, Item.withKids, hlt, Item.name]

/-- … after which the lookup of that key answers NULL although the object had the member: the password of the
    account is gone (concrete instance; `decide`). -/
theorem replace_unchecked_failure_loses_the_member :
    let user := Item.mk 64 false false 0 0 none none [.mk 16 false false 0 0 (some [0x68]) (some [0x70, 0x77]) []]
    let r := replaceInObject (fun n => n == 0) false false [0x70, 0x77] user (.mk 16 false false 0 0 (some [0x6E]) none []) ⟨0, 1000⟩
    getItem false [0x70, 0x77] user.kids = some 0 ∧ r.ok = true ∧ getItem false [0x70, 0x77] r.obj.kids = none := by
  decide

/-- When the key copy succeeds and a member answers, it is replaced IN PLACE (same position, same number of members)
    by the replacement under the new key. -/
theorem replace_success_in_place (s : Nat → Bool) (checked : Bool) (key : Bytes) (obj item : Item) (a : A) (j : Nat)
    (hs : s a.next = false) (hj : getItem false key obj.kids = some j) :
    (replaceInObject s checked false key obj item a).ok = true ∧
    (replaceInObject s checked false key obj item a).obj.kids.length = obj.kids.length ∧
    ((replaceInObject s checked false key obj item a).obj.kids[j]?).bind Item.name = some key := by
  obtain ⟨k, r, c, vi, vd, vs, nm, kids⟩ := item
  have hlt := getItem_some_lt hj
  obtain ⟨ok, orf, oc, ovi, ovd, ovs, onm, okids⟩ := obj
  simp only [Item.kids] at hj hlt
  simp [replaceInObject, optAlloc, hs, hj, Item.kids, Item.withKids, hlt, Item.name]


/-! ### constructors -/

/-- `cJSON_CreateString` either returns the string item holding its two blocks, or NULL holding none, and it fails
    only at the first of its two allocations that fails — for every schedule. -/
theorem create_string_ledger (s : Nat → Bool) (str : Bytes) (a : A) :
    Spec s 2 (Item.mk 16 false false 0 0 (some str) none []) a (createString s str a) := by
  unfold createString
  cases h1 : optAlloc s true a with
  | mk b1 a1 =>
  cases b1 with
  | false =>
    exact (Held.refl s a).giveBack (optAlloc_false h1) (by decide)
  | true =>
    have H1 := (Held.refl s a).alloc h1
    dsimp only
    cases h2 : optAlloc s true a1 with
    | mk b2 a2 =>
    cases b2 with
    | false =>
      exact H1.giveBack (optAlloc_false h2) (by decide)
    | true => exact (H1.alloc h2).spec

end Cjet.Props.CjsonTree
