import Cjet.Lemmas.HoptableRun

/-!
# C17 — the hopscotch hash tables behave as exact finite maps

Model: `Cjet.Hoptable` (transcription of `src/hashtable.h`); vocabulary: `Cjet.Hoptable.Spec`.
All theorems hold for **every** order, every key type with decidable equality, and every hash
function whose values are below the table size (collisions are therefore included), for both
variants of `find_closer_entry` (`clr`) unless stated otherwise.  `N = tableSize order`
(`1 << order`), `A = addRange order` (`1 << (order - 1)`), hop width `W = hopInfoBits`, all
regenerated from the C source.
-/

namespace Cjet.Props.C17

open Cjet Cjet.Hoptable

section
variable {K V : Type} [DecidableEq K] [Inhabited V]

/-- a concrete history used by the non-vacuity examples: order 3, real `hs_hash32`; 22, 31, 57 all
hash to bucket 7 (so they wrap around the end of the table into slots 0 and 1), 9 and 12 hash to
bucket 0 (already taken: they are pushed to slots 2 and 1), one overwrite, one remove -/
def demoOps : List (Op Nat Nat) :=
  [.put 22 1, .put 31 2, .put 57 3, .put 9 10, .put 22 11, .remove 31, .put 12 40]

/-- order 3: four keys of bucket 0 fill its whole probe window (`addRange 3 = 4`) -/
def fullOps : List (Op Nat Nat) := [.put 9 1, .put 12 2, .put 28 3, .put 30 4]

/-- order 7: the 32 keys of bucket 0 with the real `hs_hash32` (they occupy slots 0..31 and use up
all 32 hop bits), then key 27 whose home is slot 32.  A further key of bucket 0 (4021) finds the
empty slot 33, moves 27 from 32 to 33 and then gets stuck at slot 32 (replay of finding F25). -/
def stuckOps : List (Op Nat Nat) :=
  ([61, 190, 278, 654, 813, 846, 883, 991, 1037, 1208, 1239, 1451, 1478, 1565, 1815, 2038, 2041, 2141,
    2149, 2270, 2335, 2412, 2446, 2630, 2833, 2865, 3103, 3178, 3369, 3460, 3582, 3979].map (fun k => Op.put k k))
  ++ [.put 27 500]

def tableOf (order : Nat) (clr : Bool) (ops : List (Op Nat Nat)) : Table Nat Nat :=
  (runTable (tableSize order) (addRange order) (hashU32 order) clr (empty (tableSize order)) ops).2

def demoTable : Table Nat Nat := tableOf 3 true demoOps

/-- The empty table satisfies the invariant (with no ghost slots) and denotes the empty map. -/
theorem wf_empty (order : Nat) (hash : K → Nat) :
    WFS (tableSize order) hash (empty (tableSize order) : Table K V) ∧
      ∀ k v, ¬ Maps (tableSize order) (empty (tableSize order) : Table K V) k v :=
  ⟨wfs_empty, not_maps_empty⟩

/-- Every table reachable from the empty one is well-formed; with fix F25 (`clr = true`) it has no
ghost slots either. -/
theorem wf_run (order : Nat) (hash : K → Nat) (hhash : ∀ k, hash k < tableSize order)
    (clr : Bool) (ops : List (Op K V)) :
    let t := (runTable (tableSize order) (addRange order) hash clr (empty (tableSize order)) ops).2
    WF (tableSize order) hash t ∧ (clr = true → NoStale (tableSize order) t) := by
  obtain ⟨_, h2, h3⟩ := run_refines (tableSize_pos order) (addRange_le order) clr hhash ops _ []
    (wfs_empty (N := tableSize order) (hash := hash) (K := K) (V := V)).toWF abs_empty
  exact ⟨h2, fun hc => h3 hc (wfs_empty (hash := hash)).nostale⟩

/-- non-vacuity of `hhash`: the three real hash functions satisfy the range hypothesis for every
order the C code can express -/
example (order : Nat) (ho : order ≤ 32) : ∀ k, hashU32 order k < tableSize order := hashU32_lt order ho
example (order : Nat) (ho : order ≤ 32) : ∀ k, hashU64 order k < tableSize order := hashU64_lt order ho
example (order : Nat) (ho : order ≤ 32) : ∀ k, hashStr order k < tableSize order := hashStr_lt order ho

/-- non-vacuity of `WF` / `WFS`: the tables of the examples below are reachable, hence well-formed -/
theorem demo_wfs (order : Nat) (ho : order ≤ 32) (ops : List (Op Nat Nat)) :
    WFS (tableSize order) (hashU32 order) (tableOf order true ops) :=
  let h := wf_run order (hashU32 order) (hashU32_lt order ho) true ops
  { toWF := h.1, nostale := h.2 rfl }

example : WF (tableSize 3) (hashU32 3) demoTable := (demo_wfs 3 (by decide) demoOps).toWF

/-- `get` returns `v` exactly when the table maps the key to `v`. -/
theorem get_iff_maps (order : Nat) (hash : K → Nat) (hhash : ∀ k, hash k < tableSize order)
    (t : Table K V) (wf : WF (tableSize order) hash t) (k : K) (v : V) :
    get (tableSize order) hash t k = some v ↔ Maps (tableSize order) t k v :=
  get_iff_maps' (tableSize_pos order) wf (hhash k) v

/-- instance: lookups in `demoTable` — overwritten value, entry wrapped around the table end,
removed key -/
example : get (tableSize 3) (hashU32 3) demoTable 22 = some 11 ∧
    get (tableSize 3) (hashU32 3) demoTable 57 = some 3 ∧
    get (tableSize 3) (hashU32 3) demoTable 31 = none := by decide +kernel

/-- An accepted `put` keeps the invariant and updates the denoted map to `abs[k ↦ v]`;
`prev` is the value stored before (zero if none). -/
theorem put_ok (order : Nat) (hash : K → Nat) (hhash : ∀ k, hash k < tableSize order) (clr : Bool)
    (t : Table K V) (wf : WF (tableSize order) hash t) (k : K) (v : V)
    (hrc : (put (tableSize order) (addRange order) hash clr t k v).rc = .ok) :
    let r := put (tableSize order) (addRange order) hash clr t k v
    WF (tableSize order) hash r.tab ∧
      (∀ k' v', Maps (tableSize order) r.tab k' v' ↔
        (k' = k ∧ v' = v) ∨ (k' ≠ k ∧ Maps (tableSize order) t k' v')) ∧
      r.prev = (get (tableSize order) hash t k).getD default := by
  obtain ⟨h1, _, h3, _, h5⟩ := put_spec (tableSize_pos order) (addRange_le order) clr wf (hhash k) v
  exact ⟨h1, h3 hrc, h5⟩

/-- instance of the hypothesis of `put_ok`: an accepted put of a new, colliding key -/
example : (put (tableSize 3) (addRange 3) (hashU32 3) true demoTable 28 5).rc = .ok := by decide +kernel

/-- A refused `put` keeps the invariant, leaves the denoted map unchanged (the table may have
been rearranged), and the key was absent. -/
theorem put_full (order : Nat) (hash : K → Nat) (hhash : ∀ k, hash k < tableSize order) (clr : Bool)
    (t : Table K V) (wf : WF (tableSize order) hash t) (k : K) (v : V)
    (hrc : (put (tableSize order) (addRange order) hash clr t k v).rc = .full) :
    let r := put (tableSize order) (addRange order) hash clr t k v
    WF (tableSize order) hash r.tab ∧
      (∀ k' v', Maps (tableSize order) r.tab k' v' ↔ Maps (tableSize order) t k' v') ∧
      ¬ ∃ v, Maps (tableSize order) t k v := by
  obtain ⟨h1, _, _, h4, _⟩ := put_spec (tableSize_pos order) (addRange_le order) clr wf (hhash k) v
  obtain ⟨h4a, h4b⟩ := h4 hrc
  exact ⟨h1, h4a, fun ⟨v, m⟩ => h4b v m⟩

/-- instance of the hypothesis of `put_full`: the window of bucket 0 is occupied (order 3) -/
example : (put (tableSize 3) (addRange 3) (hashU32 3) true (tableOf 3 true fullOps) 32 5).rc = .full := by
  decide +kernel

/-- `remove` keeps the invariant, returns the stored value exactly when the key was present,
removes the key and leaves every other key's mapping unchanged. -/
theorem remove_spec (order : Nat) (hash : K → Nat) (hhash : ∀ k, hash k < tableSize order)
    (t : Table K V) (wf : WF (tableSize order) hash t) (k : K) :
    let r := remove (tableSize order) hash t k
    WF (tableSize order) hash r.2 ∧
      (∀ v, r.1 = some v ↔ Maps (tableSize order) t k v) ∧
      (∀ v, ¬ Maps (tableSize order) r.2 k v) ∧
      (∀ k', k' ≠ k → ∀ v', Maps (tableSize order) r.2 k' v' ↔ Maps (tableSize order) t k' v') := by
  obtain ⟨h1, _, h3, h4, h5⟩ := remove_spec_full (tableSize_pos order) wf (hhash k)
  exact ⟨h1, h3, h4, h5⟩

/-- instance: removing a present and an absent key from `demoTable` -/
example : (remove (tableSize 3) (hashU32 3) demoTable 22).1 = some 11 ∧
    (remove (tableSize 3) (hashU32 3) demoTable 31).1 = none := by decide +kernel

/-- No operation on key `k` changes what a lookup of any other key returns. -/
theorem others_undisturbed (order : Nat) (hash : K → Nat) (hhash : ∀ k, hash k < tableSize order)
    (clr : Bool) (t : Table K V) (wf : WF (tableSize order) hash t) (k k' : K) (hne : k' ≠ k) (v : V) :
    get (tableSize order) hash (put (tableSize order) (addRange order) hash clr t k v).tab k' =
        get (tableSize order) hash t k' ∧
      get (tableSize order) hash (remove (tableSize order) hash t k).2 k' =
        get (tableSize order) hash t k' := by
  have hN := tableSize_pos order
  obtain ⟨p1, _, p3, p4, _⟩ := put_spec hN (addRange_le order) clr wf (hhash k) v
  obtain ⟨r1, _, _, _, r5⟩ := remove_spec_full hN wf (hhash k)
  refine ⟨get_eq_of_maps hN wf p1 (hhash k') fun v' => ?_, get_eq_of_maps hN wf r1 (hhash k') (r5 k' hne)⟩
  cases hrc : (put (tableSize order) (addRange order) hash clr t k v).rc with
  | ok => rw [p3 hrc]; simp [hne]
  | full => exact (p4 hrc).1 k' v'

/-- instance of `hne`, with both keys present in `demoTable` and hashing to the same bucket -/
example : (57 : Nat) ≠ 22 ∧ hashU32 3 57 = hashU32 3 22 := by decide

/-- **Refinement.** Any operation sequence applied to the empty table produces exactly the outputs
of an association-list map; the only freedom is that a `put` of an absent key may be refused
(`refusals` marks where the table did), and a refused `put` changes nothing. -/
theorem run_refines_map (order : Nat) (hash : K → Nat) (hhash : ∀ k, hash k < tableSize order)
    (clr : Bool) (ops : List (Op K V)) :
    let outs := (runTable (tableSize order) (addRange order) hash clr (empty (tableSize order)) ops).1
    outs = runAssoc [] ops (refusals outs) :=
  (run_refines (tableSize_pos order) (addRange_le order) clr hhash ops _ []
    wfs_empty.toWF abs_empty).1

/-- instance: the outputs of `demoOps` and of a history with a refusal -/
example : (runTable (tableSize 3) (addRange 3) (hashU32 3) true (empty (tableSize 3)) demoOps).1 =
    [.putOk 0, .putOk 0, .putOk 0, .putOk 0, .putOk 1, .removed (some 2), .putOk 0] := by decide +kernel

example : (runTable (tableSize 3) (addRange 3) (hashU32 3) true (empty (tableSize 3))
      (fullOps ++ [.put 32 5, .get 32, .put 9 7, .get 9])).1 =
    [.putOk 0, .putOk 0, .putOk 0, .putOk 0, .putFull, .got none, .putOk 1, .got (some 7)] := by decide +kernel

/-- **Why `put` refuses** (fixed code, tables without ghost slots): the key is absent, and either
every slot of the probe window `[hash k, hash k + A)` holds a live entry, or the greedy
displacement got stuck: the rearranged table has an empty slot at a distance `≥ W` inside the
window, everything before it is live, and none of the `W - 1` preceding buckets owns an entry
that could legally be moved into it. -/
theorem full_reason (order : Nat) (hash : K → Nat) (hhash : ∀ k, hash k < tableSize order)
    (t : Table K V) (wfs : WFS (tableSize order) hash t) (k : K) (v : V)
    (hrc : (put (tableSize order) (addRange order) hash true t k v).rc = .full) :
    (¬ ∃ v, Maps (tableSize order) t k v) ∧
      (WindowOccupied (tableSize order) (addRange order) t (hash k) ∨
        Stuck (tableSize order) (addRange order)
          (put (tableSize order) (addRange order) hash true t k v).tab (hash k)) := by
  obtain ⟨h1, h2, _⟩ := put_full_reason (tableSize_pos order) (addRange_le order) wfs (hhash k) v hrc
  exact ⟨h1, h2⟩

/-- instances of the hypotheses of `full_reason` / `no_capacity_loss`: a refusal because the window
is occupied (order 3, above) and one because the displacement got stuck (order 7: the replay of
finding F25 on the fixed code); both tables satisfy `WFS` by `demo_wfs` -/
example : (put (tableSize 7) (addRange 7) (hashU32 7) true (tableOf 7 true stuckOps) 4021 600).rc = .full := by
  decide +kernel

example : WFS (tableSize 7) (hashU32 7) (tableOf 7 true stuckOps) := demo_wfs 7 (by decide) stuckOps
example : WFS (tableSize 3) (hashU32 3) (tableOf 3 true fullOps) := demo_wfs 3 (by decide) fullOps

/-- the hypothesis of `full_iff_small` holds for every order up to 6 (tables of at most 64 slots) -/
theorem small_orders (order : Nat) (ho : order ≤ 6) : addRange order ≤ W := by
  rw [addRange_eq]
  have hW : W = 2 ^ 5 := by decide
  rw [hW]
  exact Nat.pow_le_pow_right (by decide) (by omega)

/-- instance: `small_orders` applies to the default routing table order (6), not to order 7 -/
example : addRange 6 ≤ W ∧ ¬ addRange 7 ≤ W := by decide

/-- When the add range does not exceed the hop range (`N ≤ 2·W`, i.e. `N ≤ 64`) no displacement
is ever attempted: `put` refuses **iff** the key is absent and the window is fully occupied. -/
theorem full_iff_small (order : Nat) (hsmall : addRange order ≤ W) (hash : K → Nat)
    (hhash : ∀ k, hash k < tableSize order) (clr : Bool)
    (t : Table K V) (wfs : WFS (tableSize order) hash t) (k : K) (v : V) :
    (put (tableSize order) (addRange order) hash clr t k v).rc = .full ↔
      (¬ ∃ v, Maps (tableSize order) t k v) ∧
        WindowOccupied (tableSize order) (addRange order) t (hash k) :=
  put_full_iff_small (tableSize_pos order) (addRange_le order) hsmall clr wfs (hhash k) v

/-- **No capacity loss** (fixed code): a refused `put` leaves the number of empty slots
unchanged (and the table without ghost slots).  False for the code before fix F25, see
`no_capacity_loss_legacy_counterexample`. -/
theorem no_capacity_loss (order : Nat) (hash : K → Nat) (hhash : ∀ k, hash k < tableSize order)
    (t : Table K V) (wfs : WFS (tableSize order) hash t) (k : K) (v : V)
    (hrc : (put (tableSize order) (addRange order) hash true t k v).rc = .full) :
    emptyCount (tableSize order) (put (tableSize order) (addRange order) hash true t k v).tab =
        emptyCount (tableSize order) t ∧
      WFS (tableSize order) hash (put (tableSize order) (addRange order) hash true t k v).tab := by
  obtain ⟨_, _, h3⟩ := put_full_reason (tableSize_pos order) (addRange_le order) wfs (hhash k) v hrc
  obtain ⟨p1, p2, _⟩ := put_spec (tableSize_pos order) (addRange_le order) true wfs.toWF (hhash k) v
  exact ⟨h3, { toWF := p1, nostale := p2 rfl wfs.nostale }⟩

/-- The invariant with no ghost slots is kept by every operation of the fixed code. -/
theorem wfs_step (order : Nat) (hash : K → Nat) (hhash : ∀ k, hash k < tableSize order)
    (t : Table K V) (wfs : WFS (tableSize order) hash t) (op : Op K V) :
    WFS (tableSize order) hash (stepTable (tableSize order) (addRange order) hash true t op).2 := by
  cases op with
  | get k => exact wfs
  | remove k =>
    obtain ⟨h1, h2, _⟩ := remove_spec_full (tableSize_pos order) wfs.toWF (hhash k)
    exact { toWF := h1, nostale := h2 wfs.nostale }
  | put k v =>
    obtain ⟨h1, h2, _⟩ := put_spec (tableSize_pos order) (addRange_le order) true wfs.toWF (hhash k) v
    have : (stepTable (tableSize order) (addRange order) hash true t (.put k v)).2 =
        (put (tableSize order) (addRange order) hash true t k v).tab := by
      simp only [stepTable]; split <;> rfl
    rw [this]
    exact { toWF := h1, nostale := h2 rfl wfs.nostale }

/-- **The router's sweep** (`remove_routing_info_from_peer`, `remove_peer_from_routing_table`):
iterating over all slots and removing the key found in each non-empty slot, on a table without
ghost slots, (1) ends with a table that maps nothing, in which every key is the empty pattern and
every bitmap is zero; (2) hands out exactly the values the table held; (3) removes exactly as
many entries as there were occupied slots. -/
theorem sweep_spec (order : Nat) (hash : K → Nat) (hhash : ∀ k, hash k < tableSize order)
    (t : Table K V) (wfs : WFS (tableSize order) hash t) :
    let s := sweep (tableSize order) hash t
    (∀ k v, ¬ Maps (tableSize order) s.2 k v) ∧
      (∀ j, j < tableSize order → (slot s.2 j).key = none ∧ (slot s.2 j).hop = 0) ∧
      (∀ v, v ∈ s.1 ↔ ∃ k, Maps (tableSize order) t k v) ∧
      s.1.length + emptyCount (tableSize order) t = tableSize order := by
  have hN := tableSize_pos order
  obtain ⟨h1, h2, h3, h4⟩ := sweepFrom_spec hN hhash (tableSize order) 0 t (by omega) wfs
    (fun j hj => by omega)
  refine ⟨no_maps_of_all_none hN h2, fun j hj => ⟨h2 j hj, ?_⟩, h3, h4⟩
  apply BitVec.eq_of_getLsbD_eq
  intro d hd
  have hz : (0 : BitVec W).getLsbD d = false := by simp
  rw [hz]
  cases hb : (slot (sweep (tableSize order) hash t).2 j).hop.getLsbD d with
  | false => rfl
  | true =>
    obtain ⟨_, k, hk, _⟩ := h1.bits j hj d hd hb
    rw [h2 _ (Nat.mod_lt _ hN)] at hk; cases hk

/-- instance: sweeping `demoTable` (slots 0, 1, 2 and 7 occupied, two of them by wrapped entries of
bucket 7) hands out the four stored values in slot order and leaves a pristine table -/
example : (sweep (tableSize 3) (hashU32 3) demoTable).1 = [40, 3, 10, 11] ∧
    (sweep (tableSize 3) (hashU32 3) demoTable).2 = empty (tableSize 3) := by decide +kernel

end

/-- **F25, code before the fix** (`clr = false`): the same refused put *loses* an empty slot — the
slot vacated by the displacement keeps its key although no bitmap refers to it any more.
(The full-strength `no_capacity_loss` above is proved for the committed, fixed code.) -/
theorem no_capacity_loss_legacy_counterexample :
    let t := tableOf 7 false stuckOps
    let r := put (tableSize 7) (addRange 7) (hashU32 7) false t 4021 600
    r.rc = .full ∧ emptyCount (tableSize 7) r.tab + 1 = emptyCount (tableSize 7) t ∧
      (slot r.tab 32).key = some 27 ∧ (slot r.tab 33).key = some 27 := by
  dsimp only
  -- both tables have `tableSize 7` slots (they are well-formed), so the empty slots can be counted
  -- in one pass over the arrays; `rw [tableOf]`, not unfolding: the kernel would run the history
  -- to compare `tableOf ..` with `(runTable ..).2`
  have wf : WF (tableSize 7) (hashU32 7) (tableOf 7 false stuckOps) := by
    rw [tableOf]; exact (wf_run 7 (hashU32 7) (hashU32_lt 7 (by decide)) false stuckOps).1
  have hr := (put_spec (tableSize_pos 7) (addRange_le 7) false wf (hashU32_lt 7 (by decide) 4021) 600).1.size
  rw [emptyCount_toList hr, emptyCount_toList wf.size]
  decide +kernel

end Cjet.Props.C17
