import Cjet.Lemmas.DaemonC11Answer
import Cjet.Lemmas.DaemonC11Accept
import Cjet.Props.Evloop
import Cjet.Props.Accept
/-!
# C11 — a slow, failing or hostile peer harms only itself

Fault model of the daemon model `Cjet.Daemon`: the result of every send is an oracle input
(`Oracle.sends`, one value per send, in order).  A peer is faulty in a step if the sends addressed
to it may fail.  Garbage from a peer ends that peer's own connection (C05); here: what the *other*
peers see does not depend on how the sends to a faulty peer went.

Vocabulary (`Cjet.Lemmas.DaemonC11*`):
* `strip` erases the result flag of a send; `Sim x y`: the working contexts `x`, `y` have the same
  state, the same table-refusal flags and the same outputs up to send results (oracles arbitrary);
  `SimR a b`: `Sim a.1 b.1 ∧ a.2 = b.2`;
* `isRouted j`: `j` has the shape of a routed request; `Crit c d j := d = c ∨ isRouted j`: the
  decisive sends of a message of `c`; `critOf op` the same per operation (none for disconnect,
  timer expiry, connect);
* `AgreeOn K o1 o2`: at every position where both output lists have a send to the same peer and
  `K` holds, the results are equal; `AgreeRun K ops os1 os2`: the same, step by step;
* `SameOp`, `SameOps`: the same operation(s) with the same table refusals, any send results;
* `received r o`: the messages (with delivery result) sent to `r` in the output list `o`.
-/

namespace Cjet.Props.C11

open Cjet Cjet.Json Cjet.Daemon Cjet.Daemon.C05 Cjet.Daemon.C11

/-! ## concrete history for the examples: `Cjet.Lemmas.DaemonC11Answer` (peer 1 owns state "a"; peers 2 and 3 fetch everything) -/

example : (step {} exS (.message 1 exChange { sends := [false, true, true] })).2.length = 3 := by
  simpa [exSummary] using congrArg List.length ex_change_failed

/-! ## 5a. the results of notification sends are ignored -/

/-- The post-state and what is sent to whom by `notifyFetchers`, `findFetchersForElement`,
    `offerAllElements`, `removeElement`, `freePeerResources`, `timeoutFired` and `routingResponse`
    do not depend on the send results at all: from contexts that differ only in send results
    (in particular: from the same context with ANY other oracle list, `Sim.of_sends`) they produce
    contexts that differ only in send results, and the same auxiliary results. -/
theorem notify_results_ignored (cfg : Config) (x y : Ctx) (h : Sim x y) :
    (∀ l, Sim x { x with sends := l }) ∧
    (∀ e ev, Sim (notifyFetchers x e ev) (notifyFetchers y e ev)) ∧
    (∀ e, SimR (findFetchersForElement cfg x e) (findFetchersForElement cfg y e)) ∧
    (∀ fp f, Sim (offerAllElements cfg x fp f) (offerAllElements cfg y fp f)) ∧
    (∀ e, Sim (removeElement x e) (removeElement y e)) ∧
    (∀ c, Sim (freePeerResources x c) (freePeerResources y c)) ∧
    (∀ c, Sim (closePeer x c) (closePeer y c)) ∧
    (∀ t, Sim (timeoutFired x t) (timeoutFired y t)) ∧
    (∀ p msg payload typ, SimR (routingResponse x p msg payload typ) (routingResponse y p msg payload typ)) :=
  ⟨Sim.of_sends x, notifyFetchers_sim h, findFetchersForElement_sim cfg h, offerAllElements_sim cfg h,
   removeElement_sim h, freePeerResources_sim h, closePeer_sim h, timeoutFired_sim h, routingResponse_sim h⟩

example : Sim (mkCtx exS { sends := [false, true] }) (mkCtx exS { sends := [true, false, false] }) :=
  ⟨rfl, rfl, rfl, rfl⟩

/-- The same, spelled out: run any of the seven functions from the same context with ANY other
    oracle list `l` — the post-state is the same and the same (target, json) sequence is sent. -/
theorem results_ignored_any_oracle (cfg : Config) (x : Ctx) (l : List Bool) :
    let y : Ctx := { x with sends := l }
    (∀ e ev, (notifyFetchers y e ev).st = (notifyFetchers x e ev).st ∧
      (notifyFetchers y e ev).out.map strip = (notifyFetchers x e ev).out.map strip) ∧
    (∀ e, (findFetchersForElement cfg y e).1.st = (findFetchersForElement cfg x e).1.st ∧
      (findFetchersForElement cfg y e).1.out.map strip = (findFetchersForElement cfg x e).1.out.map strip ∧
      (findFetchersForElement cfg y e).2 = (findFetchersForElement cfg x e).2) ∧
    (∀ fp f, (offerAllElements cfg y fp f).st = (offerAllElements cfg x fp f).st ∧
      (offerAllElements cfg y fp f).out.map strip = (offerAllElements cfg x fp f).out.map strip) ∧
    (∀ e, (removeElement y e).st = (removeElement x e).st ∧
      (removeElement y e).out.map strip = (removeElement x e).out.map strip) ∧
    (∀ c, (freePeerResources y c).st = (freePeerResources x c).st ∧
      (freePeerResources y c).out.map strip = (freePeerResources x c).out.map strip) ∧
    (∀ t, (timeoutFired y t).st = (timeoutFired x t).st ∧
      (timeoutFired y t).out.map strip = (timeoutFired x t).out.map strip) ∧
    (∀ p msg payload typ, (routingResponse y p msg payload typ).1.st = (routingResponse x p msg payload typ).1.st ∧
      (routingResponse y p msg payload typ).1.out.map strip = (routingResponse x p msg payload typ).1.out.map strip ∧
      (routingResponse y p msg payload typ).2 = (routingResponse x p msg payload typ).2) := by
  intro y
  have h : Sim x y := Sim.of_sends x l
  exact ⟨fun e ev => (notifyFetchers_sim h e ev).st_out, fun e => (findFetchersForElement_sim cfg h e).st_out,
    fun fp f => (offerAllElements_sim cfg h fp f).st_out, fun e => (removeElement_sim h e).st_out,
    fun c => (freePeerResources_sim h c).st_out, fun t => (timeoutFired_sim h t).st_out,
    fun p msg pl typ => (routingResponse_sim h p msg pl typ).st_out⟩

/-- every request handler except set/call: same state, same outputs up to results, same response -/
theorem handlers_results_ignored (cfg : Config) (x y : Ctx) (h : Sim x y) (p : Peer) (req : Json) :
    SimR (changeState x p req) (changeState y p req) ∧
    SimR (addElement cfg x p req) (addElement cfg y p req) ∧
    SimR (removeElementReq x p req) (removeElementReq y p req) ∧
    SimR (fetchReq cfg x p req) (fetchReq cfg y p req) ∧
    SimR (unfetchReq x p req) (unfetchReq y p req) ∧
    SimR (getReq cfg x p req) (getReq cfg y p req) ∧
    SimR (configReq x p req) (configReq y p req) ∧
    SimR (infoReq cfg x req) (infoReq cfg y req) ∧
    SimR (authenticateReq cfg x p req) (authenticateReq cfg y p req) ∧
    SimR (passwdReq x p req) (passwdReq y p req) :=
  ⟨changeState_sim h p req, addElement_sim cfg h p req, removeElementReq_sim h p req, fetchReq_sim cfg h p req,
   unfetchReq_sim h p req, getReq_sim cfg h p req, configReq_sim h p req, infoReq_sim cfg h req,
   authenticateReq_sim cfg h p req, passwdReq_sim h p req⟩

/-! ## 5b. one JSON-RPC object: only the response send and the routed-request send matter -/

/-- `parse_json_rpc` for connection `c` from two contexts that differ only in send results: if
    the two runs (whose final outputs, oldest first, are any lists `o1`, `o2` that begin with the
    outputs of the respective result) agree on the results of the sends to `c` and of routed
    requests, they end in contexts that differ only in send results and return the same verdict. -/
theorem parseJsonRpc_independent (cfg : Config) (x y : Ctx) (h : Sim x y) (c : Nat) (req : Json)
    (o1 o2 : List Obs) (e1 : Ext (parseJsonRpc cfg x c req).1 o1) (e2 : Ext (parseJsonRpc cfg y c req).1 o2)
    (ha : AgreeOn (Crit c) o1 o2) :
    SimR (parseJsonRpc cfg x c req) (parseJsonRpc cfg y c req) :=
  parseJsonRpc_sync cfg h c req e1 e2 ha

/-- `fanout_independent`, step level.  The same message of `c` served from the same reachable
    state with two oracles (same table refusals, ANY send results): if the outputs of the two
    steps agree on the results of the sends to `c` and of the routed requests, then the post-states
    are equal and the same things are sent to the same peers in the same order.  The results of
    all other sends — notifications and routed replies to bystanders — are irrelevant. -/
theorem fanout_independent (cfg : Config) (s : State) (hr : Reachable cfg s) (c : Nat) (msg : Option Json)
    (o1 o2 : Oracle) (hif : o1.indexFull = o2.indexFull) (hrf : o1.routeFull = o2.routeFull)
    (ha : AgreeOn (Crit c) (step cfg s (.message c msg o1)).2 (step cfg s (.message c msg o2)).2) :
    (step cfg s (.message c msg o1)).1 = (step cfg s (.message c msg o2)).1 ∧
    (step cfg s (.message c msg o1)).2.map strip = (step cfg s (.message c msg o2)).2.map strip :=
  message_sync cfg hr.inv c msg o1 o2 hif hrf ha

/-- non-vacuity: the send to subscriber 2 fails in one run and succeeds in the other; subscriber 3
    and the requester 1 are served identically -/
example : Reachable {} exS ∧
    AgreeOn (Crit 1) (step {} exS (.message 1 exChange { sends := [false, true, true] })).2
      (step {} exS (.message 1 exChange { sends := [true, true, true] })).2 := by
  refine ⟨exS_reachable, ?_⟩
  intro i d j1 j2 b1 b2 g1 g2 hk
  have f1 := exSummary_getElem? g1
  have f2 := exSummary_getElem? g2
  rw [ex_change_failed] at f1
  rw [ex_change_ok] at f2
  -- position by position: no output is a routed request, and the one send to peer 1 succeeds in both runs
  have key : ∀ z ∈ List.zip [(2, false, false), (3, false, true), (1, false, true)]
      [(2, false, true), (3, false, true), (1, false, true)],
      z.1.1 = 1 ∨ z.1.2.1 = true → z.1.2.2 = z.2.2.2 := by decide
  exact key ((d, isRouted j1, b1), (d, isRouted j2, b2))
    (List.mem_of_getElem? (List.getElem?_zip_eq_some.2 ⟨f1, f2⟩)) hk

/-! ## 6. runs -/

/-- disconnects and timer expiries do not look at any send result -/
theorem teardown_and_expiry_independent (cfg : Config) (s : State) (c t : Nat) (o1 o2 : Oracle)
    (hif : o1.indexFull = o2.indexFull) (hrf : o1.routeFull = o2.routeFull) :
    ((step cfg s (.disconnect c o1)).1 = (step cfg s (.disconnect c o2)).1 ∧
     (step cfg s (.disconnect c o1)).2.map strip = (step cfg s (.disconnect c o2)).2.map strip) ∧
    ((step cfg s (.timerFire t o1)).1 = (step cfg s (.timerFire t o2)).1 ∧
     (step cfg s (.timerFire t o1)).2.map strip = (step cfg s (.timerFire t o2)).2.map strip) :=
  ⟨disconnect_sync cfg s c o1 o2 hif hrf, timerFire_sync cfg s t o1 o2 hif hrf⟩

/-- Two runs of the same operations from the same reachable state, with any send results: if,
    step by step, they agree on the results of the decisive sends (for a message of `c`: the sends
    to `c` and the routed requests), the final states are equal and every step sends the same
    things to the same peers in the same order. -/
theorem runs_independent (cfg : Config) (s : State) (hr : Reachable cfg s) (ops1 ops2 : List Op)
    (hs : SameOps ops1 ops2) (ha : AgreeRun critOf ops1 (run cfg s ops1).2 (run cfg s ops2).2) :
    (run cfg s ops1).1 = (run cfg s ops2).1 ∧
    (run cfg s ops1).2.map (·.map strip) = (run cfg s ops2).2.map (·.map strip) :=
  run_sync cfg hr.inv hs ha

/-- `healthy_peers_unaffected`.  `F` is the set of faulty peers.  Two runs of the same operations
    whose oracles differ only in the results of sends addressed to peers in `F` (`AgreeRun … ¬F`),
    where no peer of `F` is the sender of a message and no routed request is addressed to a peer
    of `F`: the final states are equal, every step sends the same messages to the same peers in the
    same order, and every peer outside `F` is sent the same messages with the same results. -/
theorem healthy_peers_unaffected (cfg : Config) (F : Nat → Prop) (s : State) (hr : Reachable cfg s)
    (ops1 ops2 : List Op) (hs : SameOps ops1 ops2)
    (hreq : ∀ op ∈ ops1, ∀ c m o, op = Op.message c m o → ¬ F c)
    (hrouted : ∀ o ∈ (run cfg s ops1).2, ∀ d j b, Obs.send d j b ∈ o → isRouted j = true → ¬ F d)
    (ha : AgreeRun (fun _ d _ => ¬ F d) ops1 (run cfg s ops1).2 (run cfg s ops2).2) :
    (run cfg s ops1).1 = (run cfg s ops2).1 ∧
    (run cfg s ops1).2.map (·.map strip) = (run cfg s ops2).2.map (·.map strip) ∧
    ∀ r, ¬ F r → (run cfg s ops1).2.map (received r) = (run cfg s ops2).2.map (received r) :=
  run_sync_faulty cfg F hr.inv hs hreq hrouted ha

/-- non-vacuity: F = {2}; peer 1 changes its state, the notification to 2 fails in one run only -/
example : Reachable {} exS ∧
    SameOps [.message 1 exChange { sends := [false, true, true] }] [.message 1 exChange { sends := [true, true, true] }] ∧
    (∀ op ∈ [Op.message 1 exChange { sends := [false, true, true] }], ∀ c m o, op = Op.message c m o → ¬ (c = 2)) ∧
    (∀ o ∈ (run {} exS [.message 1 exChange { sends := [false, true, true] }]).2, ∀ d j b,
      Obs.send d j b ∈ o → isRouted j = true → ¬ (d = 2)) := by
  refine ⟨exS_reachable, .cons ⟨rfl, rfl, rfl, rfl⟩ .nil, ?_, ?_⟩
  · intro op hop c m o h
    simp only [List.mem_singleton] at hop
    subst hop
    cases h
    decide
  · intro o ho d j b hm hrt
    rw [run_cons, run_nil, List.mem_singleton] at ho
    subst ho
    have f : (d, isRouted j, b) ∈ exSummary _ := List.mem_map.2 ⟨_, hm, rfl⟩
    rw [ex_change_failed, hrt] at f
    simp at f

/-- `answered_exactly_once_under_faults`.  A `set`/`call` request of `c` that passes every check
    (`RoutedBy`) and whose delivery to the owner fails, from a requester whose own connection
    works: the whole step is — arm the timer, attempt the delivery, destroy the timer, and send `c`
    exactly one response, the INTERNAL_ERROR "could not send routing information" carrying the
    request's id.  Afterwards the owner's routing table is what it was before (minus entries
    carrying the same routed id), no routing entry holds the timer that was armed, and nothing
    else in the state changed but the two counters. -/
theorem answered_exactly_once_under_faults (cfg : Config) (s : State) (hr : Reachable cfg s) (c : Nat)
    (l : List (Bytes × Json)) (p : Peer) (isState : Bool) (path : Bytes) (e : Element) (id : Json)
    (value : Option Json) (tns : Nat)
    (h : RoutedBy cfg s c (.obj l) p isState path e id value tns) (o : Oracle) (hrf : o.routeFull = false)
    (rest : List Bool) (hs : o.sends = false :: true :: rest) :
    let rid := routedId (some id) s.uuid p.addrTok
    let s' := (step cfg s (.message c (some (.obj l)) o)).1
    (step cfg s (.message c (some (.obj l)) o)).2 =
      [.timerArm s.nextTimer tns,
       .send e.owner (routedMessage rid path isState value) false,
       .timerDestroy s.nextTimer,
       .send c (.obj [(k "id", id), (k "error",
         errorObject INTERNAL_ERROR "reason" (k "could not send routing information"))]) true] ∧
    s' = { s with uuid := (s.uuid + 1) % 4294967296, nextTimer := s.nextTimer + 1,
                  peers := removeRoute s.peers e.owner rid } ∧
    (∀ q ∈ s'.peers, ∀ r ∈ q.routes, r.timer ≠ s.nextTimer) ∧
    (∀ q ∈ s'.peers, ∀ r ∈ q.routes, ∃ q0 ∈ s.peers, q0.conn = q.conn ∧ r ∈ q0.routes) := by
  have hstep := routed_failed_delivery cfg h o hrf rest hs
  have hrem := removeRoute_added s.peers e.owner
    (⟨routedId (some id) s.uuid p.addrTok, c, e.owner, some id, s.nextTimer⟩ : Route)
  dsimp only at hrem ⊢
  rw [hstep]
  dsimp only
  rw [hrem]
  have hold : ∀ q ∈ removeRoute s.peers e.owner (routedId (some id) s.uuid p.addrTok), ∀ r ∈ q.routes,
      ∃ q0 ∈ s.peers, q0.conn = q.conn ∧ r ∈ q0.routes := by
    intro q hq r hrm
    unfold removeRoute at hq
    obtain ⟨q0, hq0, rfl⟩ := mem_updatePeer.1 hq
    refine ⟨q0, hq0, by split <;> rfl, ?_⟩
    split at hrm
    · exact (List.mem_filter.1 hrm).1
    · exact hrm
  refine ⟨rfl, rfl, ?_, hold⟩
  intro q hq r hrm
  obtain ⟨q0, hq0, _, hr0⟩ := hold q hq r hrm
  exact Nat.ne_of_lt (hr.inv.routes q0 hq0 r hr0).2.2

/-- non-vacuity: peer 3 sets "a", owned by peer 1 -/
example : Reachable {} exS ∧ ∃ p path e value tns, RoutedBy {} exS 3 exSet p true path e (exNum 9) value tns :=
  ⟨exS_reachable, exP, exPlan.2.1, exPlan.2.2.1, exPlan.2.2.2.2, 5000000000, ex_routedBy⟩

/-- the same request when the delivery succeeds is routed (so `RoutedBy` is what it says) -/
theorem routed_when_delivered (cfg : Config) (s : State) (c : Nat) (l : List (Bytes × Json)) (p : Peer)
    (isState : Bool) (path : Bytes) (e : Element) (id : Json) (value : Option Json) (tns : Nat)
    (h : RoutedBy cfg s c (.obj l) p isState path e id value tns) (o : Oracle) (hrf : o.routeFull = false)
    (rest : List Bool) (hs : o.sends = true :: rest) :
    (step cfg s (.message c (some (.obj l)) o)).2 =
      [.timerArm s.nextTimer tns,
       .send e.owner (routedMessage (routedId (some id) s.uuid p.addrTok) path isState value) true] ∧
    (step cfg s (.message c (some (.obj l)) o)).1.peers =
      updatePeer s.peers e.owner (fun q => { q with routes := q.routes ++
        [⟨routedId (some id) s.uuid p.addrTok, c, e.owner, some id, s.nextTimer⟩] }) := by
  rw [routed_delivered cfg h o hrf rest hs]
  exact ⟨rfl, rfl⟩

/-! ## 7. accept failures -/

open Cjet.Daemon.C11.Accept in
/-- `accept_failure_survived`: for every sequence of accept results, the repaired accept loop
    * aborts the event loop only if the result that ended the loop is one of the "listening socket
      unusable" errnos (EBADF, EINVAL, ENOTSOCK, EOPNOTSUPP, EFAULT) — and does abort then;
    * hands to the peer function exactly the descriptors the kernel returned before the loop
      ended, each once, in order;
    * is never ended by ECONNABORTED or EINTR: with or without such a result in the sequence the
      outcome is the same. -/
theorem accept_failure_survived (rs : List Res) :
    ((acceptCommon rs).1 = .abortLoop ↔
      ∃ e, (consumed rs).getLast? = some (.err e) ∧
        (e = .EBADF ∨ e = .EINVAL ∨ e = .ENOTSOCK ∨ e = .EOPNOTSUPP ∨ e = .EFAULT)) ∧
    (acceptCommon rs).2 = fdsOf (consumed rs) ∧
    (∀ pre rest e, rs = pre ++ .err e :: rest → (∀ r ∈ pre, ∃ n, r = .fd n) →
      (e = .ECONNABORTED ∨ e = .EINTR) → acceptCommon rs = acceptCommon (pre ++ rest)) := by
  refine ⟨?_, accept_fds rs, ?_⟩
  · rw [accept_abort_iff]
    refine exists_congr fun e => and_congr_right fun _ => ⟨fun h2 => ?_, fun h2 => ?_⟩
    · cases e <;> first | cases h2; done | simp
    · rcases h2 with rfl | rfl | rfl | rfl | rfl <;> rfl
  · intro pre rest e hrs hpre he
    rw [hrs]
    apply accept_skips_retry pre rest e hpre
    rcases he with rfl | rfl <;> rfl

open Cjet.Daemon.C11.Accept in
example : [Res.fd 4, .err .ECONNABORTED, .fd 5] = [Res.fd 4] ++ .err .ECONNABORTED :: [.fd 5] ∧
    (∀ r ∈ [Res.fd 4], ∃ n, r = .fd n) := by
  refine ⟨rfl, ?_⟩
  intro r hr
  simp only [List.mem_singleton] at hr
  exact ⟨4, hr⟩

open Cjet.Daemon.C11.Accept in
/-- the code before the repair: an aborted connection attempt (or a signal, or a transient lack of
    descriptors) ended the event loop and lost the connection queued behind it; the repaired loop
    accepts it and keeps serving -/
theorem accept_original_counterexample :
    acceptOriginal [.err .ECONNABORTED, .fd 7] = (.abortLoop, []) ∧
    acceptCommon [.err .ECONNABORTED, .fd 7] = (.continueLoop, [7]) ∧
    acceptOriginal [.fd 3, .err .EMFILE] = (.abortLoop, [3]) ∧
    acceptCommon [.fd 3, .err .EMFILE] = (.continueLoop, [3]) ∧
    acceptOriginal [.err .EINTR] = (.abortLoop, []) ∧
    acceptCommon [.err .EINTR] = (.continueLoop, []) := by decide

/-! ### component level: the real dispatcher (eventloop_epoll.c) and the real accept loop (linux_io.c) — one peer's events, removals and failed connection attempts leave the turns of all others and the listener untouched -/

theorem evloop_others_undisturbed : type_of% @Cjet.Props.Evloop.others_undisturbed := @Cjet.Props.Evloop.others_undisturbed
theorem evloop_every_entry_gets_its_turn : type_of% @Cjet.Props.Evloop.every_entry_gets_its_turn := @Cjet.Props.Evloop.every_entry_gets_its_turn
theorem evloop_error_mask_only_error_function : type_of% @Cjet.Props.Evloop.error_mask_only_error_function_in_batch := @Cjet.Props.Evloop.error_mask_only_error_function_in_batch
theorem evloop_abort_stops_everything : type_of% @Cjet.Props.Evloop.abort_stops_everything := @Cjet.Props.Evloop.abort_stops_everything
theorem evloop_eintr_continues : type_of% @Cjet.Props.Evloop.eintr_continues := @Cjet.Props.Evloop.eintr_continues
theorem accept_fatal_class_exact : type_of% @Cjet.Props.Accept.fatal_class_exact := @Cjet.Props.Accept.fatal_class_exact
theorem accept_retry_class_exact : type_of% @Cjet.Props.Accept.retry_class_exact := @Cjet.Props.Accept.retry_class_exact
theorem accept_abort_only_on_fatal : type_of% @Cjet.Props.Accept.abort_only_on_fatal := @Cjet.Props.Accept.abort_only_on_fatal
theorem accept_listener_survives_transient : type_of% @Cjet.Props.Accept.listener_survives_transient := @Cjet.Props.Accept.listener_survives_transient
theorem accept_retry_class_continues_accepting : type_of% @Cjet.Props.Accept.retry_class_continues_accepting := @Cjet.Props.Accept.retry_class_continues_accepting
theorem accept_loop_terminates_when_queue_drains : type_of% @Cjet.Props.Accept.loop_terminates_when_queue_drains := @Cjet.Props.Accept.loop_terminates_when_queue_drains

end Cjet.Props.C11
