import Cjet.Bufwrite
import Cjet.Lemmas.Bufwrite
import Cjet.Generated.Consts
/-!
# C10 — outbound byte streams are whole frames in order, whatever the socket accepts

Model: `Cjet.Bufwrite` (write side of `src/buffered_socket.c` + gather order of
`src/posix/socket.c`).  All theorems are for every buffer capacity `cap`, every element type,
every sequence of frames (each an iovec = list of chunks), every script of kernel answers
(accept all / accept any number of bytes / would block / hard error, in any order and amount)
and every interleaving with writability events.

`failed` is the model of `bs->write_failed` ("the connection is dead": nothing is ever handed
to the kernel again and the next writability event calls the owner's error callback).
-/
namespace Cjet.Props.C10

open Cjet.Bufwrite

variable {α : Type}

/-! ## stream integrity -/

/-- **stream_integrity.** On a connection that has not been marked failed: the bytes accepted by
    the kernel so far followed by the bytes still queued are exactly the concatenation, in
    generation order, of the frames whose `writev` reported success. -/
theorem stream_integrity (cap : Nat) (ops : List (Op α)) (h : (run cap ops).w.failed = false) :
    (run cap ops).accepted ++ (run cap ops).w.pending = streamOf (run cap ops).completed :=
  (inv_run cap ops).live h

/-- non-vacuity: a history with a cut inside the header, a cut inside the payload, flushes and a
    refused frame in between stays live, with bytes both at the kernel and queued. -/
example :
    let r : Run Nat := run 16
      [ .writev [[1, 2, 3, 4], [5, 6, 7, 8, 9, 10, 11, 12]] [.part 3, .part 2],
        .writev [[13, 14, 15, 16], [17, 18, 19, 20, 21, 22, 23, 24, 25, 26]] [.block],
        .writable [.part 4],
        .writev [[27, 28], [29]] [.block] ]
    r.w.failed = false ∧ r.accepted = [1, 2, 3, 4, 5, 6, 7, 8, 9] ∧ r.w.pending = [10, 11, 12, 27, 28, 29] ∧
      r.completed.length = 2 := by decide +kernel

/-- Even on a failed connection the kernel has seen nothing but whole completed frames followed
    by a (possibly empty) prefix of the one frame that was being written when it failed. -/
theorem torn_frame_is_last (cap : Nat) (ops : List (Op α)) (h : (run cap ops).w.failed = true) :
    (run cap ops).accepted <+: streamOf (run cap ops).completed ++ (run cap ops).torn.flatten :=
  List.prefix_iff_exists_append_eq.mpr ((inv_run cap ops).dead h)

example :
    let r : Run Nat := run 16 [ .writev [[1, 2, 3, 4], List.range 20] [.part 2] ]
    r.w.failed = true ∧ r.accepted = [1, 2] ∧ r.completed = [] := by decide +kernel

/-- **order_preserved.** The completed frames are a subsequence of the offered frames in
    generation order, and the kernel's byte stream is a prefix of their concatenation in that
    order (plus, on a failed connection, the beginning of the torn frame): nothing is reordered. -/
theorem order_preserved (cap : Nat) (ops : List (Op α)) :
    (run cap ops).completed.Sublist (offered ops) ∧
    (run cap ops).accepted <+: streamOf (run cap ops).completed ++ (run cap ops).torn.flatten := by
  constructor
  · obtain ⟨x, hx, he⟩ := completed_sublist cap ops ({} : Run α)
    rw [run, he]
    exact hx
  · cases h : (run cap ops).w.failed with
    | true => exact torn_frame_is_last cap ops h
    | false =>
      rw [← stream_integrity cap ops h, List.append_assoc]
      exact List.prefix_append _ _

/-- **no_dup.** Byte accounting: on a live connection every byte of every completed frame is
    either at the kernel or queued exactly once (together with `stream_integrity`: at its own
    position). -/
theorem no_dup (cap : Nat) (ops : List (Op α)) (h : (run cap ops).w.failed = false) :
    (run cap ops).accepted.length + (run cap ops).w.pending.length =
      ((run cap ops).completed.map frameLen).sum := by
  rw [← length_streamOf, ← stream_integrity cap ops h, List.length_append]

example : (run 16 [ .writev [[1, 2], [3]] [.part 1], .writable [.part 1] ] : Run Nat).w.failed = false := by
  decide +kernel

/-! ## refusal is clean -/

/-- **accepted_frame_is_whole.** When `writev` reports success the whole frame is behind the
    previously pending bytes — at the kernel or queued — and the connection is live. -/
theorem accepted_frame_is_whole (cap : Nat) (w : Writer α) (f : List (List α)) (ks : List KW)
    (h : (writev cap w f ks).rc = 0) :
    (writev cap w f ks).w.failed = false ∧
    (writev cap w f ks).out ++ (writev cap w f ks).w.pending = w.pending ++ f.flatten := by
  cases hw : w.failed with
  | true => rw [writev_of_failed cap w f ks hw] at h; simp at h
  | false => exact (writev_post cap w f ks hw).ok h

example : (writev 16 (⟨[1, 2], false⟩ : Writer Nat) [[3, 4], [5]] [.part 3, .block]).rc = 0 := by decide +kernel

/-- **refusal_is_clean.** When `writev` reports failure, either nothing of the frame was queued
    or handed to the kernel (the stream consists of the previously pending bytes only and the
    connection stays usable), or the connection is marked failed (see `dead_is_final`). -/
theorem refusal_is_clean (cap : Nat) (w : Writer α) (f : List (List α)) (ks : List KW)
    (h : (writev cap w f ks).rc ≠ 0) :
    ((writev cap w f ks).out ++ (writev cap w f ks).w.pending = w.pending ∧
        (writev cap w f ks).w.failed = false) ∨
    (writev cap w f ks).w.failed = true := by
  cases hw : w.failed with
  | true => right; rw [writev_of_failed cap w f ks hw]; exact hw
  | false =>
    cases hf : (writev cap w f ks).w.failed with
    | true => right; rfl
    | false => left; exact ⟨(writev_post cap w f ks hw).refused h hf, rfl⟩

/-- both outcomes occur: a clean refusal after part of the *pending* bytes went out, and a
    refusal that has to kill the connection because part of the *frame* is already at the kernel -/
example :
    let r := writev 16 (⟨List.range 12, false⟩ : Writer Nat) [[100, 101, 102, 103], [104, 105, 106]] [.part 2]
    r.rc ≠ 0 ∧ r.w.failed = false ∧ r.out = [0, 1] ∧ r.w.pending = [2, 3, 4, 5, 6, 7, 8, 9, 10, 11] := by decide +kernel
example :
    let r := writev 16 (⟨[], false⟩ : Writer Nat) [[100, 101, 102, 103], List.range 20] [.part 5]
    r.rc ≠ 0 ∧ r.w.failed = true := by decide +kernel

/-- **dead_is_final.** On a failed connection `writev` reports failure and `write_function`
    calls the error callback; neither makes a kernel call, hands over a byte or changes the state. -/
theorem dead_is_final (cap : Nat) (w : Writer α) (f : List (List α)) (ks : List KW) (h : w.failed = true) :
    writev cap w f ks = ⟨w, -1, [], ks, 0⟩ ∧ writable w ks = (⟨w, -1, [], ks, 0⟩, true) := by
  refine ⟨writev_of_failed cap w f ks h, ?_⟩
  unfold writable
  rw [sendBuffer_of_failed w ks h]
  simp

/-- **nothing_after_dead.** Whatever is attempted after the connection was marked failed, the
    kernel's byte stream and the set of completed frames never change again: a peer never sees
    part of a frame followed by other data. -/
theorem nothing_after_dead (cap : Nat) (ops more : List (Op α)) (h : (run cap ops).w.failed = true) :
    (run cap (ops ++ more)).accepted = (run cap ops).accepted ∧
    (run cap (ops ++ more)).completed = (run cap ops).completed ∧
    (run cap (ops ++ more)).w.failed = true := by
  have key : ∀ (more : List (Op α)) (r : Run α), r.w.failed = true →
      (more.foldl (step cap) r).accepted = r.accepted ∧ (more.foldl (step cap) r).completed = r.completed ∧
      (more.foldl (step cap) r).w.failed = true := by
    intro more
    induction more with
    | nil => exact fun r hr => ⟨rfl, rfl, hr⟩
    | cons op more ih =>
      intro r hr
      obtain ⟨e1, e2, e3, _⟩ := step_of_failed cap r op hr
      rw [List.foldl_cons, ← e2, ← e3]
      exact ih _ (e1 ▸ hr)
  rw [run, List.foldl_append]
  exact key more _ h

example : (run 16 [ .writev [[1, 2, 3, 4], List.range 20] [.part 2] ] : Run Nat).w.failed = true := by decide +kernel

/-- The owner's error callback is called by `write_function` exactly when the connection is
    (now or already) failed — so a failed connection is reported at the next writability event. -/
theorem error_callback_iff_failed (w : Writer α) (ks : List KW) :
    (writable w ks).2 = true ↔ (writable w ks).1.w.failed = true := by
  show decide ((sendBuffer w ks).rc < 0) = true ↔ (sendBuffer w ks).w.failed = true
  rw [sendBuffer_rc]
  cases (sendBuffer w ks).w.failed <;> decide

/-! ## buffer bounds -/

/-- **fill_le_cap.** `to_write` never exceeds the size of the write buffer. -/
theorem fill_le_cap (cap : Nat) (ops : List (Op α)) : (run cap ops).w.pending.length ≤ cap :=
  (inv_run cap ops).le

/-- …in particular for the repository's `CONFIG_MAX_WRITE_BUFFER_SIZE`. -/
theorem fill_le_config (ops : List (Op α)) :
    (run Cjet.Generated.cfgMaxWriteBufferSize ops).w.pending.length ≤ Cjet.Generated.cfgMaxWriteBufferSize :=
  fill_le_cap _ ops

/-- **copy_in_bounds.** Every `memcpy` of `copy_single_buffer` stays inside the buffer: whatever
    the frame and the cut position, the buffer content after `copy_iovec_to_write_buffer` (which
    only appends) is at most `cap` long. -/
theorem copy_in_bounds (cap : Nat) (buf : List α) (cs : List (List α)) (ivw : Nat) (h : buf.length ≤ cap) :
    (copyIovec cap buf cs ivw).1.length ≤ cap :=
  copyIovec_le cap buf cs ivw h

example : ([1, 2, 3] : List Nat).length ≤ 16 := by decide

/-- **copy_never_refuses.** After the size check of `buffered_socket_writev` the element-wise
    copy cannot stop half way: it queues exactly the unsent tail of the frame (the cut may be
    inside any element, elements may be empty). -/
theorem copy_never_refuses (cap : Nat) (buf : List α) (cs : List (List α)) (ivw : Nat)
    (h : buf.length + (cs.flatten.length - ivw) ≤ cap) :
    copyIovec cap buf cs ivw = (buf ++ cs.flatten.drop ivw, true) :=
  copyIovec_spec cap buf cs ivw h

example : ([1, 2, 3] : List Nat).length + (([[4, 5], [], [6, 7, 8]] : List (List Nat)).flatten.length - 3) ≤ 16 := by
  decide +kernel

/-! ## no spinning -/

/-- **send_buffer_terminates.** Under the kernel contract (a successful write of `m > 0`
    requested bytes returns `1..m`) the flush loop makes at most one kernel call per pending
    byte — however many answers the script offers — and each call consumes one answer. -/
theorem send_buffer_terminates (w : Writer α) (ks : List KW) (hks : ∀ k ∈ ks, k.ok = true) :
    (sendBuffer w ks).calls ≤ w.pending.length :=
  sendBuffer_calls w ks hks

example : ∀ k ∈ [KW.part 1, .part 7, .all, .block, .err], k.ok = true := by decide

/-- The same for `buffered_socket_writev` including its first gathered write. -/
theorem writev_terminates (cap : Nat) (w : Writer α) (f : List (List α)) (ks : List KW)
    (hks : ∀ k ∈ ks, k.ok = true) :
    (writev cap w f ks).calls ≤ w.pending.length + frameLen f := by
  have := writev_calls cap w f ks hks
  simpa [frameLen] using this

/-- Kernel calls are paid for with script answers: the loop cannot make more calls than there
    are answers plus the final implicit "would block". -/
theorem send_buffer_consumes (w : Writer α) (ks : List KW) :
    (sendBuffer w ks).rest.length + (sendBuffer w ks).calls ≤ ks.length + 1 := by
  unfold sendBuffer
  cases hw : w.failed with
  | true => simp
  | false => simpa using sendLoop_consumes w.pending ks w.pending

/-! ## the defect that was repaired (F19), on the transcription of the code before the repair -/

/-- Before the repair: the pending buffer is full enough that the 4-byte header fits and the
    payload does not; the kernel would block.  `writev` reports failure, the connection stays in
    use, and the header of the refused frame is queued behind the pending bytes. -/
theorem refusal_is_clean_counterexample_before_fix :
    let w : Writer Nat := ⟨List.range 12, false⟩
    let r := Legacy.writev 16 w [[100, 101, 102, 103], [104, 105, 106, 107, 108, 109, 110, 111]] [.block]
    r.rc ≠ 0 ∧ r.w.failed = false ∧ r.out ++ r.w.pending = List.range 12 ++ [100, 101, 102, 103] := by
  decide +kernel

/-- Before the repair, after a partial kernel write that cut the frame's header: the first byte
    of the frame is at the kernel, the rest of the header is queued, the payload is dropped,
    `writev` reports failure and the connection stays in use. -/
theorem torn_after_partial_write_counterexample_before_fix :
    let w : Writer Nat := ⟨[], false⟩
    let r := Legacy.writev 16 w [[100, 101, 102, 103], List.range 14] [.part 1]
    r.rc ≠ 0 ∧ r.w.failed = false ∧ r.out = [100] ∧ r.w.pending = [101, 102, 103] := by
  decide +kernel

end Cjet.Props.C10
