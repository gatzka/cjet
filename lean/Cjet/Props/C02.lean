import Cjet.Lemmas.DaemonC02Examples

/-!
# C02 — JSON-RPC discipline: one response per request id, none for notifications

Model: `Cjet.Daemon.Model` (`parseMessage` → `parseJsonArray` → `parseJsonRpc` → `handleMethod`,
`sendResponse`, `routingResponse`, `timeoutFired`, `closePeer`).  Every statement quantifies over all
configurations, all contexts/states (no reachability assumption is needed except where the
invariant `RoutesOwned` is named, which holds in every reachable state: `routes_owned_reachable`),
all JSON values and all oracle values.

Vocabulary (`Cjet.Lemmas.DaemonC02Basic`, `…Route`, `…Dispatch`, `…Close`, `…Step`):
* `has j key`      — `cJSON_GetObjectItem(j, key) != NULL` (first match, ASCII case folded);
* `hasMethod j`    — `j` has a "method" member (notification or routed request);
* `isResponse j`   — `j` has a "result" or an "error" member and no "method" member;
* `respId j`       — the "id" member of `j`;
* `idOk id`        — `id` is a string or a number;   `Answerable req` — `req` has such an id;
* `WellFormed id j`— `j` is exactly `{"id": id, "result": v}` or `{"id": id, "error": v}`;
* `outsTo c obs`   — the JSON values of the `Obs.send c j _` entries of `obs`, in order;
* `AcceptedRouted new` — some `Obs.send _ j true` in `new` carries "method" and "id"
  (a set/call handed to the element's owner with success);
* `RequestLike m`  — `m` has a "method" member, or neither "result" nor "error";
* `IsRelayOf r m d j` — `m` is a response object whose id is the string `r.rid`, `d = r.requester`
  and `j = {"id": r.originId, typ: m[typ]}` with `typ` ∈ {"result","error"};
* `IsShutdownOf c r o`, `timeoutAnswer oid` — the "peer shuts down" / "timeout" error responses.

Output lists inside a `Ctx` are newest first (`x'.out = new ++ x.out`); `new.reverse` is
chronological.  `step` returns chronological lists.
-/

namespace Cjet.Daemon.C02

open Cjet Cjet.Json Cjet.Daemon

/-! ## 1. what response.c builds -/

/-- Every value built by `errorResponse` / `resultResponse` is an object with exactly the members
    "id" and "error" resp. the result type, in this order; the id member IS the id it was built from;
    a value is built exactly for string and number ids. -/
theorem response_shape (id : Json) :
    (∀ code tag reason r, errorResponse id code tag reason = some r →
        r = .obj [(k "id", id), (k "error", errorObject code tag reason)]) ∧
    (∀ v typ r, resultResponse id v typ = some r → r = .obj [(k "id", id), (k typ, v)]) ∧
    (idOk id = true → (∀ code tag reason, (errorResponse id code tag reason).isSome = true) ∧
        ∀ v typ, (resultResponse id v typ).isSome = true) ∧
    (idOk id = false → (∀ code tag reason, errorResponse id code tag reason = none) ∧
        ∀ v typ, resultResponse id v typ = none) := by
  refine ⟨fun _ _ _ _ h => (errorResponse_eq h).1, fun _ _ _ h => (resultResponse_eq h).1, fun h => ?_, fun h => ?_⟩
  · exact ⟨fun _ _ _ => by rw [errorResponse_def, if_pos h]; rfl, fun _ _ => by rw [resultResponse_def, if_pos h]; rfl⟩
  · have h' : ¬ idOk id = true := by rw [h]; exact Bool.false_ne_true
    exact ⟨fun _ _ _ => by rw [errorResponse_def, if_neg h'], fun _ _ => by rw [resultResponse_def, if_neg h']⟩

/-- The id of a built response equals the id it was built from: the same bytes for a string, the same
    number (`bits` AND `vint`, i.e. no detour through the int field) for a number. -/
theorem id_echo :
    (∀ s code tag reason r, errorResponse (.str s) code tag reason = some r → respId r = some (.str s)) ∧
    (∀ n code tag reason r, errorResponse (.num n) code tag reason = some r → respId r = some (.num n)) ∧
    (∀ s v typ r, resultResponse (.str s) v typ = some r → respId r = some (.str s)) ∧
    (∀ n v typ r, resultResponse (.num n) v typ = some r → respId r = some (.num n)) := by
  refine ⟨?_, ?_, ?_, ?_⟩
  · intro s code tag reason r h
    rw [(errorResponse_eq h).1]; exact respId_obj ..
  · intro n code tag reason r h
    rw [(errorResponse_eq h).1]; exact respId_obj ..
  · intro s v typ r h
    rw [(resultResponse_eq h).1]; exact respId_obj ..
  · intro n v typ r h
    rw [(resultResponse_eq h).1]; exact respId_obj ..

/-- What the `…FromRequest` constructors return is a response object with exactly one of
    "result"/"error", no "method", and the request's own id. -/
theorem response_from_request (req : Json) (r : Option Json) (j : Json) (h : FromReq req r) (hj : r = some j) :
    ∃ id, req.getItem (k "id") = some id ∧ idOk id = true ∧ WellFormed id j ∧
      isResponse j = true ∧ respId j = some id ∧ (has j "result" != has j "error") = true := by
  rcases h.respFor with hn | ⟨id, j', hid, hok, hj', hwf⟩
  · rw [hn] at hj; cases hj
  · rw [hj] at hj'; cases hj'
    exact ⟨id, hid, hok, hwf, hwf.isResponse, hwf.respId, hwf.one_of⟩

example : FromReq Ex.infoReq (successFromRequest Ex.infoReq) ∧ (successFromRequest Ex.infoReq).isSome = true :=
  ⟨FromReq.success _, by decide +kernel⟩

/-! ## 2. one request object -/

/-- Processing ONE request-like object `req` (a "method" member of any type — in particular a
    string, the case of the property — or none of "method"/"result"/"error") from a live peer `c`:
    * every other connection receives only values with a "method" member;
    * `c` receives values with a "method" member, followed by at most one more value `resp`;
    * `resp` exists iff `req` carries a string/number id and the request was not handed to an
      element's owner (accepted routed set/call); it is well formed and carries `req`'s id. -/
theorem immediate_discipline (cfg : Config) (x : Ctx) (c : Nat) (req : Json)
    (hlive : (findPeer x.st.peers c).isSome = true) (hreq : RequestLike req) :
    ∃ new, (parseJsonRpc cfg x c req).1.out = new ++ x.out ∧
      (∀ d, d ≠ c → ∀ j ∈ outsTo d new.reverse, hasMethod j = true) ∧
      ∃ others fin, outsTo c new.reverse = others ++ fin ∧ (∀ j ∈ others, hasMethod j = true) ∧
        ((fin = [] ∧ (Answerable req → AcceptedRouted new)) ∨
         (∃ id resp, fin = [resp] ∧ req.getItem (k "id") = some id ∧ idOk id = true ∧ WellFormed id resp ∧
            ¬ AcceptedRouted new)) := by
  obtain ⟨p, hp⟩ := Option.isSome_iff_exists.1 hlive
  obtain ⟨⟨pre, fin, hout, hpre, hfin, _⟩, _⟩ := parseJsonRpc_request cfg x c p req hp hreq
  have hpre' : ∀ o ∈ pre.reverse, obsMethod o = true := fun o ho => hpre o (List.mem_reverse.1 ho)
  refine ⟨fin ++ pre, hout, fun d hd j hj => ?_, outsTo c pre.reverse, outsTo c fin.reverse, ?_,
    outsTo_all_method hpre', ?_⟩
  · rw [List.reverse_append, outsTo_append] at hj
    rcases List.mem_append.1 hj with hj | hj
    · exact outsTo_all_method hpre' j hj
    · rcases hfin with ⟨rfl, _⟩ | ⟨id, resp, b, rfl, _⟩
      · simp [outsTo] at hj
      · simp [outsTo, Ne.symm hd] at hj
  · rw [List.reverse_append, outsTo_append]
  · rcases hfin with ⟨rfl, _, hacc⟩ | ⟨id, resp, b, rfl, _, hid, hok, hwf, hna⟩
    · exact .inl ⟨rfl, hacc⟩
    · exact .inr ⟨id, resp, by simp [outsTo], hid, hok, hwf, hna⟩

example : (findPeer (mkCtx Ex.sRouted {}).st.peers 1).isSome = true ∧ RequestLike Ex.infoReq := by
  rw [Ex.sRouted_eq]
  exact ⟨by decide +kernel, Or.inl (by decide +kernel)⟩

/-- The count form: among the values sent to `c` there is at most one response object; exactly one
    if `req` has a string/number id and was not accepted as a routed request; none if `req` has no
    such id; and that response echoes `req`'s id. -/
theorem immediate_response_count (cfg : Config) (x : Ctx) (c : Nat) (req : Json)
    (hlive : (findPeer x.st.peers c).isSome = true) (hreq : RequestLike req) :
    ∃ new, (parseJsonRpc cfg x c req).1.out = new ++ x.out ∧
      ((outsTo c new.reverse).filter isResponse).length ≤ 1 ∧
      (∀ j ∈ (outsTo c new.reverse).filter isResponse, respId j = req.getItem (k "id")) ∧
      (Answerable req → ¬ AcceptedRouted new → ((outsTo c new.reverse).filter isResponse).length = 1) ∧
      (¬ Answerable req → (outsTo c new.reverse).filter isResponse = []) ∧
      (AcceptedRouted new → (outsTo c new.reverse).filter isResponse = []) := by
  obtain ⟨new, hout, _, others, fin, hsplit, hoth, hfin⟩ := immediate_discipline cfg x c req hlive hreq
  refine ⟨new, hout, ?_⟩
  rw [hsplit, List.filter_append, filter_isResponse_of_method hoth, List.nil_append]
  rcases hfin with ⟨rfl, hacc⟩ | ⟨id, resp, rfl, hid, hok, hwf, hna⟩
  · refine ⟨by simp, by simp, fun ha hn => absurd (hacc ha) hn, fun _ => rfl, fun _ => rfl⟩
  · have hf : [resp].filter isResponse = [resp] := by simp [hwf.isResponse]
    rw [hf]
    refine ⟨by simp, ?_, fun _ _ => rfl, fun hna' => absurd ⟨id, hid, hok⟩ hna', fun ha => absurd ha hna⟩
    intro j hj
    simp only [List.mem_singleton] at hj
    rw [hj, hwf.respId, hid]

example : Answerable Ex.infoReq := Ex.answerable_of_bool (by decide +kernel)

/-- Only "set" and "call" are ever handed to another peer: for every other method name the
    "accepted routed" exception of `immediate_discipline` does not arise, so a request with a
    string/number id gets exactly one response. -/
theorem only_set_call_are_routed (cfg : Config) (x : Ctx) (c : Nat) (req : Json) (m : Bytes)
    (hm : req.getItem (k "method") = some (.str m))
    (hs : (m == k "set") = false) (hc : (m == k "call") = false)
    (new : List Obs) (hnew : (parseJsonRpc cfg x c req).1.out = new ++ x.out) : ¬ AcceptedRouted new := by
  cases hp : findPeer x.st.peers c with
  | none =>
    rw [parseJsonRpc_noPeer hp] at hnew
    obtain rfl : [] = new := List.append_cancel_right hnew
    rintro ⟨o, ho, _⟩
    cases ho
  | some p =>
    rw [parseJsonRpc_method hp hm] at hnew
    rcases handleMethod_cases cfg x p req m with ⟨h, _⟩ | ⟨h, _⟩ | h
    · rw [h, beq_self_eq_true] at hs; cases hs
    · rw [h, beq_self_eq_true] at hc; cases hc
    · exact h.not_accepted hnew

example : (k "info" == k "set") = false ∧ (k "info" == k "call") = false := ⟨by decide +kernel, by decide +kernel⟩

/-! ## 3. responses never reach another connection, except as the answer of a routed request -/

/-- In a `.message c …` operation a response object is written to a connection `d ≠ c` only as the
    final answer of a routed request of `d`: there is a record `r` with requester `d` in `c`'s own
    table in the PRE-state, and the value is either the relay of a response member of the message
    whose id is `r.rid` (id replaced by `r.originId`, payload unchanged), or — when `c` is dropped in
    this operation — the "peer shuts down" error for `r.originId`. -/
theorem no_response_to_others (cfg : Config) (s : State) (c : Nat) (msg : Option Json) (o : Oracle)
    (d : Nat) (j : Json) (b : Bool) (h : Obs.send d j b ∈ (step cfg s (.message c msg o)).2)
    (hr : isResponse j = true) (hd : d ≠ c) :
    ∃ p0 r, findPeer s.peers c = some p0 ∧ r ∈ p0.routes ∧ r.requester = d ∧
      ((∃ m ∈ members msg, IsRelayOf r m d j) ∨
       (IsShutdownOf c r (.send d j b) ∧ Obs.closed c ∈ (step cfg s (.message c msg o)).2 ∧
          ∀ q ∈ (step cfg s (.message c msg o)).1.peers, q.conn ≠ c)) := by
  have hnm := isResponse_not_hasMethod hr
  rcases step_message_class cfg s c msg o d j b h with hcl | ⟨⟨p0, r, hp0, hr0, hs⟩, hclosed, hgone⟩
  · rcases hcl with hm | ⟨hdc, _⟩ | ⟨m, hm, r, hrel, hor⟩
    · rw [hnm] at hm; cases hm
    · exact absurd hdc hd
    · have hreq : r.requester = d := hrel.2.2.1.symm
      rcases hor with ⟨p0, hp0, hr0⟩ | hself
      · exact ⟨p0, r, hp0, hr0, hreq, Or.inl ⟨m, hm, hrel⟩⟩
      · exact absurd (hreq.symm.trans hself) hd
  · obtain ⟨hne, oid, b', ho, hok, heq⟩ := hs
    have hreq : r.requester = d := by injection heq with h1 _ _; exact h1.symm
    exact ⟨p0, r, hp0, hr0, hreq, Or.inr ⟨⟨hne, oid, b', ho, hok, heq⟩, hclosed, hgone⟩⟩

example : ∃ d j b, Obs.send d j b ∈ (step {} Ex.sRouted (.message 1 (some Ex.replyA) {})).2 ∧
    isResponse j = true ∧ d ≠ 1 := by
  rw [Ex.sRouted_eq]
  exact Ex.respToOther_exists (by decide +kernel)

/-- In a `.disconnect c` operation every value sent is a notification, or the "peer shuts down"
    answer of a record `r` of `c`'s table (sent to `r.requester ≠ c`, id = `r.originId`); `c`'s table
    is gone afterwards. -/
theorem no_response_to_others_disconnect (cfg : Config) (s : State) (c : Nat) (o : Oracle)
    (d : Nat) (j : Json) (b : Bool) (h : Obs.send d j b ∈ (step cfg s (.disconnect c o)).2)
    (hr : isResponse j = true) :
    ∃ p0 r oid, findPeer s.peers c = some p0 ∧ r ∈ p0.routes ∧ r.requester = d ∧ d ≠ c ∧
      r.originId = some oid ∧ idOk oid = true ∧ j = shutdownAnswer oid ∧
      ∀ q ∈ (step cfg s (.disconnect c o)).1.peers, q.conn ≠ c := by
  have hnm := isResponse_not_hasMethod hr
  rcases step_disconnect_class cfg s c o d j b h with hm | ⟨⟨p0, r, hp0, hr0, hne, oid, b', ho, hok, heq⟩, hgone⟩
  · rw [hnm] at hm; cases hm
  · injection heq with h1 h2 _
    exact ⟨p0, r, oid, hp0, hr0, h1.symm, h1 ▸ hne, ho, hok, h2, hgone⟩

example : ∃ d j b, Obs.send d j b ∈ (step {} Ex.sRouted (.disconnect 1 {})).2 ∧
    isResponse j = true ∧ d ≠ 1 := by
  rw [Ex.sRouted_eq]
  exact Ex.respToOther_exists (by decide +kernel)

/-- In a `.timerFire t` operation the only value sent is the timeout error of the record `r` the
    timer belongs to: to `r.requester`, with id `r.originId`; the operation removes every record
    with `r`'s rid from `r.owner`'s table — under `RoutesOwned` that is the table `r` is in. -/
theorem no_response_to_others_timer (cfg : Config) (s : State) (t : Nat) (o : Oracle)
    (d : Nat) (j : Json) (b : Bool) (h : Obs.send d j b ∈ (step cfg s (.timerFire t o)).2) :
    ∃ p r oid, p ∈ s.peers ∧ r ∈ p.routes ∧ r.timer = t ∧ d = r.requester ∧ r.originId = some oid ∧
      idOk oid = true ∧ j = timeoutAnswer oid ∧
      (step cfg s (.timerFire t o)).2 = [.send d j b, .timerDestroy t] ∧
      (step cfg s (.timerFire t o)).1.peers = removeRoute s.peers r.owner r.rid ∧
      (RoutesOwned s.peers → ∀ q ∈ (step cfg s (.timerFire t o)).1.peers, ∀ r' ∈ q.routes,
        ¬ (r'.owner = r.owner ∧ r'.rid = r.rid)) := by
  rw [step_timerFire_eq] at h ⊢
  rcases timeoutFired_spec (mkCtx s o) t with heq | ⟨p, hp, r, hrp, htim, hst, hout | ⟨oid, b', ho, hok, hout⟩⟩
  · rw [heq] at h; cases h
  · rw [hout] at h
    cases List.mem_singleton.1 (List.mem_reverse.1 h)
  · rw [hout] at h ⊢
    rcases List.mem_cons.1 (List.mem_reverse.1 h) with h | h
    · cases h
    · obtain ⟨rfl, rfl, rfl⟩ := Obs.send.inj (List.mem_singleton.1 h)
      have hps := congrArg State.peers hst
      exact ⟨p, r, oid, hp, hrp, htim, rfl, ho, hok, rfl, rfl, hps,
        fun hinv => hps ▸ removeRoute_gone hinv _ _⟩

example : ∃ d j b, Obs.send d j b ∈ (step {} Ex.sRouted (.timerFire 0 {})).2 ∧
    isResponse j = true ∧ d ≠ 1 := by
  rw [Ex.sRouted_eq]
  exact Ex.respToOther_exists (by decide +kernel)

/-- A `.connect` operation sends nothing. -/
theorem connect_silent (cfg : Config) (s : State) (c : Nat) (ws isLocal : Bool) (addr : Bytes) :
    (step cfg s (.connect c ws isLocal addr)).2 = [] := by
  unfold step
  dsimp only
  split <;> rfl

/-- `RoutesOwned` (every routing record sits in the table of the peer named as its owner) holds in
    every state reachable from an initial state with an arbitrary user table. -/
theorem routes_owned_reachable (cfg : Config) (us : List User) (ops : List Op) :
    RoutesOwned (run cfg { users := us } ops).1.peers :=
  (run_inv cfg ops _ (inv_init us)).owned

/-! ## 4. incoming response objects are not answered -/

/-- An incoming object without "method" that has a "result" or "error" member (a response object)
    causes at most one send: the relay for the record `r` of `c`'s own table whose rid is the
    object's (string) id — to `r.requester`, with id `r.originId` — and `r` leaves the table.
    In particular `c` itself gets something only if it is the recorded requester (`c` replying to its
    own call), and no INVALID_REQUEST or other error is ever produced for a response object. -/
theorem responses_never_answered (cfg : Config) (x : Ctx) (c : Nat) (p : Peer) (req : Json)
    (hp : findPeer x.st.peers c = some p) (hm : req.getItem (k "method") = none)
    (hre : (req.getItem (k "result")).isSome = true ∨ (req.getItem (k "error")).isSome = true) :
    ∃ new, (parseJsonRpc cfg x c req).1.out = new ++ x.out ∧ (sendsOf new).length ≤ 1 ∧
      ∀ d j b, Obs.send d j b ∈ new →
        ∃ r ∈ p.routes, IsRelayOf r req d j ∧
          (parseJsonRpc cfg x c req).1.st.peers = removeRoute x.st.peers c r.rid := by
  rcases parseJsonRpc_response cfg x c p req hp hm hre with h | ⟨r, hr, hst, hout | ⟨j, b, hrel, hout⟩⟩
  · rw [h]; exact ⟨[], rfl, Nat.zero_le _, by simp⟩
  · exact ⟨[_], hout, Nat.zero_le _, by simp⟩
  · refine ⟨[_, _], hout, Nat.le_refl _, fun d j' b' h => ?_⟩
    simp only [List.mem_cons, Obs.send.injEq, List.mem_nil_iff, or_false, reduceCtorEq] at h
    obtain ⟨rfl, rfl, rfl⟩ := h
    exact ⟨r, hr, hrel, by rw [hst]⟩

example : (∃ p, findPeer (mkCtx Ex.sRouted {}).st.peers 1 = some p) ∧ Ex.replyA.getItem (k "method") = none ∧
    (Ex.replyA.getItem (k "result")).isSome = true := by
  rw [Ex.sRouted_eq]
  exact ⟨Option.isSome_iff_exists.1 (by decide +kernel), Option.isNone_iff_eq_none.1 (by decide +kernel),
    by decide +kernel⟩

/-- An incoming object with none of "method", "result", "error" is answered by exactly the
    INVALID_REQUEST error built from it (so: only if it has a string/number id — see
    `immediate_discipline`, which applies to it), and nothing else happens. -/
theorem neither_request_nor_response (cfg : Config) (x : Ctx) (c : Nat) (req : Json)
    (hlive : (findPeer x.st.peers c).isSome = true) (hm : req.getItem (k "method") = none)
    (h1 : req.getItem (k "result") = none) (h2 : req.getItem (k "error") = none) :
    parseJsonRpc cfg x c req =
      sendResponse x c (errorFromRequest req INVALID_REQUEST "reason" (k "neither request nor response")) := by
  obtain ⟨p, hp⟩ := Option.isSome_iff_exists.1 hlive
  simp only [parseJsonRpc, hp, hm, h1, h2]

example : (findPeer (mkCtx Ex.sRouted {}).st.peers 1).isSome = true ∧ Ex.junk.getItem (k "method") = none ∧
    Ex.junk.getItem (k "result") = none ∧ Ex.junk.getItem (k "error") = none := by
  rw [Ex.sRouted_eq]
  exact ⟨by decide +kernel, Option.isNone_iff_eq_none.1 (by decide +kernel),
    Option.isNone_iff_eq_none.1 (by decide +kernel), Option.isNone_iff_eq_none.1 (by decide +kernel)⟩

/-! ## 5. a batch is its members, one by one -/

/-- `parse_json_array` is the left fold of `parse_json_rpc` over the members in order, with the
    early exit: after the first failing member, or the first member that is not an object, nothing
    more is processed and the result is "failed" (the connection is then dropped by `step`). -/
theorem batch_as_sequence (cfg : Config) (x : Ctx) (c : Nat) (l : List Json) :
    parseMessage cfg x c (some (.arr l)) = l.foldl (batchStep cfg c) (x, true) := by
  show parseJsonArray cfg x c l = _
  induction l generalizing x with
  | nil => rfl
  | cons m rest ih =>
    cases m with
    | obj lm =>
      simp only [parseJsonArray, List.foldl_cons, batchStep, if_true]
      cases hr : parseJsonRpc cfg x c (.obj lm) with
      | mk x1 ok =>
        cases ok with
        | true => simpa using ih x1
        | false => simp [batchStep_false]
    | null | bool _ | num _ | str _ | arr _ =>
      simp [parseJsonArray, List.foldl_cons, batchStep, batchStep_false]

/-- At the level of operations: if the first member is processed successfully, the batch
    `a :: rest` is the message `a` followed by the message `rest`, with the oracle values the first
    one left over; the states agree and the outputs are concatenated. -/
theorem batch_first_ok (cfg : Config) (s : State) (c : Nat) (la : List (Bytes × Json)) (rest : List Json)
    (o : Oracle) (hlive : (findPeer s.peers c).isSome = true)
    (hok : (parseJsonRpc cfg (mkCtx s o) c (.obj la)).2 = true) :
    step cfg s (.message c (some (.arr (.obj la :: rest))) o) =
      ((step cfg (step cfg s (.message c (some (.obj la)) o)).1
          (.message c (some (.arr rest)) (restOracle (parseJsonRpc cfg (mkCtx s o) c (.obj la)).1))).1,
       (step cfg s (.message c (some (.obj la)) o)).2 ++
        (step cfg (step cfg s (.message c (some (.obj la)) o)).1
          (.message c (some (.arr rest)) (restOracle (parseJsonRpc cfg (mkCtx s o) c (.obj la)).1))).2) := by
  have h := step_batch_append cfg s c [.obj la] rest o hlive (by rw [parseJsonArray_single]; exact hok)
  rwa [parseJsonArray_single, step_batch_single] at h

example : (findPeer Ex.sRouted.peers 1).isSome = true ∧
    (parseJsonRpc {} (mkCtx Ex.sRouted {}) 1 Ex.infoReq).2 = true :=
  ⟨by rw [Ex.sRouted_eq]; decide +kernel, Ex.info_ok.1⟩

/-- If the first member fails, the batch is that member alone (the connection is dropped, the rest
    is never looked at). -/
theorem batch_first_fails (cfg : Config) (s : State) (c : Nat) (la : List (Bytes × Json)) (rest : List Json)
    (o : Oracle) (hok : (parseJsonRpc cfg (mkCtx s o) c (.obj la)).2 = false) :
    step cfg s (.message c (some (.arr (.obj la :: rest))) o) = step cfg s (.message c (some (.obj la)) o) := by
  unfold step
  simp [parseMessage, parseJsonArray, hok]

example : (parseJsonRpc {} (mkCtx Ex.sRouted { sends := [false] }) 1 Ex.infoReq).2 = false := by
  rw [Ex.sRouted_eq]
  decide +kernel

/-- Two-element batch against two single-object messages (first one not failing). -/
theorem batch_two (cfg : Config) (s : State) (c : Nat) (la lb : List (Bytes × Json)) (o : Oracle)
    (hlive : (findPeer s.peers c).isSome = true)
    (hok : (parseJsonRpc cfg (mkCtx s o) c (.obj la)).2 = true) :
    step cfg s (.message c (some (.arr [.obj la, .obj lb])) o) =
      ((step cfg (step cfg s (.message c (some (.obj la)) o)).1
          (.message c (some (.obj lb)) (restOracle (parseJsonRpc cfg (mkCtx s o) c (.obj la)).1))).1,
       (step cfg s (.message c (some (.obj la)) o)).2 ++
        (step cfg (step cfg s (.message c (some (.obj la)) o)).1
          (.message c (some (.obj lb)) (restOracle (parseJsonRpc cfg (mkCtx s o) c (.obj la)).1))).2) := by
  rw [batch_first_ok cfg s c la [.obj lb] o hlive hok, step_batch_single]

/-- With the empty oracle (every send succeeds, no table refuses) nothing is left over: the second
    message can be given the empty oracle again. -/
theorem batch_two_all_sends_succeed (cfg : Config) (s : State) (c : Nat) (la lb : List (Bytes × Json))
    (hlive : (findPeer s.peers c).isSome = true)
    (hok : (parseJsonRpc cfg (mkCtx s {}) c (.obj la)).2 = true)
    (hrest : restOracle (parseJsonRpc cfg (mkCtx s {}) c (.obj la)).1 = {}) :
    step cfg s (.message c (some (.arr [.obj la, .obj lb])) {}) =
      ((step cfg (step cfg s (.message c (some (.obj la)) {})).1 (.message c (some (.obj lb)) {})).1,
       (step cfg s (.message c (some (.obj la)) {})).2 ++
        (step cfg (step cfg s (.message c (some (.obj la)) {})).1 (.message c (some (.obj lb)) {})).2) := by
  rw [batch_two cfg s c la lb {} hlive hok, hrest]

example : (findPeer Ex.sRouted.peers 1).isSome = true ∧
    (parseJsonRpc {} (mkCtx Ex.sRouted {}) 1 Ex.infoReq).2 = true ∧
    restOracle (parseJsonRpc {} (mkCtx Ex.sRouted {}) 1 Ex.infoReq).1 = {} :=
  ⟨by rw [Ex.sRouted_eq]; decide +kernel, Ex.info_ok⟩

/-! ## 6. at most one final answer per routed request (joint with C03) -/

/-- A relay consumes its routing record: under `RoutesOwned` (true in every reachable state) no record
    with the same owner and rid is left after the response object has been processed. -/
theorem relay_removes_route (cfg : Config) (x : Ctx) (c : Nat) (p : Peer) (req : Json)
    (hp : findPeer x.st.peers c = some p) (hm : req.getItem (k "method") = none)
    (hre : (req.getItem (k "result")).isSome = true ∨ (req.getItem (k "error")).isSome = true)
    (hinv : RoutesOwned x.st.peers)
    (new : List Obs) (hnew : (parseJsonRpc cfg x c req).1.out = new ++ x.out)
    (d : Nat) (j : Json) (b : Bool) (hsend : Obs.send d j b ∈ new) :
    ∃ r ∈ p.routes, IsRelayOf r req d j ∧ r.owner = c ∧
      ∀ q ∈ (parseJsonRpc cfg x c req).1.st.peers, ∀ r' ∈ q.routes, ¬ (r'.owner = r.owner ∧ r'.rid = r.rid) := by
  obtain ⟨new', hnew', _, hcl⟩ := responses_never_answered cfg x c p req hp hm hre
  have : new = new' := List.append_cancel_right (hnew.symm.trans hnew')
  subst this
  obtain ⟨r, hr, hrel, hst⟩ := hcl d j b hsend
  have hown : r.owner = c := (hinv p (findPeer_mem hp) r hr).trans (findPeer_conn hp)
  refine ⟨r, hr, hrel, hown, ?_⟩
  rw [hst, hown]
  exact removeRoute_gone hinv c r.rid

/-- A response object whose id matches no record of the sender's own table is dropped silently: a
    record that has been removed is never answered again. -/
theorem unknown_id_not_answered (cfg : Config) (x : Ctx) (c : Nat) (p : Peer) (req : Json)
    (hp : findPeer x.st.peers c = some p) (hm : req.getItem (k "method") = none)
    (hre : (req.getItem (k "result")).isSome = true ∨ (req.getItem (k "error")).isSome = true)
    (hno : ∀ r ∈ p.routes, req.getItem (k "id") ≠ some (.str r.rid))
    (new : List Obs) (hnew : (parseJsonRpc cfg x c req).1.out = new ++ x.out) : sendsOf new = [] := by
  obtain ⟨new', hnew', _, hcl⟩ := responses_never_answered cfg x c p req hp hm hre
  have : new = new' := List.append_cancel_right (hnew.symm.trans hnew')
  subst this
  have hnone : ∀ o ∈ new, ∀ d j b, o ≠ Obs.send d j b := by
    intro o ho d j b heq
    subst heq
    obtain ⟨r, hr, hrel, _⟩ := hcl d j b ho
    exact hno r hr hrel.2.1
  exact sendsOf_nil_of_no_send hnone

example : (∃ p, findPeer (mkCtx Ex.sRouted {}).st.peers 2 = some p) ∧ Ex.replyA.getItem (k "method") = none ∧
    (Ex.replyA.getItem (k "result")).isSome = true := by
  rw [Ex.sRouted_eq]
  exact ⟨Option.isSome_iff_exists.1 (by decide +kernel), Option.isNone_iff_eq_none.1 (by decide +kernel),
    by decide +kernel⟩

/-- The invariant of the ledger (`RoutesOwned` and pairwise distinct connection numbers) holds in
    every state reachable from an initial state with an arbitrary user table. -/
theorem ledger_invariant_reachable (cfg : Config) (us : List User) (ops : List Op) :
    Inv (run cfg { users := us } ops).1 :=
  run_inv cfg ops _ (inv_init us)

/-- The ledger of one operation: the response objects sent, plus the routing records that still
    owe an answer afterwards, are covered by the records that owed one before plus the request
    objects with a string/number id delivered by this operation.  Since a request object gets at
    most one immediate response (`immediate_response_count`), every further response consumes a
    record that owed an answer — a record is answered at most once. -/
theorem final_answer_ledger (cfg : Config) (s : State) (op : Op) (h : Inv s) :
    respCount (step cfg s op).2 + pendingA (step cfg s op).1.peers ≤ pendingA s.peers + opReqN op :=
  step_ledger cfg s op h

example : Inv Ex.sRouted := by
  rw [Ex.sRouted]
  exact run_inv {} Ex.setup _ (inv_init [])

/-- Over any run from the initial state: the number of response objects the daemon sends (to
    anybody, immediate answers, relays, timeout and shutdown answers together) never exceeds the
    number of request objects with a string/number id it was given; the difference covers at least
    the routed requests still pending at the end. -/
theorem at_most_one_final_answer (cfg : Config) (us : List User) (ops : List Op) :
    totalResp (run cfg { users := us } ops).2 + pendingA (run cfg { users := us } ops).1.peers ≤
      (ops.map opReqN).sum := by
  have := run_ledger cfg ops { users := us } (inv_init us)
  simpa [pendingA] using this

end Cjet.Daemon.C02
