import Cjet.Lemmas.DaemonC04Examples

/-!
# C04 — element namespace: unique paths, owner-only mutation, state/method typing

Model: `Cjet.Daemon.Model`.  Abstraction: `absElems : State → List (Bytes × ElemInfo)`, the
association list path ↦ (owner, value — `none` for a method —, fetchOnly, timeout, groups) in
peer-list / element-list order, with lookup `absGet`.  `WF` is the well-formedness invariant
(definitions in `Cjet.Lemmas.DaemonC04Image`).

All theorems quantify over every configuration, every well-formed state (every reachable state is
well-formed: `wf_invariant`), every JSON request, every oracle value carried by the context
(`sends`, `indexFull`, `routeFull`) and any number of peers.  Theorems about one request object are
stated for `parseJsonRpc` on an arbitrary context `x` (state + outputs so far + oracle rest), which
is what `step` runs for an object message and for every member of a batch array.
-/

namespace Cjet.Daemon.C04

open Cjet Cjet.Json Cjet.Daemon

/-! ## 1. the invariant -/

theorem wf_init (us : List User) : WF ({ users := us } : State) :=
  (wf_iff_wfs _).2 (wfs_init us)

/-- every operation (connect, message — object, batch, garbage, with or without close —,
    disconnect, timer expiry) preserves well-formedness -/
theorem wf_step (cfg : Config) (s : State) (op : Op) (h : WF s) : WF (step cfg s op).1 :=
  (wf_iff_wfs _).2 (wfs_step cfg s op ((wf_iff_wfs _).1 h))

theorem wf_run (cfg : Config) (s : State) (ops : List Op) (h : WF s) : WF (run cfg s ops).1 :=
  (wf_iff_wfs _).2 (wfs_run cfg ops s ((wf_iff_wfs _).1 h))

/-- In every reachable state: the index and the element lists are in sync, no path occurs twice
    (neither in the index nor across all element lists), every element's owner field is the
    connection of the peer holding it, peer connections are distinct. -/
theorem wf_invariant (cfg : Config) (us : List User) (ops : List Op) :
    WF (run cfg { users := us } ops).1 :=
  wf_run cfg _ ops (wf_init us)

/-- one request object keeps the context's state well-formed (used for batch members) -/
theorem wf_parseJsonRpc (cfg : Config) (x : Ctx) (c : Nat) (req : Json) (h : WF x.st) :
    WF (parseJsonRpc cfg x c req).1.st :=
  (wf_iff_wfs _).2 (parseJsonRpc_own cfg x c req ((wf_iff_wfs _).1 h)).wfs

/-- non-vacuity for `wf_step`, `wf_run`, `wf_parseJsonRpc`: well-formed states exist, e.g. the initial
    one and `exS` (three peers, peer 1 owning a state and a method, peer 2 a fetch-only state) -/
example : WF ({ users := [] } : State) ∧ WF exS ∧ WF (mkCtx exS {}).st ∧
    (absElems exS).map (·.1) = [[0x73], [0x6d], [0x66]] ∧
    (absElems exS).map (·.2.owner) = [1, 1, 2] := by
  have h1 := congrArg (List.map (·.1)) exS_table.2
  have h2 := congrArg (List.map (·.2.1)) exS_table.2
  rw [List.map_map] at h1 h2
  exact ⟨wf_init [], exS_wf, exS_wf, h1, h2⟩

/-! ## 2. the abstraction and `element_table_get` -/

/-- Under `WF`, `findElement` (element_table_get through the index) finds exactly the elements of
    the peers' lists, and agrees with the lookup in the abstraction. -/
theorem findElement_iff_abs {s : State} (h : WF s) (path : Bytes) :
    (∀ e, findElement s path = some e ↔ e ∈ allElems s ∧ e.path = path) ∧
    (findElement s path).map info = absGet s path ∧
    (∀ i, absGet s path = some i ↔ (path, i) ∈ absElems s) := by
  have hs := (wf_iff_wfs _).1 h
  refine ⟨?_, findElement_map_info hs path, fun i => absGet_eq_some_iff hs⟩
  intro e
  rw [findElement_eq_some_iff hs]
  simp only [allElems, List.mem_flatMap]

example : WF exS ∧ ((findElement exS [0x73]).map (·.owner)) = some 1 := by
  obtain ⟨i, hi, ho, -⟩ := exS_s
  obtain ⟨e, he, rfl⟩ := findElement_of_absGet ((wf_iff_wfs _).1 exS_wf) hi
  exact ⟨exS_wf, by rw [he]; exact congrArg some ho⟩

/-! ## 3. add -/

/-- the abstract value of the element a well-formed `add` creates -/
def addedInfo (c : Nat) (params : Json) (tns : Nat) (g : Nat × Nat × Nat) : ElemInfo :=
  { owner := c, value := params.getItem (k "value"), fetchOnly := fetchOnlyFlag params, timeoutNs := tns,
    fetchGroups := g.1, setGroups := g.2.1, callGroups := g.2.2 }

/-- A well-formed add (string path; fetchOnly absent or boolean; acceptable timeout and access
    members; allowed origin) from a live peer in a well-formed state.
    * path free and the index does not refuse: the requester is answered with the success response
      and the abstraction is the old one plus exactly the new element, owned by the requester, with the
      value / kind and flags of the request;
    * path taken: error "exists", whole state unchanged, nothing else emitted;
    * path free but the index refuses (resource limit): "Internal error", abstraction unchanged. -/
theorem add_spec (cfg : Config) (x : Ctx) (c : Nat) (p : Peer) (req params : Json) (path : Bytes)
    (tns : Nat) (g : Nat × Nat × Nat)
    (hwf : WF x.st) (hp : findPeer x.st.peers c = some p)
    (hm : req.getItem (k "method") = some (.str (k "add")))
    (hparams : req.getItem (k "params") = some params)
    (hpath : params.getItem (k "path") = some (.str path))
    (horigin : (cfg.localOnlyAdd && !p.isLocal) = false)
    (hfo : fetchOnlyOk (params.getItem (k "fetchOnly")) = true)
    (hto : getTimeout cfg (params.getItem (k "timeout")) cfg.defaultTimeoutNs = .ns tns)
    (hacc : fillAccess cfg (params.getItem (k "value")).isSome (params.getItem (k "access")) = .ok g) :
    (absGet x.st path = none → x.indexFull = false →
      Answered (parseJsonRpc cfg x c req).1 c (successFromRequest req) ∧
      (∀ q, absGet (parseJsonRpc cfg x c req).1.st q =
        if q = path then some (addedInfo c params tns g) else absGet x.st q) ∧
      (∀ e, e ∈ absElems (parseJsonRpc cfg x c req).1.st ↔
        e ∈ absElems x.st ∨ e = (path, addedInfo c params tns g))) ∧
    ((absGet x.st path).isSome = true →
      Refused x c (errorFromRequest req INVALID_PARAMS "exists" path) (parseJsonRpc cfg x c req).1) ∧
    (absGet x.st path = none → x.indexFull = true →
      Answered (parseJsonRpc cfg x c req).1 c
        (errorFromRequest req INTERNAL_ERROR "reason" (k "element table full")) ∧
      absElems (parseJsonRpc cfg x c req).1.st = absElems x.st) := by
  have hs := (wf_iff_wfs _).1 hwf
  obtain ⟨_, hmem, hc⟩ := mem_image_of_findPeer hp
  -- the handler, for a request that passes the parameter checks
  have hadd : handleMethod cfg x p req (k "add") =
      if (absGet x.st path).isSome then (x, errorFromRequest req INVALID_PARAMS "exists" path)
      else addCore cfg x p req (newElement cfg p params path tns g) := by
    rw [handleMethod_add, addElement_eq, addChecks_eq horigin (getParamsAndPath_eq_ok hparams hpath)
      (fetchOnlyOk_bool hfo) hto hacc, lookupIndex_isSome_iff hs path]
    cases (absGet x.st path).isSome <;> rfl
  obtain ⟨hans, hst'⟩ := answered_of_handler cfg hp hm
  refine ⟨fun hnone hfull => ?_, fun hsome => refused_of_handler hp hm (by rw [hadd, if_pos hsome]),
    fun hnone hfull => ?_⟩
  · simp only [hadd, hnone, Option.isSome_none, Bool.false_eq_true, ↓reduceIte] at hans hst'
    obtain ⟨hresp, hst, _⟩ := addCore_ok cfg p req (newElement cfg p params path tns g) hfull
    have hinfo : info (newElement cfg p params path tns g) = addedInfo c params tns g := hc ▸ rfl
    rw [hinfo, hc] at hst
    obtain ⟨_, hget, hin⟩ := abs_add hs hst (by rw [image_conns]; exact List.mem_map.2 ⟨p, hmem, hc⟩) rfl hnone
    rw [hst']
    exact ⟨hresp ▸ hans, hget, hin⟩
  · simp only [hadd, hnone, Option.isSome_none, Bool.false_eq_true, ↓reduceIte] at hans hst'
    obtain ⟨hresp, hst, _⟩ := addCore_full cfg p req (newElement cfg p params path tns g) hfull
    exact ⟨hresp ▸ hans, by rw [hst', hst]⟩

/-- The "exactly when" of the property text, for a request that can be answered (string or number
    id): the requester receives the success response iff the path was free and the index did not
    refuse. -/
theorem add_success_iff (cfg : Config) (x : Ctx) (c : Nat) (p : Peer) (req params : Json) (path : Bytes)
    (tns : Nat) (g : Nat × Nat × Nat)
    (hwf : WF x.st) (hp : findPeer x.st.peers c = some p)
    (hm : req.getItem (k "method") = some (.str (k "add")))
    (hparams : req.getItem (k "params") = some params)
    (hpath : params.getItem (k "path") = some (.str path))
    (horigin : (cfg.localOnlyAdd && !p.isLocal) = false)
    (hfo : fetchOnlyOk (params.getItem (k "fetchOnly")) = true)
    (hto : getTimeout cfg (params.getItem (k "timeout")) cfg.defaultTimeoutNs = .ns tns)
    (hacc : fillAccess cfg (params.getItem (k "value")).isSome (params.getItem (k "access")) = .ok g)
    (hid : answerable req) :
    (∃ j b, successFromRequest req = some j ∧
      (parseJsonRpc cfg x c req).1.out.head? = some (Obs.send c j b)) ↔
    (absGet x.st path = none ∧ x.indexFull = false) := by
  obtain ⟨h1, h2, h3⟩ := add_spec cfg x c p req params path tns g hwf hp hm hparams hpath horigin hfo hto hacc
  constructor
  · intro hsucc
    cases hget : absGet x.st path with
    | some i => exact absurd hsucc (not_success_of_answered_error hid (h2 (by rw [hget]; rfl)).answered)
    | none =>
      cases hfull : x.indexFull with
      | false => exact ⟨rfl, rfl⟩
      | true => exact absurd hsucc (not_success_of_answered_error hid (h3 hget hfull).1)
  · rintro ⟨hget, hfull⟩
    obtain ⟨js, hjs, _⟩ := successFromRequest_isSome hid
    obtain ⟨b, hb⟩ := (h1 hget hfull).1 js hjs
    exact ⟨js, b, hjs, hb⟩

example : answerable (mkReq "add" [0x6e]) := mkReq_answerable _ _

/-- non-vacuity: a well-formed add of the free path "n" by peer 3 in `exS` (success branch), of the
    taken path "s" (exists branch), and with a refusing index (resource branch) -/
example : ∃ (p : Peer) (tns : Nat) (g : Nat × Nat × Nat),
    WF (mkCtx exS {}).st ∧ findPeer (mkCtx exS {}).st.peers 3 = some p ∧
    (mkReq "add" [0x6e]).getItem (k "method") = some (.str (k "add")) ∧
    (mkReq "add" [0x6e]).getItem (k "params") = some (mkParams [0x6e]) ∧
    (mkParams [0x6e]).getItem (k "path") = some (.str [0x6e]) ∧
    (({} : Config).localOnlyAdd && !p.isLocal) = false ∧
    fetchOnlyOk ((mkParams [0x6e]).getItem (k "fetchOnly")) = true ∧
    getTimeout {} ((mkParams [0x6e]).getItem (k "timeout")) ({} : Config).defaultTimeoutNs = .ns tns ∧
    fillAccess {} ((mkParams [0x6e]).getItem (k "value")).isSome ((mkParams [0x6e]).getItem (k "access")) = .ok g ∧
    absGet (mkCtx exS {}).st [0x6e] = none ∧ (mkCtx exS {}).indexFull = false ∧
    (absGet (mkCtx exS {}).st [0x73]).isSome = true ∧
    (mkCtx exS { indexFull := true }).indexFull = true := by
  obtain ⟨p, hp⟩ := exS_peer (c := 3) (by decide)
  obtain ⟨i, hi, -⟩ := exS_s
  refine ⟨p, 5000000000, (0, 0, 0), exS_wf, hp, mkReq_method _ _, mkReq_params _ _, mkParams_path _, rfl, ?_, ?_, ?_,
    exS_free rfl, rfl, by rw [show absGet (mkCtx exS {}).st [0x73] = some i from hi]; rfl, rfl⟩
  · rw [mkParams_fetchOnly]; rfl
  · rw [mkParams_timeout]; rfl
  · rw [mkParams_value, mkParams_access]; rfl

/-! ## 4. remove and change -/

/-- `remove` succeeds exactly for an element owned by the requester, removes exactly that element
    and leaves every other element untouched; for an unknown path or somebody else's element the
    answer is the error "not exists" and the whole state is unchanged. -/
theorem remove_spec (cfg : Config) (x : Ctx) (c : Nat) (p : Peer) (req params : Json) (path : Bytes)
    (hwf : WF x.st) (hp : findPeer x.st.peers c = some p)
    (hm : req.getItem (k "method") = some (.str (k "remove")))
    (hparams : req.getItem (k "params") = some params)
    (hpath : params.getItem (k "path") = some (.str path)) :
    (∀ i, absGet x.st path = some i → i.owner = c →
      Answered (parseJsonRpc cfg x c req).1 c (successFromRequest req) ∧
      (∀ q, absGet (parseJsonRpc cfg x c req).1.st q = if q = path then none else absGet x.st q) ∧
      (∀ e, e ∈ absElems (parseJsonRpc cfg x c req).1.st ↔ e ∈ absElems x.st ∧ e.1 ≠ path)) ∧
    ((∀ i, absGet x.st path = some i → i.owner ≠ c) →
      Refused x c (errorFromRequest req INVALID_PARAMS "not exists" path) (parseJsonRpc cfg x c req).1) := by
  have hs := (wf_iff_wfs _).1 hwf
  have hpp := getParamsAndPath_eq_ok hparams hpath
  rw [parseJsonRpc_method hp hm, handleMethod_remove]
  cases hf : p.elements.find? (·.path == path) with
  | none =>
    rw [removeElementReq_missing hpp hf]
    exact ⟨fun i hi hown => absurd hown (own_find_none hs hp hf hi), fun _ => refused_sendResponse _ _ _⟩
  | some e =>
    rw [removeElementReq_found hpp hf]
    obtain ⟨hget, hown, hepath⟩ := own_find_some hs hp hf
    refine ⟨fun i _ _ => ?_, fun hall => absurd hown (hall _ hget)⟩
    have hst := removeElement_store x e
    rw [hown, hepath] at hst
    have hent : (path, info e) ∈ peerAbs p :=
      hepath ▸ List.mem_map.2 ⟨e, List.mem_of_find?_eq_some hf, rfl⟩
    obtain ⟨_, hget', hin⟩ := abs_remove hs hst (mem_image_of_findPeer hp).1 hent
    simp only [sendResponse_st]
    exact ⟨answered_sendResponse _ _ _, hget', hin⟩

/-- non-vacuity: peer 1 removes its own "s" (success branch); peer 3 tries the same and an unknown
    path (refusal branch) -/
example : ∃ (p p3 : Peer) (i : ElemInfo),
    WF (mkCtx exS {}).st ∧ findPeer (mkCtx exS {}).st.peers 1 = some p ∧
    findPeer (mkCtx exS {}).st.peers 3 = some p3 ∧
    (mkReq "remove" [0x73]).getItem (k "method") = some (.str (k "remove")) ∧
    (mkReq "remove" [0x73]).getItem (k "params") = some (mkParams [0x73]) ∧
    (mkParams [0x73]).getItem (k "path") = some (.str [0x73]) ∧
    absGet (mkCtx exS {}).st [0x73] = some i ∧ i.owner = 1 ∧
    (∀ i, absGet (mkCtx exS {}).st [0x73] = some i → i.owner ≠ 3) ∧
    (∀ i, absGet (mkCtx exS {}).st [0x75] = some i → i.owner ≠ 3) := by
  obtain ⟨p, hp⟩ := exS_peer (c := 1) (by decide)
  obtain ⟨p3, hp3⟩ := exS_peer (c := 3) (by decide)
  obtain ⟨i, hi, hown, -⟩ := exS_s
  refine ⟨p, p3, i, exS_wf, hp, hp3, mkReq_method _ _, mkReq_params _ _, mkParams_path _, hi, hown, ?_, ?_⟩
  · intro i' hi'
    cases hi.symm.trans hi'
    rw [hown]; decide
  · intro i' hi'
    cases exS_u.symm.trans hi'

/-- `change` succeeds only for the owner, only for a state, only with a value member; it then
    replaces exactly that element's value and nothing else (path, owner, flags of the element and
    all other elements are untouched).  Every other case is answered with the stated error and the
    whole state is unchanged. -/
theorem change_spec (cfg : Config) (x : Ctx) (c : Nat) (p : Peer) (req params : Json) (path : Bytes)
    (hwf : WF x.st) (hp : findPeer x.st.peers c = some p)
    (hm : req.getItem (k "method") = some (.str (k "change")))
    (hparams : req.getItem (k "params") = some params)
    (hpath : params.getItem (k "path") = some (.str path)) :
    (∀ v i, params.getItem (k "value") = some v → absGet x.st path = some i → i.owner = c →
        i.value.isSome = true →
      Answered (parseJsonRpc cfg x c req).1 c (successFromRequest req) ∧
      (∀ q, absGet (parseJsonRpc cfg x c req).1.st q =
        if q = path then some (setValue i v) else absGet x.st q) ∧
      (∀ e, e ∈ absElems (parseJsonRpc cfg x c req).1.st ↔
        (e ∈ absElems x.st ∧ e.1 ≠ path) ∨ e = (path, setValue i v))) ∧
    (params.getItem (k "value") = none →
      Refused x c (errorFromRequest req INVALID_PARAMS "reason" (k "no value found"))
        (parseJsonRpc cfg x c req).1) ∧
    (∀ v, params.getItem (k "value") = some v → absGet x.st path = none →
      Refused x c (errorFromRequest req INVALID_PARAMS "not exists" path) (parseJsonRpc cfg x c req).1) ∧
    (∀ v i, params.getItem (k "value") = some v → absGet x.st path = some i → i.owner ≠ c →
      Refused x c (errorFromRequest req INVALID_PARAMS "not owner of state" path)
        (parseJsonRpc cfg x c req).1) ∧
    (∀ v i, params.getItem (k "value") = some v → absGet x.st path = some i → i.owner = c →
        i.value = none →
      Refused x c (errorFromRequest req INVALID_PARAMS "change on method not possible" path)
        (parseJsonRpc cfg x c req).1) := by
  have hs := (wf_iff_wfs _).1 hwf
  have hc := findPeer_conn hp
  have hcs := (handleMethod_change cfg x p req).trans (changeState_eq x p req)
  simp only [getParamsAndPath_eq_ok hparams hpath] at hcs
  refine ⟨fun v i hv hi hown hval => ?_, fun hv => refused_of_handler hp hm ?_,
    fun v hv hnone => refused_of_handler hp hm ?_, fun v i hv hi hown => refused_of_handler hp hm ?_,
    fun v i hv hi hown hval => refused_of_handler hp hm ?_⟩
  · obtain ⟨e, hfe, rfl⟩ := findElement_of_absGet hs hi
    have h2 : e.value.isNone = false := by rw [← Option.not_isSome]; exact congrArg not hval
    simp only [hv, hfe, hc, bne_eq_false_iff_eq.2 (show e.owner = c from hown), h2, Bool.false_eq_true,
      ↓reduceIte] at hcs
    obtain ⟨hans, hst⟩ := answered_of_handler cfg hp hm
    rw [hcs] at hans hst
    rw [hst, notifyFetchers_st]
    obtain ⟨hst', hml, hent⟩ := changedState_store hs hp hfe hown v
    obtain ⟨_, hget, hin⟩ := abs_change hs hst' hml hent
    exact ⟨hans, hget, hin⟩
  · simp only [hcs, hv]
  · simp only [hcs, hv, findElement_of_absGet_none hs hnone]
  · obtain ⟨e, hfe, rfl⟩ := findElement_of_absGet hs hi
    simp only [hcs, hv, hfe, hc, bne_iff_ne.2 (show e.owner ≠ c from hown), ↓reduceIte]
  · obtain ⟨e, hfe, rfl⟩ := findElement_of_absGet hs hi
    simp only [hcs, hv, hfe, hc, bne_eq_false_iff_eq.2 (show e.owner = c from hown),
      Option.isNone_iff_eq_none.2 (show e.value = none from hval), Bool.false_eq_true, ↓reduceIte]

/-- non-vacuity: peer 1 changes its state "s" (success); changes its method "m" (refused); peer 3
    changes "s" (not owner); an unknown path; a request without value member -/
example : ∃ (p : Peer) (i im : ElemInfo),
    WF (mkCtx exS {}).st ∧ findPeer (mkCtx exS {}).st.peers 1 = some p ∧
    (mkReq "change" [0x73]).getItem (k "method") = some (.str (k "change")) ∧
    (mkReq "change" [0x73]).getItem (k "params") = some (mkParams [0x73]) ∧
    (mkParams [0x73]).getItem (k "path") = some (.str [0x73]) ∧
    (mkParams [0x73]).getItem (k "value") = some .null ∧
    absGet (mkCtx exS {}).st [0x73] = some i ∧ i.owner = 1 ∧ i.owner ≠ 3 ∧ i.value.isSome = true ∧
    absGet (mkCtx exS {}).st [0x6d] = some im ∧ im.owner = 1 ∧ im.value = none ∧
    absGet (mkCtx exS {}).st [0x75] = none ∧
    (Json.obj [(k "path", .str [0x73])]).getItem (k "value") = none := by
  obtain ⟨p, hp⟩ := exS_peer (c := 1) (by decide)
  obtain ⟨i, hi, hown, hval, -⟩ := exS_s
  obtain ⟨im, him, hmown, hmval, -⟩ := exS_m
  exact ⟨p, i, im, exS_wf, hp, mkReq_method _ _, mkReq_params _ _, mkParams_path _, mkParams_value _, hi, hown,
    by rw [hown]; decide, hval, him, hmown, Option.isSome_eq_false_iff.1 hmval |> Option.isNone_iff_eq_none.1,
    exS_u, (getItem_cons_ne keyEq_path_value _ _).trans rfl⟩

/-! ## 5. set / call refusals -/

/-- set (`isState = true`) resp. call (`isState = false`) on an unknown path, on a fetch-only
    element, or on an element of the wrong kind (set on a method, call on a state) is refused: the
    answer is the stated error, the WHOLE state is as before (no routing entry, no timer, counters
    untouched) and nothing but that answer — to the requester — is emitted. -/
theorem set_call_refusals (cfg : Config) (x : Ctx) (c : Nat) (p : Peer) (req params : Json) (path : Bytes)
    (isState : Bool) (hp : findPeer x.st.peers c = some p) (hwf : WF x.st)
    (hm : req.getItem (k "method") = some (.str (if isState then k "set" else k "call")))
    (hparams : req.getItem (k "params") = some params)
    (hpath : params.getItem (k "path") = some (.str path)) :
    (absGet x.st path = none →
      Refused x c (errorFromRequest req INVALID_PARAMS "not exists" path) (parseJsonRpc cfg x c req).1) ∧
    (∀ i, absGet x.st path = some i → i.fetchOnly = true →
      Refused x c (errorFromRequest req INVALID_PARAMS "fetchOnly" path) (parseJsonRpc cfg x c req).1) ∧
    (∀ i, absGet x.st path = some i → i.fetchOnly = false → i.value.isSome ≠ isState →
      Refused x c (errorFromRequest req INVALID_PARAMS "set/call on element not possible" path)
        (parseJsonRpc cfg x c req).1) := by
  have hs := (wf_iff_wfs _).1 hwf
  have hdisp : handleMethod cfg x p req (if isState then k "set" else k "call") = setOrCall cfg x p req isState := by
    cases isState
    · exact handleMethod_call ..
    · exact handleMethod_set ..
  -- a request that fails one of the checks is handed back with the context as it was
  have href : ∀ {r}, C03.routeChecks cfg x.st p req isState = .error r →
      Refused x c r (parseJsonRpc cfg x c req).1 := fun h =>
    refused_of_handler hp hm (by rw [hdisp, C03.setOrCall_eq, h])
  refine ⟨fun hnone => href ?_, fun i hi hfo => href ?_, fun i hi hfo hkind => href ?_⟩
  · simp only [C03.routeChecks, getParamsAndPath_eq_ok hparams hpath, findElement_of_absGet_none hs hnone]
  · obtain ⟨e, hfe, rfl⟩ := findElement_of_absGet hs hi
    simp only [C03.routeChecks, getParamsAndPath_eq_ok hparams hpath, hfe, show e.fetchOnly = true from hfo,
      ↓reduceIte]
  · obtain ⟨e, hfe, rfl⟩ := findElement_of_absGet hs hi
    simp only [C03.routeChecks, getParamsAndPath_eq_ok hparams hpath, hfe, show e.fetchOnly = false from hfo,
      Bool.false_eq_true, ↓reduceIte, bne_iff_ne.2 (show isState ≠ e.value.isSome from fun h => hkind h.symm)]

/-- non-vacuity: set on an unknown path, on the fetch-only state "f", on the method "m"; call on the
    state "s" -/
example : ∃ (p : Peer) (i_f im is : ElemInfo),
    findPeer (mkCtx exS {}).st.peers 3 = some p ∧ WF (mkCtx exS {}).st ∧
    (mkReq "set" [0x6d]).getItem (k "method") = some (.str (if true then k "set" else k "call")) ∧
    (mkReq "call" [0x73]).getItem (k "method") = some (.str (if false then k "set" else k "call")) ∧
    (mkReq "set" [0x6d]).getItem (k "params") = some (mkParams [0x6d]) ∧
    (mkParams [0x6d]).getItem (k "path") = some (.str [0x6d]) ∧
    absGet (mkCtx exS {}).st [0x75] = none ∧
    absGet (mkCtx exS {}).st [0x66] = some i_f ∧ i_f.fetchOnly = true ∧
    absGet (mkCtx exS {}).st [0x6d] = some im ∧ im.fetchOnly = false ∧ im.value.isSome ≠ true ∧
    absGet (mkCtx exS {}).st [0x73] = some is ∧ is.fetchOnly = false ∧ is.value.isSome ≠ false := by
  obtain ⟨p, hp⟩ := exS_peer (c := 3) (by decide)
  obtain ⟨i_f, hf, -, -, hffo⟩ := exS_f
  obtain ⟨im, hm, -, hmval, hmfo⟩ := exS_m
  obtain ⟨is, hs, -, hsval, hsfo⟩ := exS_s
  exact ⟨p, i_f, im, is, hp, exS_wf, mkReq_method _ _, mkReq_method _ _, mkReq_params _ _, mkParams_path _,
    exS_u, hf, hffo, hm, hmfo, by rw [hmval]; decide, hs, hsfo, by rw [hsval]; decide⟩

/-- what a refusal looks like to a requester whose request carries a string or number id: exactly
    one new observation, an object with an "error" member sent to the requester -/
theorem refusal_is_error_response (x x' : Ctx) (c : Nat) (req : Json) (code : Int) (tag : String)
    (reason : Bytes) (hid : answerable req) (h : Refused x c (errorFromRequest req code tag reason) x') :
    x'.st = x.st ∧ ∃ j b, x'.out = Obs.send c j b :: x.out ∧ (j.getItem (k "error")).isSome = true := by
  obtain ⟨j, hj, herr⟩ := errorFromRequest_isSome hid code tag reason
  refine ⟨h.1, j, (send x c j).2, ?_, herr⟩
  have := h.2
  rw [hj] at this
  exact this

example : answerable (mkReq "set" [0x75]) ∧
    Refused (mkCtx exS {}) 3 (errorFromRequest (mkReq "set" [0x75]) INVALID_PARAMS "not exists" [0x75])
      (sendResponse (mkCtx exS {}) 3 (errorFromRequest (mkReq "set" [0x75]) INVALID_PARAMS "not exists" [0x75])).1 :=
  ⟨mkReq_answerable _ _, refused_sendResponse _ _ _⟩

/-! ## 6. an error answer means nothing changed -/

/-- For ANY request object from any peer in a well-formed state: if among the observations the
    request produced there is the sending — to the requester or to anybody — of an object with an
    "error" member, the element abstraction (paths, owners, values, flags, order) is unchanged. -/
theorem error_means_unchanged (cfg : Config) (x : Ctx) (c : Nat) (req : Json) (hwf : WF x.st)
    (new : List Obs) (hout : (parseJsonRpc cfg x c req).1.out = new ++ x.out)
    (herr : ∃ c' j b, Obs.send c' j b ∈ new ∧ (j.getItem (k "error")).isSome = true) :
    absElems (parseJsonRpc cfg x c req).1.st = absElems x.st := by
  rcases (parseJsonRpc_eff cfg x c req).2 ((wf_iff_wfs _).1 hwf) with h | ⟨_, _, new', hnew', hall⟩
  · exact absElems_of_store_eq h
  · exfalso
    rw [hout] at hnew'
    have := List.append_cancel_right hnew'
    subst this
    obtain ⟨c', j, b, hmem, hj⟩ := herr
    have := hall _ hmem c' j b rfl
    rw [this] at hj
    cases hj

/-- non-vacuity: removing an unknown path in `exS` is answered with an error object -/
example : ∃ new, WF (mkCtx exS {}).st ∧
    (parseJsonRpc {} (mkCtx exS {}) 1 (mkReq "remove" [0x75])).1.out = new ++ (mkCtx exS {}).out ∧
    ∃ c' j b, Obs.send c' j b ∈ new ∧ (j.getItem (k "error")).isSome = true := by
  obtain ⟨p, hp⟩ := exS_peer (c := 1) (by decide)
  have hr := (remove_spec {} (mkCtx exS {}) 1 p _ _ [0x75] exS_wf hp (mkReq_method ..) (mkReq_params ..)
    (mkParams_path _)).2 (fun i hi => nomatch exS_u.symm.trans hi)
  obtain ⟨_, j, b, hout, herr⟩ := refusal_is_error_response _ _ 1 _ _ _ _ (mkReq_answerable ..) hr
  exact ⟨[Obs.send 1 j b], exS_wf, hout, 1, j, b, List.mem_singleton_self _, herr⟩

/-- Handlers only append: the output after one request object is the output before it with the new
    observations in front, so the `new` of `error_means_unchanged` always exists.  Combined form. -/
theorem error_means_unchanged_ex (cfg : Config) (x : Ctx) (c : Nat) (req : Json) (hwf : WF x.st) :
    ∃ new, (parseJsonRpc cfg x c req).1.out = new ++ x.out ∧
      ((∃ c' j b, Obs.send c' j b ∈ new ∧ (j.getItem (k "error")).isSome = true) →
        absElems (parseJsonRpc cfg x c req).1.st = absElems x.st) := by
  obtain ⟨new, hnew⟩ := (parseJsonRpc_eff cfg x c req).1
  exact ⟨new, hnew, error_means_unchanged cfg x c req hwf new hnew⟩

example : WF (mkCtx exS {}).st := exS_wf

/-- Handler level, covering requests that cannot be answered (no id, or an id that is neither
    string nor number): the abstraction changes only if the handler's answer is the success answer
    (which is "no answer" for such requests) — every refusal leaves it unchanged. -/
theorem refused_means_unchanged (cfg : Config) (x : Ctx) (c : Nat) (p : Peer) (req : Json) (m : Bytes)
    (hwf : WF x.st) (hp : findPeer x.st.peers c = some p)
    (hne : (handleMethod cfg x p req m).2 ≠ successFromRequest req) :
    absElems (handleMethod cfg x p req m).1.st = absElems x.st := by
  rcases (handleMethod_eff cfg req m hp).2 ((wf_iff_wfs _).1 hwf) with h | ⟨_, h, _⟩
  · exact absElems_of_store_eq h
  · exact absurd h hne

/-- non-vacuity: a refused `remove` (its answer carries an "error" member, the success answer does not) -/
example : ∃ p, WF (mkCtx exS {}).st ∧ findPeer (mkCtx exS {}).st.peers 1 = some p ∧
    (handleMethod {} (mkCtx exS {}) p (mkReq "remove" [0x75]) (k "remove")).2 ≠
      successFromRequest (mkReq "remove" [0x75]) := by
  obtain ⟨p, hp⟩ := exS_peer (c := 1) (by decide)
  refine ⟨p, exS_wf, hp, ?_⟩
  rw [handleMethod_remove]
  cases hf : p.elements.find? (·.path == [0x75]) with
  | some e => exact nomatch exS_u.symm.trans (own_find_some ((wf_iff_wfs _).1 exS_wf) hp hf).1
  | none =>
    rw [removeElementReq_missing (getParamsAndPath_eq_ok (mkReq_params ..) (mkParams_path _)) hf]
    exact error_ne_success (mkReq_answerable ..) _ _ _

/-- set and call — refused, routed or failed — never change the abstraction -/
theorem set_call_unchanged (cfg : Config) (x : Ctx) (c : Nat) (req : Json) (m : Bytes)
    (hm : req.getItem (k "method") = some (.str m)) (hsc : m = k "set" ∨ m = k "call") :
    absElems (parseJsonRpc cfg x c req).1.st = absElems x.st := by
  cases hp : findPeer x.st.peers c with
  | none => rw [parseJsonRpc_noPeer hp]
  | some p =>
    rw [parseJsonRpc_method hp hm, sendResponse_st]
    rcases hsc with rfl | rfl
    · rw [handleMethod_set]; exact absElems_of_store_eq (setOrCall_frame ..).store
    · rw [handleMethod_call]; exact absElems_of_store_eq (setOrCall_frame ..).store

example : (mkReq "set" [0x73]).getItem (k "method") = some (.str (k "set")) ∧ (k "set" = k "set" ∨ k "set" = k "call") :=
  ⟨mkReq_method _ _, Or.inl rfl⟩

/-! ## 7. who can change the abstraction -/

/-- * a message of `c` (object, batch or garbage) leaves every element not owned by `c` exactly as
      it was — same entries, same order; whatever changes is an element owned by `c`; and if the
      step dropped `c` (it is no longer a peer afterwards) exactly `c`'s elements vanished;
    * a disconnect of `c` removes exactly the elements owned by `c`;
    * connect and timer expiry never change the abstraction. -/
theorem step_elems_only_by_requester_or_close (cfg : Config) (s : State) (op : Op) (hwf : WF s) :
    match op with
    | .message c _ _ =>
      (absElems (step cfg s op).1).filter (fun e => e.2.owner != c) =
        (absElems s).filter (fun e => e.2.owner != c) ∧
      (findPeer (step cfg s op).1.peers c = none →
        absElems (step cfg s op).1 = (absElems s).filter (fun e => e.2.owner != c))
    | .disconnect c _ =>
      absElems (step cfg s op).1 = (absElems s).filter (fun e => e.2.owner != c)
    | .connect _ _ _ _ => absElems (step cfg s op).1 = absElems s
    | .timerFire _ _ => absElems (step cfg s op).1 = absElems s := by
  have hs := (wf_iff_wfs _).1 hwf
  cases op with
  | message c msg o =>
    dsimp only
    obtain ⟨hs', hoth⟩ := step_message cfg c msg o hs
    refine ⟨absElems_others hs hs' hoth, ?_⟩
    intro hgone
    rw [filter_conn_of_gone hgone] at hoth
    exact absElems_closed hs hoth
  | disconnect c o =>
    dsimp only
    exact absElems_closed hs (step_disconnect hs).2
  | connect c ws isLocal addr => exact (step_connect hs).2
  | timerFire t o => exact absElems_of_store_eq step_timerFire

/-- non-vacuity: in `exS`, a garbage message of peer 1 drops it (its two elements vanish, peer 2's stays) -/
example : WF exS ∧ findPeer (step {} exS (.message 1 none {})).1.peers 1 = none ∧
    (absElems (step {} exS (.message 1 none {})).1).map (·.1) = [[0x66]] := by
  have h : (findPeer (step {} exS (.message 1 none {})).1.peers 1).isNone = true ∧
      (absElems (step {} exS (.message 1 none {})).1).map (·.1) = [[0x66]] := by decide +kernel
  exact ⟨exS_wf, eq_none_of_isNone h.1, h.2⟩

/-- step-level form of `error_means_unchanged` for an object message: if the step did not drop the
    requester and some output of the step is an error object, the abstraction is unchanged -/
theorem error_means_unchanged_step (cfg : Config) (s : State) (c : Nat) (l : List (Bytes × Json)) (o : Oracle)
    (hwf : WF s)
    (hlive : (findPeer (step cfg s (.message c (some (.obj l)) o)).1.peers c).isSome = true)
    (herr : ∃ c' j b, Obs.send c' j b ∈ (step cfg s (.message c (some (.obj l)) o)).2 ∧
      (j.getItem (k "error")).isSome = true) :
    absElems (step cfg s (.message c (some (.obj l)) o)).1 = absElems s := by
  rw [step_message_eq, parseMessage_obj] at hlive herr ⊢
  by_cases h0 : (findPeer s.peers c).isNone = true
  · rw [if_pos h0]
  · rw [if_neg h0] at hlive herr ⊢
    dsimp only at hlive herr ⊢
    by_cases hok : (parseJsonRpc cfg (mkCtx s o) c (.obj l)).2 = true
    · rw [if_pos hok] at herr ⊢
      obtain ⟨c', j, b, hmem, hj⟩ := herr
      exact error_means_unchanged cfg (mkCtx s o) c (.obj l) hwf _ (List.append_nil _).symm
        ⟨c', j, b, List.mem_reverse.1 hmem, hj⟩
    · rw [if_neg hok, findPeer_eq_none.2 (closePeer_gone _ c)] at hlive
      cases hlive

/-- non-vacuity: peer 3's `remove` of an unknown path, as a whole step -/
example : WF exS ∧
    (findPeer (step {} exS (.message 3 (some (mkReq "remove" [0x75])) {})).1.peers 3).isSome = true ∧
    ∃ c' j b, Obs.send c' j b ∈ (step {} exS (.message 3 (some (mkReq "remove" [0x75])) {})).2 ∧
      (j.getItem (k "error")).isSome = true := by
  have h : (findPeer (step {} exS (.message 3 (some (mkReq "remove" [0x75])) {})).1.peers 3).isSome = true ∧
      anyErrSend (step {} exS (.message 3 (some (mkReq "remove" [0x75])) {})).2 = true := by decide +kernel
  exact ⟨exS_wf, h.1, exists_errSend_of_any h.2⟩

end Cjet.Daemon.C04
