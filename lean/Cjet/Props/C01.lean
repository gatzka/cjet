import Cjet.Lemmas.DaemonC01Examples
import Cjet.Props.Cjson

/-!
# C01 — fetch gives every subscriber an exact, ordered replica of matching elements

Model: `Cjet.Daemon.Model`.  All statements quantify over every configuration, every user table of
the initial state, every list of operations (any number of peers), every JSON value and every
oracle value (send results, index / routing table refusals).  The model ignores the result of a
notification send, so nothing here needs the subscriber to be healthy: the theorems speak about
what the daemon hands to the send function of a connection; for a subscriber all of whose sends
succeeded that is what it received.

Vocabulary (`Cjet.Lemmas.DaemonC01Defs`, `…Replay`, `…Step`):
* `Notif`, `decodeNotif` — a decoded fetch notification (fetch id, path, add/change/remove, value);
  the decoder inverts `notification` (`decodeNotif_notification`) and rejects every value that
  carries an "id" member (responses, routed requests);
* `notifsFor c fid obs` — the notifications among the sends to `c` whose "method" equals `fid`
  (compared as the daemon compares fetch ids, `idsEqual`), in order;
* `replay` / `replayFrom r` — the replica fold; `none` on a spurious event (add of a present path,
  change/remove of an absent one);  `SameMap r img` — `r` has no path twice and the same entries
  as `img`;
* `imageFor cfg s p f` = `imageOf cfg s p.fetchGroups f.rule` — elements of all peers (peer order,
  element order) visible to `p` and matching `f`'s rule, with their current values;
* `Atom cfg s obs s'` — one atomic piece of daemon work: a connect, ONE JSON-RPC object
  (`parseJsonRpc`, for every working context, i.e. every oracle), one `closePeer`, one timer expiry.
  A `message` operation with a batch runs several atoms in one `step`, so the life time of a fetch
  is delimited at this granularity (`run_is_exec` turns every `run` into atoms; see
  `docs/C01-proofs.md` for why step granularity is too coarse for batches);
* `Exec cfg s tr s'` — a sequence of atoms, `tr` lists (observations, state reached) per atom;
  `obsOf tr` all observations in order;
* `HasFetch s c f`, `Alive s c pg f`, `HasFid s c fid` — peer `c` has fetch `f` (and groups `pg`),
  resp. some fetch whose id equals `fid`;
* `StepOK cfg s s' ns` — the per-atom guarantee, fields `inv uidMono fresh stable rstep install origin`;
* `RStep cfg s s' ns c fid pg rule` — `ns` take a replica agreeing with the image in `s` to one
  agreeing with the image in `s'`, never spuriously.
-/

namespace Cjet.Daemon.C01

open Cjet Cjet.Json Cjet.Daemon

/-- the initial state: no peers, an arbitrary user table -/
def init (us : List User) : State := { users := us }

/-! ## 1. the fetcher tables -/

/-- The invariant holds in every reachable state. -/
theorem reachable_inv (cfg : Config) (us : List User) (ops : List Op) :
    Inv cfg (run cfg (init us) ops).1 := by
  obtain ⟨tr, h, _⟩ := run_exec (cfg := cfg) ops (inv_init cfg us)
  exact h.inv (inv_init cfg us)

/-- `fetch_table_char`.  In every reachable state, for every live peer `p`, every fetch `f` of `p`
    and every element `e` of any peer: `f` is in `e`'s fetcher table exactly when `e` is visible to
    `p` and matches `f`'s rule; no key occurs twice in a table; every key in a table is a live
    peer's existing fetch; fetch uids are unique (inside a peer and across peers) and below the
    counter; connections are distinct; fetch ids of one peer are pairwise different under
    `idsEqual`. -/
theorem fetch_table_char (cfg : Config) (us : List User) (ops : List Op) :
    let s := (run cfg (init us) ops).1
    (∀ p ∈ s.peers, ∀ f ∈ p.fetches, ∀ q ∈ s.peers, ∀ e ∈ q.elements,
      (some (⟨p.conn, f.uid⟩ : FetchKey) ∈ e.fetchers ↔
        (hasAccess cfg e.fetchGroups p.fetchGroups = true ∧ ruleMatches f.rule e.path = true))) ∧
    (∀ q ∈ s.peers, ∀ e ∈ q.elements, (e.fetchers.filterMap id).Nodup) ∧
    (∀ q ∈ s.peers, ∀ e ∈ q.elements, ∀ fk, some fk ∈ e.fetchers →
      ∃ p ∈ s.peers, p.conn = fk.peer ∧ ∃ f ∈ p.fetches, f.uid = fk.uid) ∧
    (∀ p ∈ s.peers, (p.fetches.map (·.uid)).Nodup) ∧
    (∀ p ∈ s.peers, ∀ q ∈ s.peers, ∀ f ∈ p.fetches, ∀ g ∈ q.fetches, f.uid = g.uid → p.conn = q.conn) ∧
    (∀ p ∈ s.peers, ∀ f ∈ p.fetches, f.uid < s.nextUid) ∧
    (s.peers.map (·.conn)).Nodup ∧
    (∀ p ∈ s.peers, p.fetches.Pairwise (fun a b => idsEqual a.fid b.fid = false)) := by
  intro s
  have inv : Inv cfg s := reachable_inv cfg us ops
  refine ⟨?_, ?_, ?_, inv.fetches.uidNodup, inv.fetches.uidGlobal, inv.fetches.uidLt,
    inv.fetches.connNodup, inv.fetches.fidDistinct⟩
  · intro p hp f hf q hq e he
    have ok := inv.tbl e (mem_allElems.2 ⟨q, hq, he⟩)
    rw [← mem_keys, ok.char p hp f hf]
    simp [visible]
  · intro q hq e he
    exact (inv.tbl e (mem_allElems.2 ⟨q, hq, he⟩)).nodup
  · intro q hq e he fk hfk
    exact (inv.tbl e (mem_allElems.2 ⟨q, hq, he⟩)).live fk (mem_keys.2 hfk)

/-- `groups_stable_while_fetching`.  A fetch that exists before and after an operation (any
    operation, batches included) belongs to a peer whose fetch groups did not change: access
    cannot change under a live fetch (`authenticate` is refused while the peer has fetches). -/
theorem groups_stable_while_fetching (cfg : Config) (us : List User) (ops : List Op) (op : Op)
    (p : Peer) (f : Fetch) (p' : Peer)
    (hp : p ∈ (run cfg (init us) ops).1.peers) (hf : f ∈ p.fetches)
    (hp' : p' ∈ (step cfg (run cfg (init us) ops).1 op).1.peers) (hc : p'.conn = p.conn)
    (hf' : f ∈ p'.fetches) : p'.fetchGroups = p.fetchGroups := by
  have inv := reachable_inv cfg us ops
  obtain ⟨tr, h, _⟩ := step_exec inv op
  obtain ⟨⟨q, hq, hqc, hqg, _⟩, _⟩ := h.replica inv (c := p.conn) (pg := p.fetchGroups) (f := f)
    ⟨p, hp, rfl, rfl, hf⟩ ⟨p', hp', hc, hf'⟩
  have : q = p' := findPeer_unique (h.inv inv).fetches.connNodup hq hp' (hqc.trans hc.symm)
  subst this
  exact hqg

example : ∃ p f p', p ∈ (run Ex.cfg (init []) Ex.ops1).1.peers ∧ f ∈ p.fetches ∧
    p' ∈ (step Ex.cfg (run Ex.cfg (init []) Ex.ops1).1 Ex.opChange).1.peers ∧ p'.conn = p.conn ∧
    f ∈ p'.fetches :=
  Ex.sameFetch_exists Ex.sameFetch_change

/-! ## 2. the replica -/

/-- `step_replica` (per atom, for every kind of atom and every handler).  From a state that
    satisfies the invariant, one atom
    * re-establishes the invariant;
    * (`rstep`) for every fetch `f` of a peer `c` with groups `pg` that exists before and after: the
      notifications for `(c, f.fid)` emitted by the atom transform any replica that agrees with
      `imageOf s pg f.rule` into one that agrees with `imageOf s' pg f.rule`, with no spurious event;
    * (`install`) for a fetch that appears in this atom the notifications build the image of the
      post-state from the empty replica;
    * (`stable`) keeps the groups of a peer whose fetch survives;
    * (`fresh`) creates a fetch only with a uid ≥ the counter and only if its id was not in use;
    * (`origin`) emits a notification only to a peer that had or now has a fetch with that id. -/
theorem step_replica (cfg : Config) (s s' : State) (obs : List Obs) (inv : Inv cfg s)
    (h : Atom cfg s obs s') : StepOK cfg s s' (notifs obs) :=
  atom_ok inv h

example : Inv Ex.cfg (init []) ∧ Atom Ex.cfg (init []) []
    { (init []) with peers := (init []).peers ++ [{ conn := 1, ws := false, isLocal := true, addrTok := [] }] } :=
  ⟨inv_init _ _, Atom.connect (init []) 1 false true [] rfl⟩

/-- Every run is a sequence of atoms with the same final state and the same observations. -/
theorem run_is_exec (cfg : Config) (us : List User) (ops : List Op) :
    ∃ tr, Exec cfg (init us) tr (run cfg (init us) ops).1 ∧ obsOf tr = (run cfg (init us) ops).2.flatten :=
  run_exec ops (inv_init cfg us)

/-- `replica_exact`.  Start in the initial state, run any atoms (`tr0`), then an atom in which peer
    `c` gets the fetch `f` (it did not have it before), then any atoms (`tr`).  If at the end a peer
    `p3` with connection `c` still has `f` (not unfetched, still connected), then replaying all
    notifications for `(c, f.fid)` from the installing atom on — `o ++ obsOf tr`, in emission
    order — succeeds and yields exactly the image of `f` in the final state. -/
theorem replica_exact (cfg : Config) (us : List User) (tr0 tr : List (List Obs × State)) (o : List Obs)
    (s1 s2 s3 : State) (c : Nat) (f : Fetch) (p3 : Peer)
    (h0 : Exec cfg (init us) tr0 s1) (hi : Atom cfg s1 o s2) (h : Exec cfg s2 tr s3)
    (hnew : ¬ HasFetch s1 c f) (hinst : HasFetch s2 c f)
    (hp3 : p3 ∈ s3.peers) (hc3 : p3.conn = c) (hf3 : f ∈ p3.fetches) :
    ∃ r, replay (notifsFor c f.fid (o ++ obsOf tr)) = some r ∧ SameMap r (imageFor cfg s3 p3 f) := by
  have inv1 : Inv cfg s1 := h0.inv (inv_init cfg us)
  have ok := atom_ok inv1 hi
  obtain ⟨p2, hp2, hc2, hf2⟩ := hinst
  have ha2 : Alive s2 c p2.fetchGroups f := ⟨p2, hp2, hc2, rfl, hf2⟩
  obtain ⟨r1, e1, m1⟩ := ok.install c p2.fetchGroups f hnew ha2
  obtain ⟨⟨q, hq, hqc, hqg, _⟩, rs⟩ := h.replica ok.inv ha2 ⟨p3, hp3, hc3, hf3⟩
  have : q = p3 := findPeer_unique (h.inv ok.inv).fetches.connNodup hq hp3 (hqc.trans hc3.symm)
  subst this
  obtain ⟨r2, e2, m2⟩ := rs r1 m1
  refine ⟨r2, ?_, ?_⟩
  · unfold replay notifsFor
    rw [notifs_append, pick_append, replayFrom_append, e1]
    simpa using e2
  · rw [imageFor_eq, hqg]; exact m2

example : ∃ tr0 o s1 s2 f p3, Exec Ex.cfg (init []) tr0 s1 ∧ Atom Ex.cfg s1 o s2 ∧ Exec Ex.cfg s2 [] s2 ∧
    ¬ HasFetch s1 1 f ∧ HasFetch s2 1 f ∧ p3 ∈ s2.peers ∧ p3.conn = 1 ∧ f ∈ p3.fetches := by
  obtain ⟨tr0, h0, _⟩ := run_is_exec Ex.cfg [] Ex.ops0
  obtain ⟨o, hat⟩ := Atom.of_request (reachable_inv Ex.cfg [] Ex.ops0) {} 1 (.obj Ex.fetch1)
  obtain ⟨_, f, hn, p3, hp3, hc, _, hf⟩ := Ex.alive_exists Ex.noFetches_ops0 Ex.fetch1_installs
  exact ⟨tr0, o, _, _, f, p3, h0, hat, Exec.nil _, hn, ⟨p3, hp3, hc, hf⟩, hp3, hc, hf⟩

/-- `replica_exact` on `run`: any operations, then a `message` that is a single JSON object and in
    which `c` gets the fetch `f`, then any operations (batches allowed before and after).  If `c`
    still has `f` at the end, the replay of all notifications for `(c, f.fid)` from the installing
    operation on gives exactly the image of `f` in the final state. -/
theorem replica_exact_run (cfg : Config) (us : List User) (ops0 ops1 : List Op) (c : Nat)
    (l : List (Bytes × Json)) (orc : Oracle) (f : Fetch) (p3 : Peer)
    (hnew : ¬ HasFetch (run cfg (init us) ops0).1 c f)
    (hinst : HasFetch (step cfg (run cfg (init us) ops0).1 (.message c (some (.obj l)) orc)).1 c f)
    (hp3 : p3 ∈ (run cfg (step cfg (run cfg (init us) ops0).1 (.message c (some (.obj l)) orc)).1 ops1).1.peers)
    (hc3 : p3.conn = c) (hf3 : f ∈ p3.fetches) :
    ∃ r, replay (notifsFor c f.fid
        ((step cfg (run cfg (init us) ops0).1 (.message c (some (.obj l)) orc)).2 ++
         (run cfg (step cfg (run cfg (init us) ops0).1 (.message c (some (.obj l)) orc)).1 ops1).2.flatten)) = some r ∧
      SameMap r (imageFor cfg
        (run cfg (step cfg (run cfg (init us) ops0).1 (.message c (some (.obj l)) orc)).1 ops1).1 p3 f) := by
  obtain ⟨tr0, h0, _⟩ := run_is_exec cfg us ops0
  have inv1 : Inv cfg (run cfg (init us) ops0).1 := reachable_inv cfg us ops0
  have hlive : (findPeer (run cfg (init us) ops0).1.peers c).isSome = true :=
    Option.isSome_iff_ne_none.2 fun hfp => hnew (by
      rwa [step_message_eq, if_pos (by rw [hfp]; rfl)] at hinst)
  obtain ⟨o1, s1', hat, hcase⟩ := step_single inv1 c l orc hlive
  rcases hcase with heq | ⟨o2, _, _, hgone⟩
  · rw [heq] at hinst hp3 ⊢
    have inv2 : Inv cfg s1' := (atom_ok inv1 hat).inv
    obtain ⟨tr, h, hobs⟩ := run_exec (cfg := cfg) ops1 inv2
    rw [← hobs]
    exact replica_exact cfg us tr0 tr o1 _ s1' _ c f p3 h0 hat h hnew hinst hp3 hc3 hf3
  · obtain ⟨p2, hp2, hc2, _⟩ := hinst
    exact absurd hc2 (hgone p2 hp2)

example : ∃ f p3, ¬ HasFetch (run Ex.cfg (init []) Ex.ops0).1 1 f ∧
    HasFetch (step Ex.cfg (run Ex.cfg (init []) Ex.ops0).1 (.message 1 (some (.obj Ex.fetch1)) {})).1 1 f ∧
    p3 ∈ (run Ex.cfg (step Ex.cfg (run Ex.cfg (init []) Ex.ops0).1
      (.message 1 (some (.obj Ex.fetch1)) {})).1 [Ex.opChange]).1.peers ∧ p3.conn = 1 ∧ f ∈ p3.fetches :=
  Ex.install_exists Ex.noFetches_ops0 Ex.sameFetchAt_change

/-- Why atoms and not operations: the statement of `replica_exact` with "the operation that
    installed `f`" in place of "the atom that installed `f`" is FALSE for batches.  Peer 1 sends
    `[fetch id 1, unfetch id 1, fetch id 1]` in one message while peer 2 owns state "a": the
    operation installs a fetch with id 1 that peer 1 did not have before, but the operation's
    notifications for `(1, 1)` are "add a", "add a" (one per life time of the id), which do not
    replay from the empty replica.  The daemon is right (each life time of the id is exact, by
    `replica_exact`); life times simply have to be cut at request granularity. -/
theorem step_granularity_too_coarse :
    ∃ (ops : List Op) (op : Op) (c : Nat) (f : Fetch),
      ¬ HasFetch (run {} (init []) ops).1 c f ∧
      HasFetch (step {} (run {} (init []) ops).1 op).1 c f ∧
      replay (notifsFor c f.fid (step {} (run {} (init []) ops).1 op).2) = none := by
  obtain ⟨f, h1, h2, h3⟩ := Ex.coarse_exists (s := (run {} (init []) Ex.ops0).1)
    (s' := (step {} (run {} (init []) Ex.ops0).1 Ex.opBatch).1) (c := 1)
    (obs := (step {} (run {} (init []) Ex.ops0).1 Ex.opBatch).2) Ex.noFetches_ops0 Ex.batch_replayFails
  exact ⟨Ex.ops0, Ex.opBatch, 1, f, h1, h2, h3⟩

/-- A subscriber all of whose sends succeeded received exactly what was emitted: dropping the
    failed sends to `c` from the observations changes nothing, so every statement about
    `notifsFor c fid obs` is a statement about what a healthy `c` received. -/
theorem healthy_receives_all (c : Nat) (fid : Json) (obs : List Obs)
    (h : ∀ j b, Obs.send c j b ∈ obs → b = true) :
    notifsFor c fid (recvd c obs) = notifsFor c fid obs := by
  rw [recvd_eq_of_healthy h]

example : ∀ j b, Obs.send 1 j b ∈ ([] : List Obs) → b = true := by
  intro j b h; cases h

/-! ## 3. adds before the success response -/

/-- `adds_before_success`.  One JSON-RPC object `req` from connection `c`, any context.  If a
    fetch `f` appears for some connection `c'` in this atom, then `c' = c` and the output of the
    atom splits into `front ++ back` (chronological): `back` is exactly the success response of the
    request to `c` (or empty when the request carries no usable id), and the notifications for
    `(c, f.fid)` in `front` alone — everything before the response — already replay to the image
    of `f`: every "add" for a pre-existing match precedes the success response. -/
theorem adds_before_success (cfg : Config) (x : Ctx) (inv : Inv cfg x.st) (c : Nat) (req : Json)
    (c' pg : Nat) (f : Fetch) (hnew : ¬ HasFetch x.st c' f)
    (hinst : Alive (parseJsonRpc cfg x c req).1.st c' pg f) :
    c' = c ∧ ∃ front back : List Obs,
      (parseJsonRpc cfg x c req).1.out = (front ++ back).reverse ++ x.out ∧
      (∃ r, replay (notifsFor c f.fid front) = some r ∧
        SameMap r (imageOf cfg (parseJsonRpc cfg x c req).1.st pg f.rule)) ∧
      notifs back = [] ∧
      ((successFromRequest req = none ∧ back = []) ∨
        ∃ j b, successFromRequest req = some j ∧ back = [Obs.send c j b]) := by
  obtain ⟨new, resp, hout, hstep, hresp, hwho⟩ := parseJsonRpc_ok inv c req
  obtain ⟨hcc, hback⟩ := hwho c' f hinst.hasFetch hnew
  subst hcc
  refine ⟨rfl, new.reverse, resp.reverse, ?_, ?_, ?_, ?_⟩
  · rw [hout]; simp
  · exact hstep.install c' pg f hnew hinst
  · rcases hresp with rfl | ⟨j, b, rfl, hj⟩
    · rfl
    · simp [notifs_send, decodeNotif_of_isResp hj]
  · rcases hback with ⟨h1, rfl⟩ | ⟨j, b, h1, rfl⟩
    · exact Or.inl ⟨h1, rfl⟩
    · exact Or.inr ⟨j, b, h1, rfl⟩

example : Inv Ex.cfg (mkCtx (run Ex.cfg (init []) Ex.ops0).1 {}).st ∧
    ∃ pg f, ¬ HasFetch (mkCtx (run Ex.cfg (init []) Ex.ops0).1 {}).st 1 f ∧
      Alive (parseJsonRpc Ex.cfg (mkCtx (run Ex.cfg (init []) Ex.ops0).1 {}) 1 (.obj Ex.fetch1)).1.st 1 pg f :=
  ⟨mkCtx_st _ _ ▸ reachable_inv _ _ _, Ex.alive_exists Ex.noFetches_ops0_ctx Ex.fetch1_installs⟩

/-! ## 4. silence -/

/-- `silence_after_unfetch`, first half.  An `unfetch` request of peer `p` (connection `p.conn`)
    whose id `fid` names one of its fetches is answered with the success response, emits nothing
    else, and afterwards `p` has no fetch whose id equals `fid`. -/
theorem unfetch_silences (cfg : Config) (x : Ctx) (inv : Inv cfg x.st) (p : Peer) (hp : p ∈ x.st.peers)
    (req params fid : Json) (hid : getFetchId req false = .ok params fid) (hhas : HasFid x.st p.conn fid) :
    (unfetchReq x p req).2 = successFromRequest req ∧ (unfetchReq x p req).1.out = x.out ∧
    ¬ HasFid (unfetchReq x p req).1.st p.conn fid :=
  unfetchReq_removes inv hp req hid hhas

/-- `silence_after_unfetch`, second half.  From any state satisfying the invariant in which `c` has
    no fetch whose id equals `fid` (e.g. after the unfetch above, or after `closed c`), as long as
    no state reached has such a fetch — i.e. unless a new fetch with an equal id is installed —
    no atom emits a notification for `(c, fid)`. -/
theorem silence_after_unfetch (cfg : Config) (s s' : State) (tr : List (List Obs × State)) (inv : Inv cfg s)
    (h : Exec cfg s tr s') (c : Nat) (fid : Json) (h0 : ¬ HasFid s c fid)
    (hall : ∀ t ∈ tr.map (·.2), ¬ HasFid t c fid) : notifsFor c fid (obsOf tr) = [] :=
  h.silent inv h0 hall

/-- a fetch id comes into use only by an atom that installs a fetch with that id -/
theorem fid_only_by_install (s s' : State) (c : Nat) (fid : Json) (h0 : ¬ HasFid s c fid)
    (h1 : HasFid s' c fid) : ∃ f, HasFetch s' c f ∧ ¬ HasFetch s c f ∧ idsEqual f.fid fid = true := by
  obtain ⟨p, hp, hc, g, hg, hi⟩ := h1
  refine ⟨g, ⟨p, hp, hc, hg⟩, ?_, hi⟩
  rintro ⟨q, hq, hqc, hqg⟩
  exact h0 ⟨q, hq, hqc, g, hqg, hi⟩

example : ¬ HasFid (run Ex.cfg (init []) Ex.ops0).1 1 (Ex.n 1) ∧ HasFid (run Ex.cfg (init []) Ex.ops1).1 1 (Ex.n 1) :=
  ⟨fun ⟨p, hp, hc, g, hg, _⟩ => Ex.noFetches (s := (run Ex.cfg (init []) Ex.ops0).1) (c := 1)
      Ex.noFetches_ops0 g ⟨p, hp, hc, hg⟩,
   Ex.hasFid_of_bool Ex.hasFid_ops1⟩

/-- after `closePeer x c` the connection has no peer, hence no fetch id in use: nothing is emitted
    for it (`silence_after_unfetch`) until it connects and fetches again -/
theorem nothing_after_closed (x : Ctx) (c : Nat) (fid : Json) : ¬ HasFid (closePeer x c).st c fid := by
  rintro ⟨p, hp, hc, _⟩
  exact closePeer_gone x c p hp hc

example : Inv Ex.cfg (mkCtx (run Ex.cfg (init []) Ex.ops1).1 {}).st ∧
    ∃ p params fid, p ∈ (mkCtx (run Ex.cfg (init []) Ex.ops1).1 {}).st.peers ∧
      getFetchId (.obj Ex.unfetch1) false = .ok params fid ∧
      HasFid (mkCtx (run Ex.cfg (init []) Ex.ops1).1 {}).st p.conn fid :=
  ⟨mkCtx_st _ _ ▸ reachable_inv _ _ _, Ex.hasFid_exists (c := 1) Ex.unfetchOk_ops1⟩

example : Inv Ex.cfg (init []) ∧ Exec Ex.cfg (init []) [] (init []) ∧ ¬ HasFid (init []) 1 (Ex.n 1) :=
  ⟨inv_init _ _, Exec.nil _, by rintro ⟨p, hp, _⟩; cases hp⟩

/-! ## 5. refused add -/

/-- `no_spurious_on_rollback`.  An `add` processed while the path index refuses the insertion
    (`x.indexFull`): the state is unchanged, and for every live fetch the notifications of this
    request are either none, or exactly "add" followed by "remove" of the same path — every
    subscriber that received the "add" receives the "remove" in the same request — so every
    replica is unchanged by it. -/
theorem no_spurious_on_rollback (cfg : Config) (x : Ctx) (inv : Inv cfg x.st) (p : Peer) (req : Json)
    (hfull : x.indexFull = true) :
    (addElement cfg x p req).1.st = x.st ∧
    ∃ ns, Emits x (addElement cfg x p req).1 ns ∧
      ∀ c pg f, Alive x.st c pg f →
        (pick c f.fid ns = [] ∨
          ∃ path v, pick c f.fid ns =
            [{ fid := f.fid, path := path, event := .add, value := v },
             { fid := f.fid, path := path, event := .remove, value := v }]) ∧
        ∀ r, SameMap r (imageOf cfg x.st pg f.rule) →
          ∃ r', replayFrom r (pick c f.fid ns) = some r' ∧ SameMap r' (imageOf cfg x.st pg f.rule) := by
  obtain ⟨hst, ns, hem, hpick⟩ := addElement_rollback inv p req hfull
  refine ⟨hst, ns, hem, ?_⟩
  intro c pg f ha
  rcases hpick c pg f ha with h | ⟨path, v, hno, h⟩
  · refine ⟨Or.inl h, fun r hr => ?_⟩
    rw [h]
    exact ⟨r, rfl, hr⟩
  · refine ⟨Or.inr ⟨path, v, h⟩, fun r hr => ?_⟩
    rw [h]
    exact sameMap_add_remove hr (fresh_not_mem_imageOf hno pg f.rule)

example : Inv Ex.cfg (mkCtx (run Ex.cfg (init []) Ex.ops1).1 { indexFull := true }).st ∧
    (mkCtx (run Ex.cfg (init []) Ex.ops1).1 { indexFull := true }).indexFull = true :=
  ⟨mkCtx_st _ _ ▸ reachable_inv _ _ _, rfl⟩

/-! ## 6. order -/

/-- `order_is_generation_order`.  The notification stream of one `(c, fid)` over a run is the
    concatenation, operation by operation (and inside an operation atom by atom, in the order the
    requests were processed), of the notifications each piece emitted; `replica_exact` consumes
    exactly this concatenation, so no reordering is needed for the replay to succeed. -/
theorem order_is_generation_order (cfg : Config) (s : State) (ops : List Op) (c : Nat) (fid : Json) :
    notifsFor c fid (run cfg s ops).2.flatten = ((run cfg s ops).2.map (notifsFor c fid)).flatten ∧
    ∀ tr : List (List Obs × State), notifsFor c fid (obsOf tr) = (tr.map (fun a => notifsFor c fid a.1)).flatten := by
  have key : ∀ l : List (List Obs), notifsFor c fid l.flatten = (l.map (notifsFor c fid)).flatten := by
    intro l
    induction l with
    | nil => rfl
    | cons a t ih => simp [notifsFor_append, ih]
  refine ⟨key _, ?_⟩
  intro tr
  unfold obsOf
  rw [key, List.map_map]
  rfl

/-! ### values pass through the daemon by parse then print (vendored cJSON.c): strings and number-free trees come back exactly; a double comes back bit for bit given strtod(sprintf %.17g d) = d (code as repaired, F65) -/

theorem json_string_survives_print_parse : type_of% @Cjet.Props.Cjson.print_parse_string_roundtrip := @Cjet.Props.Cjson.print_parse_string_roundtrip
theorem json_tree_survives_print_parse : type_of% @Cjet.Props.Cjson.print_parse_tree_roundtrip := @Cjet.Props.Cjson.print_parse_tree_roundtrip
theorem json_number_survives_print_parse_given_number_oracle_partial : type_of% @Cjet.Props.Cjson.number_survives_print_parse_given_number_oracle_partial := @Cjet.Props.Cjson.number_survives_print_parse_given_number_oracle_partial
theorem json_print_number_is_exact_as_built : type_of% @Cjet.Props.Cjson.print_number_is_exact_as_built := @Cjet.Props.Cjson.print_number_is_exact_as_built
theorem json_number_print_before_fix : type_of% @Cjet.Props.Cjson.number_print_counterexample_before_fix := @Cjet.Props.Cjson.number_print_counterexample_before_fix

end Cjet.Daemon.C01
