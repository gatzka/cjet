/-
  The epoll dispatcher `src/linux/eventloop_epoll.c` (model `Cjet.Evloop`): the part of
  C05 ("once the daemon has released the connection nothing is ever … looked up through it"),
  C06 ("any batching of readiness events … read or write memory outside live objects") and
  C11 ("harms only itself") that is decided inside the event loop.

  Everything is quantified over all parameters (`P`: which function pointers are NULL, the array
  size), all loop states, all harvested arrays / ready lists, all masks and all callback scripts.
  `P.nulling = true` is the code as committed (commit 676ccd4); `false` is the code before it and
  appears only in the counterexample.
-/
import Cjet.Lemmas.Evloop

namespace Cjet.Props.Evloop

open Cjet.Evloop

/-! ### a removed `io_event` is never called again -/

/-- Within one `dispatch_events`: once `eventloop_epoll_remove(x)` has run — in a callback of `x`
    itself or of any other array position — no function of `x` is invoked in the rest of the batch
    (not even if `x` is registered again meanwhile).  For every array, also one with duplicates or
    entries that were never registered. -/
theorem no_call_after_remove (P : Params) (hn : P.nulling = true) (L : Loop) (sc : List Answer)
    (pre post : List TEv) (x : Nat) (f : Fn)
    (h : (dispatch P L sc).trace = pre ++ .removed x :: post) : TEv.call x f ∉ post := by
  have hm := monX_removed (h ▸ (dispatch_inv P hn x L sc .ok (Inv.init x L)).1)
  refine monX_no_call (by simp) hm (fun b hb => ?_) f
  have : TEv.harvest b ∈ (dispatch P L sc).trace := by rw [h]; simp [hb]
  exact dispatchLoop_no_harvest P _ L sc b this

example : TEv.removed 2 ∈ (dispatch {} { reg := [1, 2], todo := [⟨some 1, 1#32⟩, ⟨some 2, 1#32⟩] }
    [⟨.cont, [.remove 2]⟩]).trace := by decide +kernel

/-- Over the whole life of `eventloop_epoll_run`, per `io_event`: a function of `x` is invoked only
    while `x` is in status `ok` — not after it was removed, and after a new registration only
    once `epoll_wait` has returned again (see `Cjet.Evloop.monX`). -/
theorem no_call_after_remove_monitor (P : Params) (hn : P.nulling = true) (ws : List Wait) (L : Loop)
    (sc : List Answer) (x : Nat) : monX x .ok (run P ws L sc).trace :=
  run_inv P hn x ws L sc .ok (Inv.init x L)

/-- The same, as a statement about positions: a call of `x` that comes after a remove of `x` is
    separated from it by a successful `add` of `x` and, after that, a fresh `epoll_wait` result. -/
theorem no_call_after_remove_across_batches (P : Params) (hn : P.nulling = true) (ws : List Wait) (L : Loop)
    (sc : List Answer) (x : Nat) (f : Fn) (pre mid post : List TEv)
    (h : (run P ws L sc).trace = pre ++ .removed x :: (mid ++ .call x f :: post)) :
    ∃ m1 m2 b m3, mid = m1 ++ .added x true :: (m2 ++ .harvest b :: m3) := by
  have hm := monX_removed (h ▸ no_call_after_remove_monitor P hn ws L sc x)
  exact statusAfter_dead_ok x mid (((monX_append ..).1 hm).2.1 f rfl)

example : ∃ pre mid post, (run {} [.batch [(1, 1#32)], .batch [(1, 1#32)]] { reg := [1] }
    [⟨.cont, [.remove 1, .add 1 true]⟩]).trace = pre ++ .removed 1 :: (mid ++ .call 1 .read :: post) :=
  ⟨[.harvest [(1, 1#32)], .call 1 .read],
   [.added 1 true, .snap { reg := [1], done := [⟨none, 1#32⟩] }, .ret .cont, .harvest [(1, 1#32)]],
   [.snap { reg := [1], current := some 1, done := [⟨some 1, 1#32⟩] }, .ret .cont, .term, .runRet 0], by decide +kernel⟩

/-- The defect repaired by commit 676ccd4, on the model of the code before it: the callback of the
    first array position removes (and frees) `io_event 2`, whose own event is the second array
    position — and its read function is called all the same. -/
theorem no_call_after_remove_counterexample_before_fix :
    callsOf (run { nulling := false } [.batch [(1, EPOLLIN), (2, EPOLLIN)]] { reg := [1, 2] }
      [⟨.cont, [.remove 2]⟩]).trace = [(1, .read), (2, .read)] ∧
    removedIn (run { nulling := false } [.batch [(1, EPOLLIN), (2, EPOLLIN)]] { reg := [1, 2] }
      [⟨.cont, [.remove 2]⟩]).trace = [2] ∧
    callsOf (run { nulling := true } [.batch [(1, EPOLLIN), (2, EPOLLIN)]] { reg := [1, 2] }
      [⟨.cont, [.remove 2]⟩]).trace = [(1, .read)] := by decide +kernel

/-! ### what one array entry calls -/

/-- An event with any bit other than `EPOLLIN | EPOLLOUT` calls exactly the error function of its
    `io_event` and nothing else, whatever the callback does. -/
theorem error_mask_only_error_function (P : Params) (x : Nat) (m : Mask) (L : Loop) (sc : List Answer)
    (hm : isErr m = true) : callsOf (entry P ⟨some x, m⟩ L sc).seg = [(x, .error)] := by
  rcases entry_calls P ⟨some x, m⟩ L sc x rfl with h | ⟨h, _⟩
  · rw [h]; simp [prescribed, hm]
  · simp [hm] at h

example : isErr (EPOLLIN ||| 0x10#32) = true := by decide

/-- `isErr` is the test the statement speaks of: some bit other than bit 0 (`EPOLLIN`) and bit 2 (`EPOLLOUT`). -/
theorem error_mask_iff_foreign_bit (m : Mask) :
    isErr m = true ↔ ∃ i, i < 32 ∧ i ≠ 0 ∧ i ≠ 2 ∧ m.getLsbD i = true := isErr_iff_bit m

/-- The same inside a batch, relative to the array as harvested: position `i` with an error mask
    calls exactly the error function of its `io_event` — or nothing at all, and then only because an
    earlier position removed that `io_event`. -/
theorem error_mask_only_error_function_in_batch (P : Params) (hn : P.nulling = true) (L : Loop) (sc : List Answer)
    (i x : Nat) (m : Mask) (seg : List TEv) (hi : L.todo[i]? = some ⟨some x, m⟩) (hm : isErr m = true)
    (hs : (dispatch P L sc).segs[i]? = some seg) :
    callsOf seg = [(x, .error)] ∨
      (seg = [] ∧ TEv.removed x ∈ ((dispatch P L sc).segs.take i).flatten) := by
  rcases dispatchLoop_at P hn _ L sc i x m seg hi hs with ⟨h1, h2⟩ | ⟨_, L', sc', h2⟩
  · exact Or.inr ⟨h2, mem_removedIn.1 h1⟩
  · exact Or.inl (h2 ▸ error_mask_only_error_function P x m L' sc' hm)

example : ({ todo := [⟨some 7, 0x19#32⟩] } : Loop).todo[0]? = some ⟨some 7, 0x19#32⟩ ∧ isErr 0x19#32 = true ∧
    (dispatch {} { todo := [⟨some 7, 0x19#32⟩] } []).segs[0]? =
      some [.call 7 .error, .snap { current := some 7, done := [⟨some 7, 0x19#32⟩] }, .ret .cont] := by decide +kernel

/-- For every array position: if both the read and the write function are called, the read
    function is called first. -/
theorem read_before_write (P : Params) (L : Loop) (sc : List Answer) (seg : List TEv)
    (hs : seg ∈ (dispatch P L sc).segs) (i j y z : Nat)
    (hi : (callsOf seg)[i]? = some (y, .read)) (hj : (callsOf seg)[j]? = some (z, .write)) : i < j := by
  obtain ⟨e, L', sc', rfl⟩ := dispatchLoop_segs_entry P _ L sc seg hs
  obtain ⟨x, hx⟩ := entry_calls_sublist' P e L' sc'
  -- in the order error, read, write no write comes before a read
  have hp : (callsOf (entry P e L' sc').seg).Pairwise fun a b => a.2 = .write → b.2 ≠ .read :=
    List.Pairwise.sublist hx (by simp)
  obtain ⟨hi', hi⟩ := List.getElem?_eq_some_iff.1 hi
  obtain ⟨hj', hj⟩ := List.getElem?_eq_some_iff.1 hj
  refine Nat.lt_of_not_le fun hji => ?_
  rcases Nat.lt_or_eq_of_le hji with hlt | rfl
  · exact List.pairwise_iff_getElem.1 hp j i hj' hi' hlt (by rw [hj]) (by rw [hi])
  · rw [hi] at hj; cases hj

example : [.call 1 .read, .snap { current := some 1, done := [⟨some 1, 5#32⟩] }, .ret .cont,
           .call 1 .write, .snap { current := some 1, done := [⟨some 1, 5#32⟩] }, .ret .cont] ∈
    (dispatch {} { todo := [⟨some 1, 5#32⟩] } []).segs := by decide +kernel

/-- For every array position: each of the three functions is called at most once, and only
    functions of one `io_event` are called. -/
theorem at_most_one_call_per_function_per_event_entry (P : Params) (L : Loop) (sc : List Answer) (seg : List TEv)
    (hs : seg ∈ (dispatch P L sc).segs) :
    (∀ y f, (callsOf seg).count (y, f) ≤ 1) ∧ ∃ x, ∀ c ∈ callsOf seg, c.1 = x := by
  obtain ⟨e, L', sc', rfl⟩ := dispatchLoop_segs_entry P _ L sc seg hs
  obtain ⟨x, hx⟩ := entry_calls_sublist' P e L' sc'
  exact ⟨fun y f => List.nodup_iff_count.1 (List.Nodup.sublist hx (by simp)) (y, f), x, fst_of_sublist hx⟩

/-- The calls of an array position belong to the `io_event` that was harvested at that position. -/
theorem calls_are_for_the_harvested_event (P : Params) (hn : P.nulling = true) (L : Loop) (sc : List Answer)
    (i x : Nat) (m : Mask) (seg : List TEv) (hi : L.todo[i]? = some ⟨some x, m⟩)
    (hs : (dispatch P L sc).segs[i]? = some seg) : ∀ c ∈ callsOf seg, c.1 = x := by
  rcases dispatchLoop_at P hn _ L sc i x m seg hi hs with ⟨_, h2⟩ | ⟨_, L', sc', h2⟩
  · rw [h2]; simp [callsOf]
  · exact h2 ▸ fst_of_sublist (entry_calls_sublist P ⟨some x, m⟩ L' sc' x rfl)

/-! ### nobody else is disturbed -/

/-- Whatever the callbacks of other array positions do (remove themselves, remove others, add,
    return "removed"): an `io_event` that nobody has removed by the end of its own turn, and whose
    own callbacks return "continue", gets exactly the calls its mask prescribes, at its array
    position (segments are in array order). -/
theorem others_undisturbed (P : Params) (hn : P.nulling = true) (L : Loop) (sc : List Answer)
    (i x : Nat) (m : Mask) (seg : List TEv) (hi : L.todo[i]? = some ⟨some x, m⟩)
    (hs : (dispatch P L sc).segs[i]? = some seg)
    (hnot : TEv.removed x ∉ ((dispatch P L sc).segs.take (i + 1)).flatten)
    (hret : ∀ r, TEv.ret r ∈ seg → r = .cont) :
    callsOf seg = prescribed P x m := by
  have htake : ((dispatch P L sc).segs.take (i + 1)).flatten =
      ((dispatch P L sc).segs.take i).flatten ++ seg := by
    rw [List.take_add_one, hs]; simp
  rw [htake] at hnot
  rcases dispatchLoop_at P hn _ L sc i x m seg hi hs with ⟨h1, _⟩ | ⟨_, L', sc', h2⟩
  · exact absurd (List.mem_append_left _ (mem_removedIn.1 h1)) hnot
  · rcases entry_calls P ⟨some x, m⟩ L' sc' x rfl with h | ⟨_, _, _, ⟨r, hr, hne⟩ | hx⟩
    · rw [h2]; exact h
    · exact absurd (hret r (by rw [h2]; exact mem_retsOf.1 hr)) hne
    · exact absurd (List.mem_append_right _ (by rw [h2]; exact mem_removedIn.1 hx)) hnot

example : ({ todo := [⟨some 1, 1#32⟩, ⟨some 2, 5#32⟩] } : Loop).todo[1]? = some ⟨some 2, 5#32⟩ ∧
    TEv.removed 2 ∉ ((dispatch {} { todo := [⟨some 1, 1#32⟩, ⟨some 2, 5#32⟩] } [⟨.removed, [.remove 1]⟩]).segs.take 2).flatten ∧
    callsOf (((dispatch {} { todo := [⟨some 1, 1#32⟩, ⟨some 2, 5#32⟩] } [⟨.removed, [.remove 1]⟩]).segs)[1]?.getD []) =
      [(2, .read), (2, .write)] := by decide +kernel

/-- Every array position gets its turn unless a callback answered `EL_ABORT_LOOP` before. -/
theorem every_entry_gets_its_turn (P : Params) (L : Loop) (sc : List Answer) :
    (dispatch P L sc).segs.length ≤ L.todo.length ∧
      ((dispatch P L sc).aborted = false → (dispatch P L sc).segs.length = L.todo.length) :=
  dispatchLoop_length P _ L sc rfl

/-! ### abort, EINTR, other errors -/

/-- After a callback has answered `EL_ABORT_LOOP` nothing more happens in the loop: the only event
    that follows is the return of `eventloop_epoll_run`, with `-1`. -/
theorem abort_stops_everything (P : Params) (ws : List Wait) (L : Loop) (sc : List Answer) (pre post : List TEv)
    (h : (run P ws L sc).trace = pre ++ .ret .abort :: post) :
    post = [.runRet (-1)] ∧ (run P ws L sc).rc = -1 := by
  rcases run_abortShape P ws L sc with hno | ⟨p, hp, hn, hrc⟩
  · exact absurd (by rw [mem_retsOf, h]; simp) hno
  · exact ⟨(split_unique (fun hm => hn (mem_retsOf.2 hm)) (by simp) (hp.symm.trans h)).2, hrc⟩

example : TEv.ret .abort ∈ (run {} [.batch [(1, 1#32), (2, 1#32)], .batch [(2, 1#32)]] { reg := [1, 2] }
    [⟨.abort, []⟩]).trace := by decide +kernel

/-- Inside one `dispatch_events`: the abort is the last thing that happens, and the result is `EL_ABORT_LOOP`. -/
theorem abort_stops_dispatch (P : Params) (L : Loop) (sc : List Answer) (pre post : List TEv)
    (h : (dispatch P L sc).trace = pre ++ .ret .abort :: post) :
    post = [] ∧ (dispatch P L sc).aborted = true :=
  abortShape_last (dispatchLoop_abortShape P _ L sc) pre post h

/-- `epoll_wait` failing with `EINTR` is not an error: the loop goes on with the next `epoll_wait`. -/
theorem eintr_continues (P : Params) (ws : List Wait) (L : Loop) (sc : List Answer) (hg : L.goAhead = true) :
    (run P (.eintr :: ws) L sc).trace = .eintr :: (run P ws L sc).trace ∧
    (run P (.eintr :: ws) L sc).rc = (run P ws L sc).rc ∧
    (run P (.eintr :: ws) L sc).loop = (run P ws L sc).loop := by
  simp [run, hg]

example : ({} : Loop).goAhead = true := rfl

/-- `epoll_wait` failing with any other `errno` ends `eventloop_epoll_run` with `-1`; no callback runs,
    the loop state is untouched. -/
theorem wait_error_aborts (P : Params) (ws : List Wait) (L : Loop) (sc : List Answer) (hg : L.goAhead = true) :
    (run P (.err :: ws) L sc).trace = [.waitErr, .runRet (-1)] ∧ (run P (.err :: ws) L sc).rc = -1 ∧
    (run P (.err :: ws) L sc).loop = L := by
  simp [run, hg]

/-- A cleared `go_ahead` ends the loop before the next `epoll_wait`, with 0. -/
theorem go_ahead_cleared_returns_zero (P : Params) (ws : List Wait) (L : Loop) (sc : List Answer)
    (hg : L.goAhead = false) : (run P ws L sc).trace = [.runRet 0] ∧ (run P ws L sc).rc = 0 := by
  cases ws <;> simp [run, hg]

example : ({ goAhead := false } : Loop).goAhead = false := rfl

/-! ### the harvested array does not outlive its batch -/

/-- `handle_events` withdraws the array (`pending_events = NULL`, `num_pending_events = 0`) on every
    path, also when the dispatch was aborted; so does `eventloop_epoll_run` as a whole. -/
theorem pending_cleared_between_batches (P : Params) :
    (∀ b L sc, (handleBatch P b L sc).loop.pending = []) ∧
    (∀ ws L sc, L.pending = [] → (run P ws L sc).loop.pending = []) :=
  ⟨fun _ _ _ => rfl, run_pending P⟩

example : ({ reg := [3] } : Loop).pending = [] := rfl

/-- A remove outside a dispatch (array withdrawn) touches the interest list and `current_ev` only. -/
theorem remove_outside_dispatch_touches_no_array (P : Params) (x : Nat) (L : Loop) (h : L.pending = []) :
    removeEv P x L =
      { L with reg := L.reg.filter (· != x), current := if L.current = some x then none else L.current } := by
  have h' := List.append_eq_nil_iff.1 h
  unfold removeEv
  rw [h'.1, h'.2]
  cases P.nulling <;> simp [nullify]

/-! ### add -/

/-- `eventloop_epoll_add` reports failure exactly when `epoll_ctl` refuses, and then changes nothing. -/
theorem add_failure_changes_nothing (x : Nat) (ok : Bool) (L : Loop) :
    ((addEv x ok L).2 = false → (addEv x ok L).1 = L) ∧
    ((addEv x ok L).2 = true → (addEv x ok L).1 = { L with reg := L.reg ++ [x] } ∧ ok = true ∧ x ∉ L.reg) := by
  unfold addEv
  split
  · rename_i h
    simp only [Bool.and_eq_true, Bool.not_eq_true', List.contains_eq_mem, decide_eq_false_iff_not] at h
    simp [h.1, h.2]
  · simp

end Cjet.Props.Evloop
