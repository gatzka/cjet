/-
  Property C18 — the UTF-8 validator accepts exactly well-formed UTF-8, however the text is presented.

  Model: Cjet/Utf8.lean (utf8_checker.c transcribed; masks from Cjet.Generated.Utf8).
  Spec : `wellFormed` = the ABNF of RFC 3629 §4.
  All theorems are for byte strings / word lists of every length; no bounds.

  Theorems with the hypothesis `c.ok = true` are about checker states that can occur at all:
  `ok_iff_reachable` shows `Checker.ok` is exactly "reachable from `cjet_init_checker` by feeding
  bytes", `entry_points_preserve_ok` that no entry point ever leaves that set (the header says
  "Do not change the values of the attributes").

  F22 (fixed in /repo, commit "fix: utf8 fast paths …"): before the fix `word_path_eq_byte_path`
  was false — `word_path_counterexample_before_fix` keeps the witness against the old predicates.
-/
import Cjet.Lemmas.Utf8Words

namespace Cjet.Utf8
open Cjet.Generated.Utf8

/-! ## The spec is the grammar -/

/-- `wellFormed` says exactly `UTF8-octets = *( UTF8-char )`: the text is a concatenation of byte
    groups each of which is one alternative of UTF8-1 … UTF8-4. -/
theorem wellFormed_iff_chars (bs : List UInt8) :
    wellFormed bs = true ↔
      ∃ chars : List (List UInt8), (∀ ch ∈ chars, isUtf8Char ch = true) ∧ bs = chars.flatten := by
  constructor
  · exact wellFormed_chars bs
  · rintro ⟨chars, h, rfl⟩
    exact wellFormed_flatten chars h

/-- char_lemmas: every grammar alternative (one character, 1–4 bytes) is consumed by the byte
    checker from the initial state and leaves it in the initial state. -/
theorem char_accepted (ch rest : List UInt8) (h : isUtf8Char ch = true) :
    runBytes init (ch ++ rest) = runBytes init rest := by
  have ha : accepts init ch = true := by
    rw [accepts_eq_wellFormed]; simpa using wellFormed_append_char ch [] h rfl
  rw [runBytes_append, runBytes_of_accepts init ok_init ch ha]
  rfl

example : isUtf8Char [0xF0, 0x9F, 0x98, 0x80] = true := by decide +kernel

/-! ## The byte-wise entry point -/

/-- **byte_checker_eq_spec** (complete text): from the initial state `cjet_is_byte_sequence_valid`
    with `is_complete` answers exactly `wellFormed`, and always leaves the initial state. -/
theorem byte_checker_eq_spec (bs : List UInt8) :
    byteSeq init bs true = (wellFormed bs, init) := by
  rw [byteSeq_complete init ok_init, accepts_eq_wellFormed]

/-- The same for `cjet_is_text_valid` (verdict). -/
theorem text_checker_eq_spec (bs : List UInt8) : (textSeq init bs true).1 = wellFormed bs := by
  rw [textSeq_fst]; exact accepts_eq_wellFormed bs

/-- `cjet_is_text_valid` and `cjet_is_byte_sequence_valid` agree on the verdict in every state. -/
theorem text_eq_byte (c : Checker) (bs : List UInt8) (k : Bool) :
    (textSeq c bs k).1 = (byteSeq c bs k).1 :=
  textSeq_fst c bs k

/-- **byte_checker_eq_spec** (fragment, `is_complete = false`): the verdict is "some continuation
    makes this a well-formed text". -/
theorem byte_checker_incomplete_eq_prefix (bs : List UInt8) :
    (byteSeq init bs false).1 = true ↔ ∃ ext, wellFormed (bs ++ ext) = true := by
  rw [byteSeq_false_eq]
  constructor
  · intro h
    refine ⟨completion (runBytes init bs).2, ?_⟩
    rw [← accepts_eq_wellFormed, accepts_eq, runBytes_append, h, if_pos rfl,
      runBytes_completion _ (ok_runBytes init bs ok_init)]
    rfl
  · rintro ⟨ext, h⟩
    rw [← accepts_eq_wellFormed, accepts_eq, runBytes_append] at h
    cases hv : (runBytes init bs).1
    · simp [hv] at h
    · rfl

/-- … and, as a statement about the automaton: an accepted fragment ends at a character boundary
    (`start_byte == UC_FINISH`) exactly when the fragment itself is well-formed. -/
theorem byte_checker_boundary (bs : List UInt8) (c : Checker)
    (h : byteSeq init bs false = (true, c)) : atBoundary c = wellFormed bs := by
  rw [byteSeq_false_eq] at h
  rw [← accepts_eq_wellFormed, accepts_eq, h]
  rfl

example : byteSeq init [0xE2, 0x82] false = (true, ⟨0xE2, 3, 3⟩) := by decide +kernel

/-! ## Splitting across calls -/

/-- **split_irrelevant**: feeding `bs₁` as a fragment and then `bs₂` (caller stops at the first
    `false`, as every caller must) is the same — verdict and checker — as feeding `bs₁ ++ bs₂` in
    one call; for every state, every split point and either value of `is_complete`. -/
theorem split_irrelevant (c : Checker) (bs₁ bs₂ : List UInt8) (k : Bool) :
    (let r₁ := byteSeq c bs₁ false
     if r₁.1 then byteSeq r₁.2 bs₂ k else r₁) = byteSeq c (bs₁ ++ bs₂) k := by
  show (if (byteSeq c bs₁ false).1 then byteSeq (byteSeq c bs₁ false).2 bs₂ k
    else byteSeq c bs₁ false) = _
  rw [byteSeq_false_eq, byteSeq_eq_finish, byteSeq_eq_finish, runBytes_append]
  rcases runBytes c bs₁ with ⟨_ | _, c'⟩ <;> rfl

/-- Feeding a list of fragments (`is_complete = false` for each) and a last piece with
    `is_complete = k`, stopping at the first `false`. -/
def feedChunks (c : Checker) : List (List UInt8) → List UInt8 → Bool → Bool × Checker
  | [], last, k => byteSeq c last k
  | ch :: chunks, last, k =>
    let r := byteSeq c ch false
    if r.1 then feedChunks r.2 chunks last k else r

/-- **split_irrelevant** for any number of split points. -/
theorem chunks_irrelevant (chunks : List (List UInt8)) (last : List UInt8) (k : Bool) :
    ∀ c : Checker, feedChunks c chunks last k = byteSeq c (chunks.flatten ++ last) k := by
  induction chunks with
  | nil => intro c; simp [feedChunks]
  | cons ch chunks ih =>
    intro c
    rw [feedChunks, List.flatten_cons, List.append_assoc, ← split_irrelevant c ch]
    simp only [ih]

/-- Hence any way of cutting a complete text into calls gives the verdict of the spec. -/
theorem chunked_eq_spec (chunks : List (List UInt8)) (last : List UInt8) :
    (feedChunks init chunks last true).1 = wellFormed (chunks.flatten ++ last) := by
  rw [chunks_irrelevant, byte_checker_eq_spec]

/-! ## Reachable checker states -/

theorem ok_iff_reachable (c : Checker) : c.ok = true ↔ Reachable c :=
  ⟨ok_reachable c, reachable_ok c⟩

/-! ## The word fast paths -/

/-- **word_path_eq_byte_path**, 32 bit: for every reachable checker state, every list of words and
    either `is_complete`, `cjet_is_word_sequence_valid` returns the same verdict and leaves the
    same checker as `cjet_is_byte_sequence_valid` on the bytes of those words in the order of the
    inner loop (`(tmp >> 8j) & 0xFF`, j = 0..3). -/
theorem word_path_eq_byte_path (c : Checker) (hc : c.ok = true) (ws : List UInt32) (k : Bool) :
    word32Seq c ws k = byteSeq c (ws.flatMap bytes32) k :=
  word32Seq_eq_byteSeq c hc ws k

example : (Checker.mk 0xE2 3 3).ok = true := by decide +kernel

/-- **word_path_eq_byte_path**, 64 bit. -/
theorem word64_path_eq_byte_path (c : Checker) (hc : c.ok = true) (ws : List UInt64) (k : Bool) :
    word64Seq c ws k = byteSeq c (ws.flatMap bytes64) k :=
  word64Seq_eq_byteSeq c hc ws k

example : (Checker.mk 0xF4 4 2).ok = true := by decide +kernel

/-- The hypothesis `c.ok` cannot be dropped: in a struct that no sequence of calls can produce
    (`next_byte == 1` with a stale `start_byte`) the fast path skips an ASCII word and leaves the
    struct untouched, while the byte loop normalises it.  The verdict is the same. -/
theorem word_path_unreachable_state_differs :
    (Checker.mk 0x41 3 1).ok = false ∧
    word32Seq ⟨0x41, 3, 1⟩ [0x41414141] false = (true, ⟨0x41, 3, 1⟩) ∧
    byteSeq ⟨0x41, 3, 1⟩ (bytes32 0x41414141) false = (true, init) := by
  decide +kernel

/-- Hence the word entry points decide the spec on complete texts. -/
theorem word_paths_eq_spec (ws32 : List UInt32) (ws64 : List UInt64) :
    word32Seq init ws32 true = (wellFormed (ws32.flatMap bytes32), init) ∧
    word64Seq init ws64 true = (wellFormed (ws64.flatMap bytes64), init) := by
  rw [word_path_eq_byte_path init ok_init, word64_path_eq_byte_path init ok_init,
    byte_checker_eq_spec, byte_checker_eq_spec]
  exact ⟨rfl, rfl⟩

/-- F22: with the fast-path predicates as they were before the fix the theorem above is false —
    `C0 80 C2 80` (an overlong NUL followed by U+0080) is ill-formed and rejected byte-wise, but
    accepted as one 32-bit word, as half of a 64-bit word, and through the auto-aligned front end. -/
theorem word_path_counterexample_before_fix :
    wellFormed [0xC0, 0x80, 0xC2, 0x80] = false ∧
    byteSeq init (bytes32 0x80C280C0) true = (false, init) ∧
    bytes32 0x80C280C0 = [0xC0, 0x80, 0xC2, 0x80] ∧
    word32SeqOld init [0x80C280C0] true = (true, init) ∧
    word32Seq init [0x80C280C0] true = (false, init) ∧
    word64SeqOld init [0x80C280C280C280C0] true = (true, init) ∧
    word64Seq init [0x80C280C280C280C0] true = (false, init) ∧
    (autoAlignedOld 0 init
      [0xC2, 0x80, 0xC2, 0x80, 0xC2, 0x80, 0xC2, 0x80,
       0xC0, 0x80, 0xC2, 0x80, 0xC2, 0x80, 0xC2, 0x80] true).1 = true := by
  decide +kernel

/-! ## The auto-aligned front end -/

/-- **auto_aligned_eq**: for every platform word width (`sizeof(uint_fast16_t)`; 8 and 4 select
    the word paths, anything else the byte path), every address (hence every alignment 0..7),
    every reachable checker state, every byte string and either `is_complete`:
    the verdict is that of `cjet_is_byte_sequence_valid` on the same bytes, and whenever the
    verdict is `true` or `is_complete` is set the checker afterwards is the same too.
    (After a *rejected fragment* the C code goes on to feed the remaining parts, so the checker may
    then differ from the byte-wise one — `auto_aligned_state_after_rejected_fragment`.) -/
theorem auto_aligned_eq (width addr : Nat) (c : Checker) (hc : c.ok = true) (bs : List UInt8)
    (k : Bool) :
    (autoAligned width addr c bs k).1 = (byteSeq c bs k).1 ∧
    ((k = true ∨ (autoAligned width addr c bs k).1 = true) →
      autoAligned width addr c bs k = byteSeq c bs k) :=
  autoAligned_spec width addr c hc bs k

example : init.ok = true := by decide +kernel

/-- On complete texts the auto-aligned entry point decides the spec, at every alignment. -/
theorem auto_aligned_eq_spec (width addr : Nat) (bs : List UInt8) :
    autoAligned width addr init bs true = (wellFormed bs, init) := by
  rw [(auto_aligned_eq width addr init ok_init bs true).2 (Or.inl rfl), byte_checker_eq_spec]

/-- The one observable difference: a fragment rejected in its first part still has its later
    parts fed, so the checker can be left inside a character (verdict `false` either way). -/
theorem auto_aligned_state_after_rejected_fragment :
    autoAligned 8 1 init [0xFF, 0x41, 0x41, 0x41, 0x41, 0x41, 0x41, 0xC2] false
      = (false, ⟨0xC2, 2, 2⟩) ∧
    byteSeq init [0xFF, 0x41, 0x41, 0x41, 0x41, 0x41, 0x41, 0xC2] false = (false, init) := by
  decide +kernel

/-! ## The invariant is kept by every entry point -/

theorem entry_points_preserve_ok (c : Checker) (hc : c.ok = true) (bs : List UInt8)
    (ws32 : List UInt32) (ws64 : List UInt64) (width addr : Nat) (k : Bool) :
    (byteSeq c bs k).2.ok = true ∧ (textSeq c bs k).2.ok = true ∧
    (word32Seq c ws32 k).2.ok = true ∧ (word64Seq c ws64 k).2.ok = true ∧
    (autoAligned width addr c bs k).2.ok = true :=
  ⟨ok_byteSeq c bs k hc, ok_textSeq c bs k hc, ok_word32Seq c hc ws32 k, ok_word64Seq c hc ws64 k,
    ok_autoAligned width addr c hc bs k⟩

example : (Checker.mk 0xED 3 2).ok = true := by decide +kernel

end Cjet.Utf8
