import Cjet.Lemmas.BufreadFraming
/-!
# C09 — behaviour depends on each connection's byte stream, not on its segmentation

Model: `Cjet.Bufread` (the read side of `buffered_socket.c` + the clients `socket_peer.c`,
`http_connection.c`, `websocket.c`).  A connection's input is a list of readiness events, each a list of
kernel answers to the successive `socket_read` calls of that `go_reading` invocation (`chunk b` of any
positive size — a chunk larger than the size asked for is handed over in pieces — would-block, end of
stream, error; an exhausted list answers would-block).  `bytes evs` / `terminal evs` are the byte stream
and the way it ends; `Spec.run` is defined on those alone.

Every theorem quantifies over the client (where it is not about one framing), the buffer size `cap`, the
initial buffer contents `fill`, and ALL event lists.  The hypothesis `evs ≠ []` says that the first reader
was armed (arming it is what runs `go_reading` the first time).
-/
namespace Cjet.Props.C09
open Cjet Cjet.Bufread

/-- The deliveries (with the client state they were made in) and the way the connection ends are those the
    byte stream prescribes — whatever the chunking, the event grouping and the old buffer contents. -/
theorem deliveries_eq_spec {σ : Type} (c : Client σ) (cap : Nat) (fill : UInt8) (s0 : σ)
    (evs : List (List KRes)) (h : evs ≠ []) :
    observable (runEvents c cap (Reader.init cap fill) s0 evs) = Spec.run c cap s0 (bytes evs) (terminal evs) :=
  ((runEvents_spec (Inv.init cap fill)).spec fun e => absurd e h).1.symm

example : ([[KRes.chunk [0, 0], .chunk [0, 1]], [.chunk [65], .eof]] : List (List KRes)) ≠ [] := by simp

/-- The same from any reader state that satisfies the representation invariant and is drained (or gets at
    least one event): the unread bytes count as the front of the stream. -/
theorem deliveries_eq_spec_from {σ : Type} (c : Client σ) (cap : Nat) (rd : Reader) (s : σ)
    (evs : List (List KRes)) (hi : Inv cap rd) (hd : evs = [] → Drained c cap rd s) :
    observable (runEvents c cap rd s evs) = Spec.run c cap s (rd.unread ++ bytes evs) (terminal evs) :=
  ((runEvents_spec hi).spec hd).1.symm

example : Inv 8 ⟨[1, 2, 3, 4, 5, 6, 7, 8], 2, 5⟩ ∧
    (([[KRes.wouldBlock]] : List (List KRes)) = [] → Drained (rawPeer fun _ => true) 8 ⟨[1, 2, 3, 4, 5, 6, 7, 8], 2, 5⟩ .len) :=
  ⟨⟨by decide, by decide, by decide⟩, fun h => by simp at h⟩

/-- Two runs over the same bytes with the same terminal event are indistinguishable: chunk sizes, would-block
    positions, event boundaries and initial buffer contents do not matter. -/
theorem chunking_irrelevant {σ : Type} (c : Client σ) (cap : Nat) (fill₁ fill₂ : UInt8) (s0 : σ)
    (evs₁ evs₂ : List (List KRes)) (h₁ : evs₁ ≠ []) (h₂ : evs₂ ≠ [])
    (hb : bytes evs₁ = bytes evs₂) (ht : terminal evs₁ = terminal evs₂) :
    observable (runEvents c cap (Reader.init cap fill₁) s0 evs₁) =
      observable (runEvents c cap (Reader.init cap fill₂) s0 evs₂) := by
  rw [deliveries_eq_spec c cap fill₁ s0 evs₁ h₁, deliveries_eq_spec c cap fill₂ s0 evs₂ h₂, hb, ht]

example : bytes [[.chunk [0, 0], .chunk [0, 1]], [.wouldBlock, .chunk [9]], [.chunk [65], .eof], [.chunk [7]]] =
      bytes [[.chunk [0, 0, 0, 1, 65], .eof]] ∧
    terminal [[.chunk [0, 0], .chunk [0, 1]], [.wouldBlock, .chunk [9]], [.chunk [65], .eof], [.chunk [7]]] =
      terminal [[.chunk [0, 0, 0, 1, 65], .eof]] := by decide +kernel

/-- Promptness: whenever a run is still open (the last `go_reading` came back with would-block), the buffer
    holds no complete message/line and no request that could already be refused: on the unread bytes alone the
    specification delivers nothing and waits. -/
theorem prompt {σ : Type} (c : Client σ) (cap : Nat) (fill : UInt8) (s0 : σ) (evs : List (List KRes))
    (h : evs ≠ []) (hopen : (runEvents c cap (Reader.init cap fill) s0 evs).out = .wouldBlock) :
    Spec.run c cap (runEvents c cap (Reader.init cap fill) s0 evs).s
      (runEvents c cap (Reader.init cap fill) s0 evs).rd.unread .none = ([], .wouldBlock) := by
  rw [Spec.run_needMore (((runEvents_spec (Inv.init cap fill)).spec fun e => absurd e h).2 hopen)]
  rfl

/-- Pointer discipline in every intermediate state: `r ≤ w ≤ cap`; every `socket_read` asks for exactly the
    free space behind `write_ptr`, which is positive, and gets between 1 and that many bytes; every delivered
    slice is non-empty and lies in `[r, w)`; the final state satisfies the invariant too. -/
theorem ptrs_in_bounds {σ : Type} (c : Client σ) (cap : Nat) (fill : UInt8) (s0 : σ) (evs : List (List KRes)) :
    Inv cap (runEvents c cap (Reader.init cap fill) s0 evs).rd ∧
    ∀ o ∈ (runEvents c cap (Reader.init cap fill) s0 evs).obs, Obs.ok cap o :=
  ⟨(runEvents_spec (Inv.init cap fill)).inv, (runEvents_spec (Inv.init cap fill)).ok⟩

/-- The raw-socket framing: the messages handed to the parser and the end of the connection are exactly
    `Raw.frames` of the byte stream: 4-byte big-endian length, zero skipped, `length > cap` closes (error
    path), message = exactly the next `length` bytes, a refused message closes. -/
theorem raw_framing_spec (ok : Bytes → Bool) (cap : Nat) (fill : UInt8) (evs : List (List KRes))
    (hcap : 4 ≤ cap) (h : evs ≠ []) :
    (rawMessages (deliveries (runEvents (rawPeer ok) cap (Reader.init cap fill) .len evs).obs),
      (runEvents (rawPeer ok) cap (Reader.init cap fill) .len evs).out) =
    Raw.frames cap ok (bytes evs) (terminal evs) := by
  have h1 := deliveries_eq_spec (rawPeer ok) cap fill .len evs h
  have h2 := raw_spec_frames (ok := ok) hcap (bytes evs) (terminal evs)
  rw [← h2, ← h1]
  rfl

example : 4 ≤ 8 ∧ ([[KRes.chunk [0, 0, 0, 1, 65]]] : List (List KRes)) ≠ [] := by decide

/-- … in particular for the buffer size the daemon is configured with. -/
theorem raw_framing_spec_cfg (ok : Bytes → Bool) (fill : UInt8) (evs : List (List KRes)) (h : evs ≠ []) :
    (rawMessages (deliveries (runEvents (rawPeer ok) Generated.cfgMaxMessageSize
        (Reader.init Generated.cfgMaxMessageSize fill) .len evs).obs),
      (runEvents (rawPeer ok) Generated.cfgMaxMessageSize
        (Reader.init Generated.cfgMaxMessageSize fill) .len evs).out) =
    Raw.frames Generated.cfgMaxMessageSize ok (bytes evs) (terminal evs) :=
  raw_framing_spec ok _ fill evs (by decide) h

example : ([[KRes.chunk [0, 0, 0, 1, 65]], [.eof]] : List (List KRes)) ≠ [] := by simp

/-- A zero length header is skipped. -/
theorem raw_zero_skipped (ok : Bytes → Bool) (cap : Nat) (post : Bytes) (t : Terminal) :
    Raw.frames cap ok (be32 0 ++ post) t = Raw.frames cap ok post t :=
  Raw.frames_zero post t

/-- A length above the configured maximum ends the connection, nothing is delivered (`n > cap`, strictly:
    `n = cap` is a legal message, see `raw_message_exact`). -/
theorem raw_too_long_closes (ok : Bytes → Bool) (cap n : Nat) (hn : cap < n) (h32 : n < 4294967296)
    (post : Bytes) (t : Terminal) : Raw.frames cap ok (be32 n ++ post) t = ([], .tooMuch) :=
  Raw.frames_tooLong hn h32 post t

example : (8 : Nat) < 9 ∧ (9 : Nat) < 4294967296 := by decide

/-- A non-empty message of at most `cap` bytes is delivered as exactly its own bytes, whatever follows. -/
theorem raw_message_exact (ok : Bytes → Bool) (cap : Nat) (m : Bytes) (hm : m ≠ []) (hc : m.length ≤ cap)
    (h32 : m.length < 4294967296) (post : Bytes) (t : Terminal) :
    Raw.frames cap ok (be32 m.length ++ m ++ post) t =
      if ok m then (m :: (Raw.frames cap ok post t).1, (Raw.frames cap ok post t).2)
      else ([m], .clientClosed) :=
  Raw.frames_frame hm hc h32 post t

example : ([1, 2, 3, 4, 5, 6, 7, 8] : Bytes) ≠ [] ∧ ([1, 2, 3, 4, 5, 6, 7, 8] : Bytes).length ≤ 8 ∧
    ([1, 2, 3, 4, 5, 6, 7, 8] : Bytes).length < 4294967296 := by decide

/-- Each length-prefixed message is interpreted from exactly its own bytes: after any whole frames `pre`
    (carrying messages `ms`), the next message handed to the parser is `m` itself — for every initial buffer
    content `fill`, every `pre`, every `post` and every chunking `evs` of the stream; and what follows depends
    on `post` alone. -/
theorem own_bytes_only (ok : Bytes → Bool) (cap : Nat) (fill : UInt8) (evs : List (List KRes))
    (pre : Bytes) (ms : List Bytes) (m post : Bytes)
    (hcap : 4 ≤ cap) (h : evs ≠ []) (hpre : Raw.Whole cap ok pre ms)
    (hm : m ≠ []) (hc : m.length ≤ cap) (h32 : m.length < 4294967296)
    (hb : bytes evs = pre ++ (be32 m.length ++ m ++ post)) :
    rawMessages (deliveries (runEvents (rawPeer ok) cap (Reader.init cap fill) .len evs).obs) =
      ms ++ m :: (if ok m then (Raw.frames cap ok post (terminal evs)).1 else []) := by
  have h1 := raw_framing_spec ok cap fill evs hcap h
  rw [hb, Raw.frames_whole hpre, Raw.frames_frame hm hc h32] at h1
  have h2 := congrArg Prod.fst h1
  simp only at h2
  rw [h2]
  split <;> rfl

example : 4 ≤ 8 ∧
    ([[KRes.chunk [0, 0, 0, 1, 7, 0, 0], .chunk [0, 2, 65], .wouldBlock], [.chunk [66, 0, 0]]] : List (List KRes)) ≠ [] ∧
    Raw.Whole 8 (fun _ => true) (be32 1 ++ [7] ++ []) [[7]] ∧
    ([65, 66] : Bytes) ≠ [] ∧ ([65, 66] : Bytes).length ≤ 8 ∧ ([65, 66] : Bytes).length < 4294967296 ∧
    bytes [[KRes.chunk [0, 0, 0, 1, 7, 0, 0], .chunk [0, 2, 65], .wouldBlock], [.chunk [66, 0, 0]]] =
      (be32 1 ++ [7] ++ []) ++ (be32 ([65, 66] : Bytes).length ++ [65, 66] ++ [0, 0]) :=
  ⟨by decide, by simp,
   Raw.Whole.frame [7] (by simp) (by decide) (by decide) rfl Raw.Whole.nil,
   by simp, by decide, by decide, by decide⟩

/-- `read_until` searches like `memmem`: the offset found is an occurrence of the delimiter inside the
    haystack and there is none before it … -/
theorem until_first_delimiter (d h : Bytes) (i : Nat) (hf : findSub d h = some i) :
    d <+: h.drop i ∧ i + d.length ≤ h.length ∧ ∀ j, j < i → ¬ d <+: h.drop j :=
  findSub_eq_some_iff.mp hf

example : findSub [13, 10] [97, 13, 13, 10, 98, 13, 10] = some 2 := by decide +kernel

/-- … and "not found" means the delimiter occurs nowhere in the haystack. -/
theorem until_no_delimiter (d h : Bytes) (hf : findSub d h = none) :
    ∀ j, j ≤ h.length → ¬ d <+: h.drop j := by
  have := findSub_spec d h
  rwa [hf] at this

example : findSub [13, 10] [97, 13, 13, 98, 10, 13] = none := by decide +kernel

/-- Line reading (`read_until(delim)`, the callback does not re-arm): the lines delivered and the end of the
    connection are `Lines.split` of the byte stream: a line is everything up to and including the first
    delimiter occurrence. -/
theorem line_spec (d : Bytes) (ok : Bytes → Bool) (cap : Nat) (fill : UInt8) (evs : List (List KRes))
    (h : evs ≠ []) :
    ((deliveries (runEvents (lineClient d ok) cap (Reader.init cap fill) () evs).obs).map (·.2),
      (runEvents (lineClient d ok) cap (Reader.init cap fill) () evs).out) =
    Lines.split cap d ok (bytes evs) (terminal evs) := by
  have h1 := deliveries_eq_spec (lineClient d ok) cap fill () evs h
  rw [← line_spec_split, ← h1]
  rfl

example : ([[KRes.chunk [97, 13], .chunk [10, 98]], [.chunk [13, 10]]] : List (List KRes)) ≠ [] := by simp

/-- A full buffer (`cap` bytes) without delimiter is the error outcome, and nothing is delivered. -/
theorem line_full_buffer_errors (d : Bytes) (ok : Bytes → Bool) (cap : Nat) (str : Bytes) (t : Terminal)
    (hf : findSub d (str.take cap) = none) (hfull : cap ≤ str.length) :
    Lines.split cap d ok str t = ([], .tooMuch) := by
  rw [Lines.split]
  split
  · rename_i i hi; rw [hf] at hi; cases hi
  · rw [if_pos hfull]

example : findSub [13, 10] (([97, 98, 99, 13, 10] : Bytes).take 4) = none ∧ 4 ≤ ([97, 98, 99, 13, 10] : Bytes).length := by
  decide +kernel

end Cjet.Props.C09
