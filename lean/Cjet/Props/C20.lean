import Cjet.Lemmas.Authfile
import Cjet.Props.CjsonTree
/-!
# C20 — password changes are authorised, effective and crash-atomic on disk

Theorems about the model `Cjet.Authfile` of `src/posix/auth_file.c` / `src/authenticate.c`.

* `change_authorised`, `refusal_order`, `step_changes_authorised`, `named_peer_was_authenticated`
  — who can change what, over all databases, callers, targets, histories;
* `new_authenticates_old_does_not`, `other_users_untouched` — effect of a change, for every
  `crypt` satisfying `CryptOk`;
* `salt_fits_buffer` — the re-derived `crypt` setting fits `char salt[22]` for every stored hash
  and every random input (over the regenerated method table);
* crash atomicity: the full statement is FALSE for the code as it is (F24: the file is truncated
  first and written afterwards).  `update_counterexample` (concrete, by `decide`) and
  `truncate_window_unloadable` (every update passes through an unloadable empty file) show it;
  `update_crash_atomic_partial` proves the statement for every crash point outside that window;
  `legacy_short_write_counterexample` records the corrected write-loop defect (F24b).
-/

namespace Cjet.Props.C20

open Cjet Cjet.Authfile

/-! ## Concrete objects used by the non-vacuity examples and the counterexamples -/

def exUser (n : UInt8) (ro adm : Bool) : User := ⟨[n], .str [n, 1], ro, adm, some [123, 125]⟩
/-- `a` plain, `b` admin, `c` read-only -/
def exDb : Db := [exUser 97 false false, exUser 98 false true, exUser 99 true false]
/-- a `crypt` that satisfies `CryptOk`: first byte of the setting, then the password -/
def exCrypt : Crypt := fun p s => some (s.headD 0 :: p)
def exDb' : Db := replacePassword exDb [97] [36, 120]
/-- serialisations `[1,1]` (old) and `[2,2]` (new) -/
def exCodec : Codec :=
  { ser := fun d => if d = exDb' then [2, 2] else [1, 1]
    parse := fun b => if b = [2, 2] then some exDb' else if b = [1, 1] then some exDb else none }
def exFs : Fs := ⟨[1, 1], 0⟩

/-! ## Authorisation -/

/-- A `passwd` request touches the in-memory database or the file (makes any file-system call)
    ONLY IF the caller is authenticated, the target exists and is not read-only, and the caller is
    the target or an admin; otherwise nothing changes and an error is returned. -/
theorem change_authorised (crypt : Crypt) (c : Codec) (db : Db) (fs : Fs) (caller : Option Bytes)
    (target newpw rnd : Bytes) (outs : List Outcome) :
    let r := changePassword crypt c db fs caller target newpw rnd outs
    (¬ Authorised db caller target → r.db = db ∧ r.trace = [] ∧ r.fs = fs ∧ r.err.isSome = true) ∧
    ((r.db ≠ db ∨ r.trace ≠ [] ∨ r.fs ≠ fs ∨ r.err = none) → Authorised db caller target) := by
  intro r
  rcases changePassword_cases (r := r) rfl with ⟨h1, h2, h3, e, he, _⟩ | ⟨u, stored, _, _, hp, _⟩
  · refine ⟨fun _ => ⟨h1, h2, h3, by rw [he]; rfl⟩, fun hch => ?_⟩
    rcases hch with h | h | h | h
    · exact absurd h1 h
    · exact absurd h2 h
    · exact absurd h3 h
    · rw [he] at h; cases h
  · have ha := (precheck_ok hp).1
    exact ⟨fun hna => absurd ha hna, fun _ => ha⟩

/-- The refusals come in the order of the code: unauthenticated caller, unknown target,
    then "not allowed" (read-only target, or a foreign account without admin). -/
theorem refusal_order (crypt : Crypt) (c : Codec) (db : Db) (fs : Fs) (caller : Option Bytes)
    (target newpw rnd : Bytes) (outs : List Outcome) :
    let r := changePassword crypt c db fs caller target newpw rnd outs
    (caller = none → r.err = some .notAuthenticated) ∧
    (caller ≠ none → lookup db target = none → r.err = some .userNotInDb) ∧
    (∀ cn u, caller = some cn → lookup db target = some u →
      (u.readonly = true ∨ (cn ≠ target ∧ isAdmin db cn = false)) → r.err = some .notAllowed) := by
  intro r
  refine ⟨fun hc => ?_, fun hc hl => ?_, fun cn u hc hl hcond => ?_⟩
  · subst hc
    have hp : precheck db none target = .error .notAuthenticated := rfl
    exact congrArg (·.err) (changePassword_of_error hp)
  · cases caller with
    | none => exact absurd rfl hc
    | some cn =>
      have hp : precheck db (some cn) target = .error .userNotInDb := by rw [precheck, hl]
      exact congrArg (·.err) (changePassword_of_error hp)
  · subst hc
    have : (!u.readonly && (cn == target || isAdmin db cn)) = false := by
      rcases hcond with h | ⟨h1, h2⟩
      · simp [h]
      · simp [h1, h2]
    have hp : precheck db (some cn) target = .error .notAllowed := by rw [precheck, hl]; exact if_neg (this ▸ Bool.false_ne_true)
    exact congrArg (·.err) (changePassword_of_error hp)

example : Authorised exDb (some [98]) [97] := by decide +kernel
example : ¬ Authorised exDb (some [97]) [98] := by decide +kernel
example : ¬ Authorised exDb (some [98]) [99] := by decide +kernel
example : (changePassword exCrypt exCodec exDb exFs (some [97]) [98] [120] [] []).err = some .notAllowed := by decide +kernel
example : (changePassword exCrypt exCodec exDb exFs (some [97]) [97] [120] [] []).err = none := by decide +kernel

/-! ## Effect of a change -/

/-- The two stated assumptions about `crypt`.  libcrypt answers an unusable setting with a
    "failure token" (`*0`/`*1`, never equal to its setting) instead of NULL; `failure` recognises
    those results and both assumptions are about proper hashes only. -/
structure CryptOk (crypt : Crypt) (failure : Bytes → Bool) : Prop where
  /-- `crypt` verifies its own output: hashing the same password with the produced hash as
      setting reproduces the hash -/
  verifies : ∀ p s h, crypt p s = some h → failure h = false → crypt p h = some h
  /-- distinct passwords give distinct hashes under the same setting -/
  distinct : ∀ p q s h, crypt p s = some h → crypt q s = some h → failure h = false → p = q

example : CryptOk exCrypt (fun _ => false) :=
  ⟨by intro p s h hh _; simp [exCrypt] at hh ⊢; subst hh; simp,
   by intro p q s h h1 h2 _; simp [exCrypt] at h1 h2; rw [← h2] at h1; exact (List.cons.inj h1).2⟩

/-- Whenever the request stored a new hash (success response, or the late "could not write
    password file" error — the in-memory database is already changed then): the new password
    authenticates as the target (the result is the target's `auth` object) and NO other password
    does — in particular not the old one.  (Hypothesis `hnf`: libcrypt supports the method the
    setting was derived for, i.e. the hash that was stored is not a failure token.) -/
theorem new_authenticates_old_does_not (crypt : Crypt) (failure : Bytes → Bool) (hc : CryptOk crypt failure)
    (c : Codec) (db : Db) (fs : Fs)
    (caller : Option Bytes) (target newpw rnd : Bytes) (outs : List Outcome) :
    let r := changePassword crypt c db fs caller target newpw rnd outs
    (r.err = none ∨ r.err = some .writeFailed) →
    (∀ setting e, r.hashed = some (setting, some e) → failure e = false) →
    ∃ u, lookup db target = some u ∧
      credentialsOk crypt r.db target newpw = u.auth ∧
      ∀ q, q ≠ newpw → credentialsOk crypt r.db target q = none := by
  intro r hr hnf
  rcases changePassword_cases (r := r) rfl with ⟨_, _, _, e, he, hne⟩ | ⟨u, stored, setting, e, hp, hcr, hh, hdb, _⟩
  · rw [he] at hr
    rcases hr with h | h
    · cases h
    · exact absurd (Option.some.inj h) hne
  · have hne := hnf setting e hh
    have hl := (precheck_ok hp).2.1
    have hcred : ∀ q, credentialsOk crypt r.db target q =
        match crypt q e with
        | none => none
        | some e' => if e' = e then u.auth else none := fun q => by
      rw [hdb, credentialsOk, lookup_replacePassword, if_pos (caseEq_refl _), hl]
      rfl
    have hself := hc.verifies newpw setting e hcr hne
    refine ⟨u, hl, ?_, fun q hq => ?_⟩
    · rw [hcred, hself]
      exact if_pos rfl
    · rw [hcred]
      cases hq2 : crypt q e with
      | none => rfl
      | some e' => exact if_neg fun (he' : e' = e) => hq (hc.distinct q newpw e e (he' ▸ hq2) hself hne)

example : (changePassword exCrypt exCodec exDb exFs (some [97]) [97] [120] [] []).err = none ∧
    ∀ setting e, (changePassword exCrypt exCodec exDb exFs (some [97]) [97] [120] [] []).hashed = some (setting, some e) →
      (fun _ => false) e = false := ⟨by decide, fun _ _ _ => rfl⟩
example : credentialsOk exCrypt (changePassword exCrypt exCodec exDb exFs (some [97]) [97] [120] [] []).db [97] [120]
    = some [123, 125] := by decide +kernel

/-- Nobody else is affected: every other name resolves to the same entry and authenticates exactly
    as before; and the list of entries keeps its order, names, flags and group data (only a
    `password` member differs). -/
theorem other_users_untouched (crypt : Crypt) (c : Codec) (db : Db) (fs : Fs)
    (caller : Option Bytes) (target newpw rnd : Bytes) (outs : List Outcome) :
    let r := changePassword crypt c db fs caller target newpw rnd outs
    (∀ name, caseEq name target = false →
      lookup r.db name = lookup db name ∧ ∀ pw, credentialsOk crypt r.db name pw = credentialsOk crypt db name pw) ∧
    r.db.map erasePw = db.map erasePw ∧
    (∀ name, isAdmin r.db name = isAdmin db name) := by
  intro r
  rcases changePassword_cases (r := r) rfl with ⟨h, _⟩ | ⟨_, _, _, e, _, _, _, h, _⟩
  · rw [h]
    exact ⟨fun _ _ => ⟨rfl, fun _ => rfl⟩, rfl, fun _ => rfl⟩
  · rw [h]
    refine ⟨fun name hn => ?_, replacePassword_erase db target e, isAdmin_replacePassword db target e⟩
    have hl : lookup (replacePassword db target e) name = lookup db name := by rw [lookup_replacePassword, hn]; rfl
    exact ⟨hl, fun pw => by rw [credentialsOk, credentialsOk, hl]⟩

/-! ## Histories: all sequences of authenticate / passwd requests over any number of peers -/

/-- In every state, a step changes the database or the file only if it is a `passwd` request
    whose peer carries a user name for which the change is authorised. -/
theorem step_changes_authorised (crypt : Crypt) (c : Codec) (st : State) (op : Op) :
    ((step crypt c st op).db ≠ st.db ∨ (step crypt c st op).fs ≠ st.fs) →
    ∃ i target newpw rnd outs, op = .passwd i target newpw rnd outs ∧ Authorised st.db (st.names i) target := by
  intro h
  cases op with
  | fresh i | auth i user pw => exact h.elim (absurd rfl) (absurd rfl)
  | passwd i target newpw rnd outs =>
    refine ⟨i, target, newpw, rnd, outs, rfl, ?_⟩
    exact (change_authorised crypt c st.db st.fs (st.names i) target newpw rnd outs).2
      (h.elim .inl fun h => .inr (.inr (.inl h)))

/-- Along every history that starts with unnamed peers: a peer carries user name `n` only if an
    earlier `authenticate` request of that very peer for `n` was accepted by `credentials_ok`
    against the database of that moment. -/
theorem named_peer_was_authenticated (crypt : Crypt) (c : Codec) (st0 : State)
    (h0 : ∀ i, st0.names i = none) (ops : List Op) (i : Nat) (n : Bytes) :
    (run crypt c st0 ops).names i = some n →
    ∃ pre pw post, ops = pre ++ Op.auth i n pw :: post ∧
      (credentialsOk crypt (run crypt c st0 pre).db n pw).isSome = true := by
  intro h
  rcases run_names_some crypt c ops st0 i n h with h1 | h2
  · rw [h0 i] at h1; cases h1
  · exact h2

example : (run exCrypt exCodec ⟨exDb, exFs, fun _ => none⟩ [.auth 0 [97] [1], .passwd 0 [97] [120] [] []]).names 0
    = some [97] := by decide +kernel

/-! ## Salt re-derivation stays inside `char salt[22]` -/

/-- For every stored hash and every random input, the setting handed to `crypt` plus its NUL fits
    the `salt` buffer of `change_password` (both sizes come from the source). -/
theorem salt_fits_buffer (stored rnd s : Bytes) (h : deriveSetting stored rnd = some s) :
    s.length + 1 ≤ Generated.Authfile.saltBufSize := by
  have htab : ∀ m ∈ Generated.Authfile.methods, m.1.length + max m.2.1 m.2.2 + 2 ≤ Generated.Authfile.saltBufSize := by
    decide
  obtain ⟨m, hm, hs⟩ := deriveSettingWith_length h
  exact Nat.le_trans (Nat.succ_le_succ hs) (htab m hm)

example : deriveSetting [36, 54, 36, 97, 36, 98] [0, 0, 0, 0, 1, 2, 3, 4, 5, 6, 7, 8]
    = some [36, 54, 36, 98, 99, 100, 101, 102, 103, 104, 105, 36] := by decide +kernel

/-! ## Crash atomicity of the file update -/

def truncFailed (trace : List Step) : Bool :=
  match trace.head? with
  | some ⟨.ftruncate _, .err, _⟩ => true
  | _ => false

def seekFailed (trace : List Step) : Bool :=
  trace.any fun s => match s with
    | ⟨.lseek _, .err, _⟩ => true
    | _ => false

/-- Crash points OUTSIDE the window of F24 — decidable on a call trace, it is the complement of the
    trigger recorded in `known_findings.json` ("crash or write error between ftruncate and the
    completion of the last write"; an `lseek` that fails counts as inside):
    before the first call; anywhere when `ftruncate` itself failed; after the last call of a run
    that reported success with a successful `lseek`. -/
def OutsideWindow (trace : List Step) (ok : Bool) : CrashPoint → Bool
  | .between 0 => true
  | .between i => truncFailed trace || (ok && !seekFailed trace && decide (trace.length ≤ i))
  | .inside _ _ => truncFailed trace

/-
  FULL STATEMENT (does not hold for the code as it is — F24, see `update_counterexample`):

  theorem update_crash_atomic (c : Codec) (db db' : Db) (old : Bytes) (fs0 : Fs) (outs : List Outcome)
      (cp : CrashPoint) (hOld : c.parse old = some db) (hNew : c.Sound db') (h0 : fs0.data = old) :
      let disk := diskAt fs0 (writeUserData fs0 (c.ser db') outs).1 cp
      c.loadable disk = true ∧ (disk = old ∨ disk = c.ser db')
-/

/-- For every outcome sequence and every crash point outside the window: the file is loadable and
    holds the old or the new serialisation. -/
theorem update_crash_atomic_partial (c : Codec) (db db' : Db) (old : Bytes) (fs0 : Fs) (outs : List Outcome)
    (cp : CrashPoint) (hOld : c.parse old = some db) (hNew : c.Sound db') (h0 : fs0.data = old)
    (hout : OutsideWindow (writeUserData fs0 (c.ser db') outs).1 (writeUserData fs0 (c.ser db') outs).2 cp = true) :
    let disk := diskAt fs0 (writeUserData fs0 (c.ser db') outs).1 cp
    c.loadable disk = true ∧ (disk = old ∨ disk = c.ser db') := by
  intro disk
  suffices h : disk = old ∨ disk = c.ser db' by
    refine ⟨?_, h⟩
    rcases h with h | h
    · rw [h, Codec.loadable, hOld]; rfl
    · rw [h, Codec.loadable, hNew.roundtrip]; rfl
  show diskAt fs0 (writeUserData fs0 (c.ser db') outs).1 cp = old ∨
    diskAt fs0 (writeUserData fs0 (c.ser db') outs).1 cp = c.ser db'
  by_cases htr : outs.headD .ok = .err
  · -- ftruncate failed: a single call, nothing changed
    left
    rw [writeUserData_of_trunc_err htr]
    cases cp with
    | between i => rcases i with _ | _ | i <;> exact h0
    | inside i j => rcases i with _ | _ | i <;> exact h0
  · -- ftruncate succeeded: only the point before it and, after a successful `lseek` and write loop, the
    -- points after the last call are outside the window
    rw [writeUserData_of_trunc_ok htr] at hout ⊢
    cases cp with
    | inside i j => split at hout <;> cases hout
    | between i =>
      cases i with
      | zero => exact .inl h0
      | succ i =>
        right
        by_cases hs : (outs.drop 1).headD .ok = .err
        · rw [if_pos hs] at hout
          simp [OutsideWindow, truncFailed, seekFailed] at hout
        · rw [if_neg hs] at hout ⊢
          simp only [OutsideWindow, truncFailed, List.head?_cons, Bool.false_or, Bool.and_eq_true,
            decide_eq_true_eq] at hout
          rw [diskAt, fsAfter_beyond _ _ _ hout.2, lastFs_cons, lastFs_cons,
            (writeLoop_spec ⟨[], 0⟩ (c.ser db') _ rfl).2 hout.1.1]
          rfl

example : OutsideWindow (writeUserData exFs [2, 2] [.ok, .ok, .short 1]).1 (writeUserData exFs [2, 2] [.ok, .ok, .short 1]).2
    (.between 4) = true := by decide +kernel
example : exCodec.parse [1, 1] = some exDb ∧ exCodec.Sound exDb' :=
  ⟨by decide, ⟨by decide, by decide⟩⟩

/-- What the window holds (after the correction of the write loop): at every crash point after a
    successful `ftruncate` + `lseek`, the file is a PREFIX of the new serialisation — so it is
    unloadable exactly until the last byte is written, and never a mixture of old and new. -/
theorem window_holds_prefix_of_new (fs0 : Fs) (data : Bytes) (outs : List Outcome) (i : Nat)
    (htr : outs.headD .ok ≠ .err) (hseek : (outs.drop 1).headD .ok ≠ .err) :
    ∃ k, diskAt fs0 (writeUserData fs0 data outs).1 (.between (i + 1)) = data.take k := by
  rw [writeUserData_of_trunc_ok htr, if_neg hseek]
  obtain ⟨s, hs, he⟩ := fsAfter_mem fs0 _ i (List.cons_ne_nil _ _)
  rw [diskAt, he]
  rcases List.mem_cons.mp hs with rfl | hs
  · exact ⟨0, rfl⟩
  rcases List.mem_cons.mp hs with rfl | hs
  · exact ⟨0, rfl⟩
  exact ⟨_, List.prefix_iff_eq_take.mp ((writeLoop_spec ⟨[], 0⟩ data _ rfl).1 s hs)⟩

example : diskAt exFs (writeUserData exFs [5, 6, 7, 8] [.ok, .ok, .short 3]).1 (.between 3) = [5, 6, 7] := by decide +kernel

/-- F24, general form: EVERY update whose `ftruncate` succeeds passes through a state in which the
    credential file is empty — and an empty file does not load. -/
theorem truncate_window_unloadable (c : Codec) (db' : Db) (fs0 : Fs) (outs : List Outcome)
    (hNew : c.Sound db') (hne : c.ser db' ≠ []) (htr : outs.headD .ok ≠ .err) :
    diskAt fs0 (writeUserData fs0 (c.ser db') outs).1 (.between 1) = [] ∧ c.loadable [] = false := by
  constructor
  · rw [writeUserData_of_trunc_ok htr]
    split <;> rfl
  · have h := hNew.prefixes 0 (List.length_pos_iff.mpr hne)
    rw [List.take_zero] at h
    rw [Codec.loadable, h]
    rfl

example : exCodec.Sound exDb' ∧ exCodec.ser exDb' ≠ [] ∧ ([] : List Outcome).headD .ok ≠ .err :=
  ⟨⟨by decide, by decide⟩, by decide, by decide⟩

/-- F24, concrete witness: the full crash-atomicity statement is false — old file `[1,1]`, new
    serialisation `[2,2]`, every call succeeds, crash right after the `ftruncate`: the file is
    empty, which is neither of the two and is not loadable. -/
theorem update_counterexample :
    ¬ (∀ (c : Codec) (db db' : Db) (old : Bytes) (fs0 : Fs) (outs : List Outcome) (cp : CrashPoint),
        c.parse old = some db → c.Sound db' → fs0.data = old →
        c.loadable (diskAt fs0 (writeUserData fs0 (c.ser db') outs).1 cp) = true ∧
          (diskAt fs0 (writeUserData fs0 (c.ser db') outs).1 cp = old ∨
           diskAt fs0 (writeUserData fs0 (c.ser db') outs).1 cp = c.ser db')) := by
  intro h
  have := h exCodec exDb exDb' [1, 1] exFs [] (.between 1) (by decide) ⟨by decide, by decide⟩ (by decide)
  revert this
  decide +kernel

/-- A crash INSIDE a write (after `j` bytes) is also a counterexample: a strict prefix of the new
    serialisation is on disk. -/
theorem update_counterexample_inside_write :
    diskAt exFs (writeUserData exFs (exCodec.ser exDb') []).1 (.inside 2 1) = [2] ∧
    exCodec.loadable [2] = false := by decide +kernel

/-- F24b (corrected by commit c5f7d0d): with the write loop as it was, a short write corrupted the
    file even without any crash or error — `write` accepts 1 of 4 bytes, the loop then writes the
    first 3 bytes AGAIN and reports success: the file holds `[5,5,6,7]` instead of `[5,6,7,8]`;
    when the short write covers at least half, the loop stops early: `[5,6]`. -/
theorem legacy_short_write_counterexample :
    (lastFs exFs (Legacy.writeUserData exFs [5, 6, 7, 8] [.ok, .ok, .short 1]).1).data = [5, 5, 6, 7] ∧
    (Legacy.writeUserData exFs [5, 6, 7, 8] [.ok, .ok, .short 1]).2 = true ∧
    (lastFs exFs (Legacy.writeUserData exFs [5, 6, 7, 8] [.ok, .ok, .short 2]).1).data = [5, 6] ∧
    (Legacy.writeUserData exFs [5, 6, 7, 8] [.ok, .ok, .short 2]).2 = true := by decide +kernel

/-- … and the corrected loop delivers the complete data for EVERY sequence of short writes that
    ends without an error. -/
theorem short_writes_complete (fs0 : Fs) (data : Bytes) (outs : List Outcome)
    (htr : outs.headD .ok ≠ .err) (hseek : (outs.drop 1).headD .ok ≠ .err)
    (hok : (writeUserData fs0 data outs).2 = true) :
    (lastFs fs0 (writeUserData fs0 data outs).1).data = data := by
  rw [writeUserData_of_trunc_ok htr, if_neg hseek] at hok ⊢
  rw [lastFs_cons, lastFs_cons]
  exact (writeLoop_spec ⟨[], 0⟩ data _ rfl).2 hok

example : (writeUserData exFs [5, 6, 7, 8] [.ok, .ok, .short 1, .short 0, .short 2]).2 = true ∧
    (lastFs exFs (writeUserData exFs [5, 6, 7, 8] [.ok, .ok, .short 1, .short 0, .short 2]).1).data = [5, 6, 7, 8] := by
  decide +kernel

theorem json_replace_checked_failure_changes_nothing : type_of% @Cjet.Props.CjsonTree.replace_checked_failure_changes_nothing := @Cjet.Props.CjsonTree.replace_checked_failure_changes_nothing
theorem json_replace_unchecked_failure_strips_the_name : type_of% @Cjet.Props.CjsonTree.replace_unchecked_failure_strips_the_name := @Cjet.Props.CjsonTree.replace_unchecked_failure_strips_the_name
theorem json_replace_unchecked_failure_loses_the_member : type_of% @Cjet.Props.CjsonTree.replace_unchecked_failure_loses_the_member := @Cjet.Props.CjsonTree.replace_unchecked_failure_loses_the_member
theorem json_replace_success_in_place : type_of% @Cjet.Props.CjsonTree.replace_success_in_place := @Cjet.Props.CjsonTree.replace_success_in_place

end Cjet.Props.C20
