import Cjet.Lemmas.MatcherFetch

/-!
# C16 — fetch path rules select exactly the paths their matchers describe

Model: `Cjet.Matcher` (transcription of `src/fetch.c`, with the F4 fix), declarative side:
`Cjet.Matcher.Spec`.  Every statement below is over *all* paths, operands and rule objects.
Byte strings are C strings (`NulFree`: the content before the terminator); rule objects carry raw
JSON byte strings and are seen through `cstr`, as the C code sees them.

Non-vacuity: every theorem with hypotheses is followed by an `example` instantiating them.
-/

namespace Cjet.Matcher

open List
open Cjet.Generated.Matcher (CFn Entry table optionKey optionKeyCmpLen)

/-! ## libc -/

/-- The libc loops compute equality / prefix / infix, byte-wise or after ASCII case folding. -/
theorem libc_specs (a b : Bytes) (ha : NulFree a) (hb : NulFree b) :
    (strcmp a b = 0 ↔ a = b) ∧
    (strncmp a b (strlen a) = 0 ↔ a <+: b) ∧
    ((strstr a b).isSome = true ↔ b <:+: a) ∧
    (strcasecmp a b = 0 ↔ lower a = lower b) ∧
    (strncasecmp a b (strlen a) = 0 ↔ lower a <+: lower b) ∧
    ((strcasestr a b).isSome = true ↔ lower b <:+: lower a) :=
  ⟨strcmp_eq_zero a b ha hb, strncmp_len_eq_zero a b ha hb, strstr_isSome a b,
    strcasecmp_eq_zero a b ha hb, strncasecmp_len_eq_zero a b ha hb, strcasestr_isSome a b⟩

example : NulFree [0x41, 0x62, 0xC3] ∧ NulFree [0x61, 0x42] := by decide +kernel

/-- The test by which `add_matchers` skips a member (`strncmp` over `sizeof(case_insensitive)`
    bytes) is exact equality with the option key; and the option key of the source is the
    property's "caseInsensitive". -/
theorem option_key_test (key : Bytes) :
    (isOptionKey key = true ↔ cstr key = optionKey) ∧ optionKey = Kind.optionName :=
  ⟨isOptionKey_iff key, optionName_eq.symm⟩

/-! ## the twelve match functions -/

/-- Each of the twelve match functions returns non-zero exactly on the paths its kind describes,
    for all paths and operands. -/
theorem matcher_spec (fn : CFn) (pm : PathMatcher) (path : Bytes) (hp : NulFree path)
    (he : ∀ e ∈ pm.elems, NulFree e) :
    evalFn fn pm path ≠ 0 ↔ Spec (kindOfFn fn).1 (kindOfFn fn).2 pm.elems path :=
  evalFn_spec fn pm path hp he

example : NulFree [0x2F, 0x61] ∧ ∀ e ∈ ({ fn := .endswith_match_ignore_case, elems := [[0x41]] } : PathMatcher).elems,
    NulFree e := by decide +kernel

/-- The `matchers[]` table of the source wires every name the property knows — and no other — to
    the pair of functions for that kind, and only `containsAllOf` takes several operands. -/
theorem matcher_table_spec :
    (∀ e ∈ table, ∃ k, e.name = k.name ∧ kindOfFn e.caseSensitive = (k, false) ∧
      kindOfFn e.caseInsensitive = (k, true) ∧ e.multi = k.multi) ∧
    (∀ k : Kind, ∃ e ∈ table, e.name = k.name) := by
  constructor
  · intro e he
    obtain ⟨k, _, h⟩ := table_kinds e he
    exact ⟨k, h⟩
  · intro k
    exact kinds_in_table k (kind_mem_all k)

/-! ## rules -/

/-- An accepted rule selects exactly the paths on which every declared matcher holds, with the
    case option read once for all of them; `state_matches` never faults on it. -/
theorem rule_spec (cfg : Cfg) (hs : cfg.Sane) (members : Members) (f : Fetch)
    (h : createFetch cfg (.obj members) = .ok f) (path : Bytes) (hp : NulFree path) :
    (∃ b, stateMatches f path = .verdict b) ∧
    (stateMatches f path = .verdict true ↔ RuleHolds members path) := by
  obtain ⟨pms, hb, _, h1, _, rfl⟩ := createFetch_obj_iff.mp h
  rw [stateMatches_filled path (hb.length ▸ h1)]
  refine ⟨⟨_, rfl⟩, ?_⟩
  rw [RuleHolds, ← hb.spec hs path hp]
  simp

example : Cfg.repo.Sane ∧ NulFree [0x61, 0x62] ∧
    ∃ f, createFetch Cfg.repo (.obj [(Kind.name .startsWith, .str [0x61]), (optionKey, .tru)]) = .ok f := by
  refine ⟨by decide, by decide, _, rfl⟩

/-- A request without a rule selects everything. -/
theorem no_rule_matches_all (cfg : Cfg) (path : Bytes) :
    ∃ f, createFetch cfg .absent = .ok f ∧ stateMatches f path = .verdict true :=
  ⟨allocFetch 1, rfl, rfl⟩

/-- A `"path"` member that is not an object is refused. -/
theorem path_not_object_refused (cfg : Cfg) : createFetch cfg .notObject = .error .pathNotObject := rfl

/-- Whatever `create_fetch` accepts is a well-formed rule: every member is the option key or a
    known matcher name with correctly typed operands, the option key occurs at most once, and there
    are between one and `CONFIG_MAX_NUMBERS_OF_MATCHERS_IN_FETCH` matchers.  Refusal returns an
    error value and nothing else (`Except`: no fetch exists, nothing was stored). -/
theorem refusals (cfg : Cfg) (hs : cfg.Sane) (members : Members) (f : Fetch)
    (h : createFetch cfg (.obj members) = .ok f) : WellFormed cfg.maxMatchers members := by
  obtain ⟨pms, hb, hopt, h1, hmax, _⟩ := createFetch_obj_iff.mp h
  refine ⟨?_, hopt, h1, hmax⟩
  intro m hm
  rcases hb.members m hm with ho | ⟨pm, hpm⟩
  · exact Or.inl ho
  · obtain ⟨k, ops, hk, ho, _, _⟩ := buildMatcher_ok hs hpm
    exact Or.inr ⟨k, ops, hk, ho⟩

/-- Unknown matcher name ⇒ error. -/
theorem refusals_unknown_name (cfg : Cfg) (hs : cfg.Sane) (members : Members) (m : Bytes × JVal)
    (hm : m ∈ members) (hno : isOption m = false) (hunk : specKind (cstr m.1) = none) :
    ∃ e, createFetch cfg (.obj members) = .error e := by
  refine createFetch_refuses fun f h => ?_
  rcases (refusals cfg hs members f h).members_ok m hm with ho | ⟨k, _, hk, _⟩
  · rw [hno] at ho
    cases ho
  · rw [hunk] at hk
    cases hk

example : Cfg.repo.Sane ∧ isOption ([0x66, 0x6F, 0x6F], JVal.str []) = false ∧
    specKind (cstr [0x66, 0x6F, 0x6F]) = none := by decide +kernel

/-- Wrongly typed operand (not a string; for `containsAllOf` not an array, an empty array, or an
    array with a non-string member) ⇒ error. -/
theorem refusals_mistyped_operand (cfg : Cfg) (hs : cfg.Sane) (members : Members) (m : Bytes × JVal)
    (hm : m ∈ members) (k : Kind) (hk : specKind (cstr m.1) = some k) (hbad : operands k m.2 = none) :
    ∃ e, createFetch cfg (.obj members) = .error e := by
  refine createFetch_refuses fun f h => ?_
  rcases (refusals cfg hs members f h).members_ok m hm with ho | ⟨k', ops, hk', ho⟩
  · rw [beq_iff_eq.mp ho, specKind_optionKey] at hk
    cases hk
  · obtain rfl : k = k' := Option.some.inj (hk.symm.trans hk')
    rw [hbad] at ho
    cases ho

example : Cfg.repo.Sane ∧ specKind (cstr (Kind.name .containsAllOf)) = some .containsAllOf ∧
    operands .containsAllOf (.arr []) = none ∧
    operands .containsAllOf (.arr [.str [0x61], .other]) = none ∧
    operands .containsAllOf (.str [0x61]) = none ∧
    operands .equals .tru = none := by decide +kernel

/-- More matchers than the configured maximum ⇒ error; no matcher at all ⇒ error. -/
theorem refusals_count (cfg : Cfg) (hs : cfg.Sane) (members : Members)
    (hbad : matcherCount members = 0 ∨ cfg.maxMatchers < matcherCount members) :
    ∃ e, createFetch cfg (.obj members) = .error e := by
  refine createFetch_refuses fun f h => ?_
  have hw := refusals cfg hs members f h
  have := hw.some_matcher
  have := hw.not_too_many
  omega

example : Cfg.repo.Sane ∧ Cfg.repo.maxMatchers <
    matcherCount (List.replicate 13 (Kind.name .contains, JVal.str [0x61])) := by decide +kernel

/-- A repeated option key is refused. -/
theorem repeated_option_key (cfg : Cfg) (hs : cfg.Sane) (members : Members)
    (hrep : 2 ≤ optionCount members) : ∃ e, createFetch cfg (.obj members) = .error e := by
  refine createFetch_refuses fun f h => ?_
  have := (refusals cfg hs members f h).option_once
  omega

example : Cfg.repo.Sane ∧
    2 ≤ optionCount [(Kind.name .equals, .str [0x61]), (optionKey, .tru), (optionKey, .tru)] := by decide +kernel

/-- F4, the code before the fix: with the option key given twice the rule was accepted with an
    unfilled slot — alone it became "fetch all", next to a matcher `state_matches` dereferenced
    the NULL slot on every path the first matcher let through. -/
theorem repeated_option_key_counterexample_unfixed :
    (∃ f, createFetchUnfixed Cfg.repo (.obj [(optionKey, .tru), (optionKey, .tru)]) = .ok f ∧
      stateMatches f [0x78] = .verdict true) ∧
    (∃ f, createFetchUnfixed Cfg.repo
        (.obj [(Kind.name .equals, .str [0x61]), (optionKey, .tru), (optionKey, .tru)]) = .ok f ∧
      stateMatches f [0x61] = .fault .nullMatcher) := by
  refine ⟨⟨_, rfl, rfl⟩, ⟨_, rfl, ?_⟩⟩
  decide +kernel

/-- Every well-formed rule whose operand arrays fit under the heap cap is accepted. -/
theorem accepts_wellformed (cfg : Cfg) (members : Members) (hw : WellFormed cfg.maxMatchers members)
    (hfit : FitsHeap cfg members) : ∃ f, createFetch cfg (.obj members) = .ok f := by
  obtain ⟨pms, hb⟩ := Built.of_members (cfg := cfg) (ci := optionCI members) (members := members)
    fun m hm => (hw.members_ok m hm).imp_right fun ⟨_, _, hk, ho⟩ =>
      buildMatcher_complete hk ho hfit.1 (hfit.2 m hm)
  exact ⟨_, createFetch_obj_iff.mpr ⟨pms, hb, hw.option_once, hw.some_matcher, hw.not_too_many, rfl⟩⟩

example : WellFormed Cfg.repo.maxMatchers
      [(Kind.name .equals, .str [0x61]), (optionKey, .fls), (Kind.name .containsAllOf, .arr [.str [0x61]])] ∧
    FitsHeap Cfg.repo
      [(Kind.name .equals, .str [0x61]), (optionKey, .fls), (Kind.name .containsAllOf, .arr [.str [0x61]])] := by
  refine ⟨⟨?_, by decide, by decide, by decide⟩, by decide, ?_⟩ <;>
    simp only [List.forall_mem_cons]
  · exact ⟨.inr ⟨.equals, _, by decide, rfl⟩, .inl (by decide),
      .inr ⟨.containsAllOf, _, by decide, rfl⟩, nofun⟩
  · refine ⟨nofun, nofun, fun items hv _ => ?_, nofun⟩
    cases hv
    decide +kernel

/-! ## index safety (also used by C06) -/

/-- Every fetch `create_fetch` returns has exactly `number_of_matchers` slots, and either it is
    the "fetch all" object (one slot, NULL) or every slot holds a matcher. -/
theorem matchers_filled (cfg : Cfg) (p : PathParam) (f : Fetch) (h : createFetch cfg p = .ok f) :
    f.matcher.length = f.numberOfMatchers ∧ 1 ≤ f.numberOfMatchers ∧
    ((p = .absent ∧ f.matcher = [none]) ∨
     ∀ i, i < f.numberOfMatchers → ∃ pm, f.matcher[i]? = some (some pm)) := by
  rcases createFetch_cases h with ⟨rfl, rfl⟩ | ⟨pms, hpos, rfl⟩
  · exact ⟨rfl, by decide, .inl ⟨rfl, rfl⟩⟩
  · refine ⟨by simp, hpos, .inr fun i hi => ⟨pms[i], ?_⟩⟩
    simp only at hi
    simp [hi]

/-- `state_matches` on a fetch made by `create_fetch` never dereferences a NULL matcher and never
    reads past the slots: it always returns a verdict. -/
theorem state_matches_no_fault (cfg : Cfg) (p : PathParam) (f : Fetch) (h : createFetch cfg p = .ok f)
    (path : Bytes) : ∃ b, stateMatches f path = .verdict b := by
  rcases createFetch_cases h with ⟨rfl, rfl⟩ | ⟨pms, hpos, rfl⟩
  · exact ⟨true, rfl⟩
  · exact ⟨_, stateMatches_filled path hpos⟩

/-- The fill loop never stores past the allocated slots — with or without the F4 fix. -/
theorem fill_index_lt (fc : Bool) (cfg : Cfg) (p : PathParam) :
    createFetchWith fc cfg p ≠ .error (.addFailed .oobWrite) := by
  cases p with
  | absent => simp [createFetchWith]
  | notObject => simp [createFetchWith]
  | obj members =>
    unfold createFetchWith
    simp only
    split
    · simp
    · split
      · simp
      · have hno := addMatchers_no_oob (cfg := cfg) (fc := fc) (ci := (countAndCase members).2)
          (n := (countAndCase members).1) members 0 (allocFetch (countAndCase members).1).matcher
          (by simpa [allocFetch] using countP_le_count members)
        split
        · rename_i w hw
          intro hc
          simp only [Except.error.injEq, Err.addFailed.injEq] at hc
          exact hno (hc ▸ hw)
        · simp

end Cjet.Matcher
