import Cjet.Accept
import Cjet.Lemmas.Accept
/-!
# Accept — the connection-acceptance path of `src/linux/linux_io.c`

Model: `Cjet.Accept` (`accept_common`, `is_localhost`, `prepare_peer_socket`,
`handle_new_jet_connection`, `handle_http`, `start_server`, `stop_server`), tied to the real code by
`harness/comp/accept.c` / `vlib/accept_tie.py`.  Supports

* C11 ("a peer whose connection attempt aborts harms only itself … the daemon keeps accepting"):
  `listener_survives_transient`, `abort_only_on_fatal`, `fatal_class_exact`, `retry_class_exact`,
  `transient_errnos_not_fatal`, `retry_class_continues_accepting`, `loop_terminates_when_queue_drains`,
  `endless_retry_never_returns`, `start_server_unwinds`;
* C07 ("descriptor use is hygienic, everything is reclaimed"): `fd_closed_or_owned_exactly_once`,
  `fd_discipline_monitor`, `no_leak_of_peer_or_bs`, `init_failure_releases_both`, `stop_server_closes_listener`;
* C04 / C08 (the "local connection" bit): `local_bit_exact`, `local_bit_other_families`,
  `local_bit_unix_unnamed`, `local_bit_unix_pathname`, `local_bit_unix_abstract_can_be_local`.

Every theorem is for all scripts: any number of `accept` answers (connections with any descriptor
number, family and address bytes; any errno), any combination of failing system calls, allocations
and initialisations per connection, every listener kind.  No bounds.
-/
namespace Cjet.Props.Accept

open Cjet.Accept Cjet.Generated.Accept

/-! ## descriptors (C07) -/

/-- **fd_closed_or_owned_exactly_once.**  For one call of `accept_common`, whatever the kernel and the
    allocator answer:
    1. the descriptors `accept` returned are exactly those of the connections the call consumed;
    2. per descriptor number, closes + hand-overs = times it was returned by `accept`
       (nothing closed twice, nothing handed over and closed, nothing forgotten);
    3. when the kernel does not reuse a number within the call, each accepted descriptor is at exit
       *either* owned by exactly one created peer / connection and not closed, *or* closed exactly
       once and owned by nobody;
    4. a descriptor `accept` did not return (the listener, descriptors of other peers) is neither
       closed nor given to a peer. -/
theorem fd_closed_or_owned_exactly_once (k : Kind) (l : Nat) (script : List Ans) :
    accepted (acceptLoop k l script).trace = connFds (cut script) ∧
    (∀ fd, (closes (acceptLoop k l script).trace).count fd + (owners (acceptLoop k l script).trace).count fd =
        (accepted (acceptLoop k l script).trace).count fd) ∧
    ((accepted (acceptLoop k l script).trace).Nodup → ∀ fd ∈ accepted (acceptLoop k l script).trace,
        ((owners (acceptLoop k l script).trace).count fd = 1 ∧ (closes (acceptLoop k l script).trace).count fd = 0) ∨
        ((owners (acceptLoop k l script).trace).count fd = 0 ∧ (closes (acceptLoop k l script).trace).count fd = 1)) ∧
    (∀ fd, fd ∉ accepted (acceptLoop k l script).trace →
        fd ∉ closes (acceptLoop k l script).trace ∧ fd ∉ owners (acceptLoop k l script).trace) := by
  have h1 := accepted_eq_connFds_cut k l script
  have h2 := fun fd => fd_count_eq k l fd script
  refine ⟨h1, h2, ?_, ?_⟩
  · intro hnd fd hfd
    have h := h2 fd
    rw [hnd.count, if_pos hfd] at h
    omega
  · intro fd hfd
    have h := h2 fd
    rw [List.count_eq_zero.mpr hfd] at h
    constructor
    · apply List.count_eq_zero.mp; omega
    · apply List.count_eq_zero.mp; omega

/-- non-vacuity: a call that closes one descriptor on a failure path, skips an aborted attempt and hands
    two descriptors to peers — all distinct. -/
example :
    let t := (acceptLoop .jet 3 [.conn 7 AF_INET [0, 0, 127, 0, 0, 1] {}, .err ECONNABORTED,
      .conn 8 AF_INET6 [] { acquireBs := false }, .conn 9 AF_UNIX [] { gsFamily := AF_UNIX }]).trace
    accepted t = [7, 8, 9] ∧ (accepted t).Nodup ∧ owners t = [7, 9] ∧ closes t = [8] := by decide

/-- **fd_discipline_monitor.**  The temporal form: the reference monitor `Mon` (at most one accepted
    descriptor is in flight; every system call, the `close` and the hand-over name exactly that
    descriptor; it is resolved — closed once, or handed over once — before `accept` is called again
    and before the call returns; records are freed only while live, all are freed before the `close`
    of a failure path, and the hand-over takes exactly the owner record and the buffered socket)
    accepts the trace of every call and ends in its idle state: nothing in flight, nothing live. -/
theorem fd_discipline_monitor (k : Kind) (l : Nat) (script : List Ans) :
    Mon.run {} (acceptLoop k l script).trace = some {} := by
  revert script
  apply acceptLoop_induct
  · simp [acceptLoop_nil, Mon.run, Mon.step]
  · intro fd fam sa s rest ih
    rw [acceptLoop_conn]
    simp only [Mon.run, Mon.step, and_self, if_true]
    rw [(handle_facts k fd (isLocalhost fam sa) s).mon]
    exact ih
  · intro e rest h ih
    rw [acceptLoop_retry _ _ _ _ h]
    simp only [Mon.run, Mon.step, and_self, if_true]
    exact ih
  · intro e rest h; simp [acceptLoop_stop _ _ _ _ h, Mon.run, Mon.step]
  · intro e rest h; simp [acceptLoop_abort _ _ _ _ h, Mon.run, Mon.step]

/-- the monitor is not trivially accepting: a second `close`, a leak, a use after close, a free of a
    record that is not live and a `close` with a live record are all rejected -/
example : Mon.run {} [.acceptFd 3 7, .close 7, .close 7] = none ∧
    Mon.run {} [.acceptFd 3 7, .acceptErr 3 EAGAIN] = none ∧
    Mon.run {} [.acceptFd 3 7, .close 7, .sys 7 .getfl true] = none ∧
    Mon.run {} [.acceptFd 3 7, .alloc .peer, .free .peer, .free .peer, .close 7] = none ∧
    Mon.run {} [.acceptFd 3 7, .alloc .peer, .close 7] = none ∧
    Mon.run {} [.acceptFd 3 7, .alloc .peer, .alloc .bs, .owned 7 true .jet, .close 7] = none := by decide

/-! ## heap records (C07) -/

/-- **no_leak_of_peer_or_bs.**  Per connection, for every listener kind and every combination of
    failures: either the set-up succeeded — the descriptor is owned by the new peer / connection, not
    closed, exactly the owner record and the buffered socket were allocated and none freed (they belong
    to the peer now) — or it failed: the descriptor is closed exactly once, nobody owns it, and every
    record that was allocated is freed exactly once (in reverse order of allocation; the allocations are
    pairwise distinct records).  Over a whole call: frees + records handed to peers = allocations. -/
theorem no_leak_of_peer_or_bs (k : Kind) (l : Nat) (script : List Ans) :
    (∀ fd loc s,
      (closes (handle k fd loc s) = [] ∧ owners (handle k fd loc s) = [fd] ∧
        allocs (handle k fd loc s) = [ownerObj k, .bs] ∧ frees (handle k fd loc s) = []) ∨
      (closes (handle k fd loc s) = [fd] ∧ owners (handle k fd loc s) = [] ∧
        frees (handle k fd loc s) = (allocs (handle k fd loc s)).reverse ∧ (allocs (handle k fd loc s)).Nodup)) ∧
    (∀ o, (frees (acceptLoop k l script).trace).count o +
        (if o = ownerObj k ∨ o = .bs then (owners (acceptLoop k l script).trace).length else 0) =
        (allocs (acceptLoop k l script).trace).count o) := by
  constructor
  · intro fd loc s
    rcases (handle_facts k fd loc s).resolved with h | h
    · exact Or.inr h
    · exact Or.inl h
  · intro o
    revert script
    apply acceptLoop_induct
    · simp [acceptLoop_nil, frees, owners, allocs]
    · intro fd fam sa s rest ih
      have hb := (handle_facts k fd (isLocalhost fam sa) s).balance o
      simp only [acceptLoop_conn, frees, owners, allocs, frees_append, owners_append, allocs_append,
        List.count_append, List.length_append]
      by_cases hc : o = ownerObj k ∨ o = .bs <;> simp only [hc, if_true, if_false] at ih hb ⊢ <;> omega
    · intro e rest h ih
      simpa [acceptLoop_retry _ _ _ _ h, frees, owners, allocs] using ih
    · intro e rest h; simp [acceptLoop_stop _ _ _ _ h, frees, owners, allocs]
    · intro e rest h; simp [acceptLoop_abort _ _ _ _ h, frees, owners, allocs]

example : frees (handle .http 7 false { init := false }) = [.bs, .conn] ∧
    allocs (handle .http 7 false { init := false }) = [.conn, .bs] ∧
    owners (handle .jet 7 true {}) = [7] := by decide

/-- **init_failure_releases_both.**  The contract with `init_socket_peer` / `init_http_connection`
    that the model assumes and the caller implements: when initialisation fails the callee has released
    nothing, and the caller frees the buffered socket, then the peer / connection, then closes the
    descriptor — each exactly once. -/
theorem init_failure_releases_both (fd : Nat) (loc : Bool) (s : Setup)
    (hp : (prepare fd s).2 = true) (ha : s.allocOwner = true) (hb : s.acquireBs = true) (hi : s.init = false) :
    handleJet fd loc s = (prepare fd s).1 ++ [.alloc .peer, .alloc .bs, .initFail, .free .bs, .free .peer, .close fd] ∧
    handleHttp fd loc s = (prepare fd s).1 ++ [.alloc .conn, .alloc .bs, .initFail, .free .bs, .free .conn, .close fd] := by
  simp [handleJet, handleHttp, hp, ha, hb, hi]

example : (prepare 7 { init := false }).2 = true := by decide

/-! ## the listener survives (C11) -/

/-- **fatal_class_exact.**  The errnos for which `accept_common` gives up the listener are exactly the
    ones that say the listening socket itself is unusable: EBADF, EINVAL, ENOTSOCK, EOPNOTSUPP, EFAULT
    (numbers from the system headers; the class is regenerated from the `switch`). -/
theorem fatal_class_exact (e : Nat) :
    classify e = .abort ↔ (e = EBADF ∨ e = EINVAL ∨ e = ENOTSOCK ∨ e = EOPNOTSUPP ∨ e = EFAULT) := by
  rw [classify_abort_iff]
  -- independent of the order of the case labels
  have h1 : ∀ x ∈ fatalErrnos, x ∈ [EBADF, EINVAL, ENOTSOCK, EOPNOTSUPP, EFAULT] := by decide
  have h2 : ∀ x ∈ [EBADF, EINVAL, ENOTSOCK, EOPNOTSUPP, EFAULT], x ∈ fatalErrnos := by decide
  constructor
  · intro h; simpa using h1 e h
  · intro h; exact h2 e (by simpa using h)

/-- **retry_class_exact.**  `accept` is called again at once exactly after ECONNABORTED and EINTR. -/
theorem retry_class_exact (e : Nat) : classify e = .retry ↔ (e = ECONNABORTED ∨ e = EINTR) := by
  rw [classify_retry_iff]
  have h1 : ∀ x ∈ retryErrnos, x ∈ [ECONNABORTED, EINTR] := by decide
  have h2 : ∀ x ∈ [ECONNABORTED, EINTR], x ∈ retryErrnos := by decide
  constructor
  · intro h; simpa using h1 e h
  · intro h; exact h2 e (by simpa using h)

/-- **transient_errnos_not_fatal.**  An empty queue, an aborted attempt, a signal, a lack of
    descriptors / memory / buffers, a firewall rule and the network errors Linux passes through `accept`
    never end the event loop. -/
theorem transient_errnos_not_fatal :
    ∀ e ∈ [EAGAIN, EWOULDBLOCK, ECONNABORTED, EINTR, EMFILE, ENFILE, ENOBUFS, ENOMEM, EPROTO, EPERM, ENETDOWN,
      ENOPROTOOPT, EHOSTDOWN, ENONET, EHOSTUNREACH, ENETUNREACH, ETIMEDOUT, ECONNRESET], classify e ≠ .abort := by
  decide

/-- **abort_only_on_fatal.**  `accept_common` returns EL_ABORT_LOOP iff `accept` returned a fatal-class
    errno to it — equivalently, iff the answers this call consumed contain one. -/
theorem abort_only_on_fatal (k : Kind) (l : Nat) (script : List Ans) :
    ((acceptLoop k l script).ret = .abortLoop ↔
      ∃ e ∈ acceptErrs (acceptLoop k l script).trace, e ∈ fatalErrnos) ∧
    ((acceptLoop k l script).ret = .abortLoop ↔ ∃ e, Ans.err e ∈ cut script ∧ e ∈ fatalErrnos) := by
  revert script
  apply acceptLoop_induct
  · have : EAGAIN ∉ fatalErrnos := by decide
    simp [acceptLoop_nil, acceptErrs, cut, this]
  · intro fd fam sa s rest ih
    simp only [acceptLoop_conn, acceptErrs, acceptErrs_append, (handle_facts k fd _ s).acceptErrs, List.nil_append,
      cut_conn]
    refine ⟨ih.1, ih.2.trans ?_⟩
    simp
  · intro e rest h ih
    have hnf : e ∉ fatalErrnos := fun hf => by rw [(classify_abort_iff e).mpr hf] at h; cases h
    simp [acceptLoop_retry _ _ _ _ h, acceptErrs, cut_retry _ _ h, hnf, ih.1, ← ih.2]
  · intro e rest h
    have hnf : e ∉ fatalErrnos := fun hf => by rw [(classify_abort_iff e).mpr hf] at h; cases h
    simp [acceptLoop_stop _ _ _ _ h, acceptErrs, cut_noretry e rest (by simp [h]), hnf]
  · intro e rest h
    have hf : e ∈ fatalErrnos := (classify_abort_iff e).mp h
    simp [acceptLoop_abort _ _ _ _ h, acceptErrs, cut_noretry e rest (by simp [h]), hf]

example : (acceptLoop .http 3 [.conn 7 AF_INET [] {}, .err EINTR, .err EBADF, .conn 8 AF_INET [] {}]).ret = .abortLoop ∧
    (acceptLoop .http 3 [.conn 7 AF_INET [] {}, .err EMFILE, .err EBADF]).ret = .continueLoop := by decide

/-- **listener_survives_transient.**  If no errno in the script is in the fatal class, the call returns
    EL_CONTINUE_LOOP (the listener stays registered) — for any number of failing system calls,
    allocations and initialisations, aborted attempts and signals, and any other errno.  Every
    connection the call consumed — before and after any retry-class failure — was accepted and
    resolved (handed to a peer, or closed). -/
theorem listener_survives_transient (k : Kind) (l : Nat) (script : List Ans)
    (h : ∀ e, Ans.err e ∈ script → e ∉ fatalErrnos) :
    (acceptLoop k l script).ret = .continueLoop ∧
    ∀ fd ∈ connFds (cut script), fd ∈ closes (acceptLoop k l script).trace ∨ fd ∈ owners (acceptLoop k l script).trace := by
  constructor
  · cases hr : (acceptLoop k l script).ret with
    | continueLoop => rfl
    | abortLoop =>
      obtain ⟨e, he, hf⟩ := (abort_only_on_fatal k l script).2.mp hr
      exact absurd hf (h e ((cut_prefix script).subset he))
  · intro fd hfd
    obtain ⟨hacc, hcnt, _, _⟩ := fd_closed_or_owned_exactly_once k l script
    rw [← hacc] at hfd
    have hpos := List.count_pos_iff.mpr hfd
    have := hcnt fd
    by_cases hc : fd ∈ closes (acceptLoop k l script).trace
    · exact Or.inl hc
    · right
      rw [List.count_eq_zero.mpr hc] at this
      apply List.count_pos_iff.mp
      omega

example : ∀ e, Ans.err e ∈ [Ans.conn 7 AF_INET [] { setfl := false }, .err ECONNABORTED, .err EINTR,
    .conn 8 AF_INET [] { allocOwner := false }, .err EMFILE, .conn 9 AF_INET [] {}] → e ∉ fatalErrnos := by
  intro e he
  simp at he
  rcases he with rfl | rfl | rfl <;> decide

/-- **retry_class_continues_accepting.**  After ECONNABORTED or EINTR the loop goes on in the same
    call exactly as if that answer had not happened (the next queued connection is still accepted);
    more generally a prefix of connections and retry-class errnos is consumed completely and the
    call behaves on the rest as a fresh call would. -/
theorem retry_class_continues_accepting (k : Kind) (l : Nat) (rest : List Ans) :
    (∀ e, (e = ECONNABORTED ∨ e = EINTR) →
      acceptLoop k l (.err e :: rest) =
        ⟨.acceptErr l e :: (acceptLoop k l rest).trace, (acceptLoop k l rest).ret, (acceptLoop k l rest).used + 1⟩) ∧
    (∀ pre : List Ans, (∀ a ∈ pre, a.isConn = true ∨ a.isRetry = true) →
      (acceptLoop k l (pre ++ rest)).ret = (acceptLoop k l rest).ret ∧
      (acceptLoop k l (pre ++ rest)).used = pre.length + (acceptLoop k l rest).used ∧
      accepted (acceptLoop k l (pre ++ rest)).trace = connFds pre ++ accepted (acceptLoop k l rest).trace) := by
  constructor
  · intro e he
    exact acceptLoop_retry k l e rest ((retry_class_exact e).mpr he)
  · intro pre hpre
    induction pre with
    | nil => simp [connFds_nil]
    | cons a pre ih =>
      have ih' := ih (fun a ha => hpre a (List.mem_cons_of_mem _ ha))
      cases a with
      | conn fd fam sa s =>
        simp only [List.cons_append, acceptLoop_conn, accepted, accepted_append, (handle_facts k fd _ s).accepted,
          List.nil_append, ih'.1, ih'.2.1, ih'.2.2, connFds_conn, List.length_cons, List.cons_append]
        refine ⟨trivial, ?_, trivial⟩
        omega
      | err e =>
        have hc := classify_retry_of (hpre _ List.mem_cons_self)
        simp only [List.cons_append, acceptLoop_retry _ _ _ _ hc, accepted, ih'.1, ih'.2.1, ih'.2.2, connFds_err,
          List.length_cons]
        refine ⟨trivial, ?_, trivial⟩
        omega

example : accepted (acceptLoop .jet 3 [.err ECONNABORTED, .conn 7 AF_INET [] {}]).trace = [7] ∧
    (∀ a ∈ [Ans.err ECONNABORTED, .conn 7 AF_INET [] {}, .err EINTR], a.isConn = true ∨ a.isRetry = true) := by decide

/-- **loop_terminates_when_queue_drains.**  Over an endless kernel (`kern i` answers the `i`-th
    `accept`): as soon as some answer is an errno outside the retry class (the kernel's EAGAIN for a
    drained queue, in particular) the loop has ended by that call.  For the kernel behind a finite
    script (its answers, then EAGAIN for ever) the loop ends within `length + 1` calls of `accept` with
    exactly the result the list model computes. -/
theorem loop_terminates_when_queue_drains (k : Kind) (l : Nat) :
    (∀ (kern : Nat → Ans) (n e : Nat), kern n = .err e → classify e ≠ .retry →
      ∃ r, acceptLoopS k l kern (n + 1) 0 = some r) ∧
    (∀ script : List Ans, acceptLoopS k l (kernOf script) (script.length + 1) 0 =
      some ((acceptLoop k l script).trace, (acceptLoop k l script).ret)) := by
  constructor
  · intro kern n
    induction n generalizing kern with
    | zero =>
      intro e hk hc
      rw [acceptLoopS, hk]
      dsimp only
      cases h : classify e
      · exact ⟨_, rfl⟩
      · exact absurd h hc
      · exact ⟨_, rfl⟩
    | succ n ih =>
      intro e hk hc
      obtain ⟨r, hr⟩ := ih (fun j => kern (j + 1)) e hk hc
      rw [acceptLoopS, acceptLoopS_shift, hr]
      cases kern 0 with
      | conn fd fam sa s => exact ⟨_, rfl⟩
      | err e0 => dsimp only; cases classify e0 <;> exact ⟨_, rfl⟩
  · intro script
    induction script with
    | nil => rw [acceptLoop_nil]; simp only [acceptLoopS, kernOf, List.getD_nil, classify_eagain]
    | cons a rest ih =>
      rw [List.length_cons, acceptLoopS, acceptLoopS_shift, kernOf_zero, kernOf_succ, ih]
      cases a with
      | conn fd fam sa s => rw [acceptLoop_conn]; rfl
      | err e =>
        dsimp only
        cases h : classify e
        · rw [acceptLoop_stop _ _ _ _ h]
        · rw [acceptLoop_retry _ _ _ _ h]; rfl
        · rw [acceptLoop_abort _ _ _ _ h]

example : kernOf [Ans.err ECONNABORTED] 1 = .err EAGAIN ∧ classify EAGAIN ≠ .retry := by decide

/-- **endless_retry_never_returns.**  The explicit hypothesis under which the loop does not end: a
    kernel that answers every `accept` with a connection or a retry-class errno (an endless stream of
    ECONNABORTED, say) keeps `accept_common` inside its `while (1)` for any number of calls — the event
    loop does not get control back while that lasts. -/
theorem endless_retry_never_returns (k : Kind) (l : Nat) (kern : Nat → Ans)
    (h : ∀ i, (kern i).isConn = true ∨ (kern i).isRetry = true) :
    ∀ fuel i, acceptLoopS k l kern fuel i = none := by
  intro fuel
  induction fuel with
  | zero => intro i; rfl
  | succ f ih =>
    intro i
    have := h i
    rw [acceptLoopS, ih]
    cases hk : kern i with
    | conn fd fam sa s => rfl
    | err e =>
      rw [hk] at this
      simp only [classify_retry_of this]; rfl

example : ∀ i : Nat, ((fun (_ : Nat) => Ans.err ECONNABORTED) i).isConn = true ∨
    ((fun (_ : Nat) => Ans.err ECONNABORTED) i).isRetry = true := by
  intro i; right; show (Ans.err ECONNABORTED).isRetry = true; decide

/-! ## start_server / stop_server -/

/-- **start_server_unwinds.**  `start_server`: when registration fails nothing else happens (result
    -1); when the first accept pass reports abort the listener is removed from the loop again, after
    everything the pass did, and the result is -1; otherwise it stays registered and the result is 0.
    In every case: the listener is registered at exit iff `start_server` reported success. -/
theorem start_server_unwinds (k : Kind) (l : Nat) (script : List Ans) :
    startServer k l false script = ([.add l false], -1) ∧
    ((acceptLoop k l script).ret = .abortLoop →
      startServer k l true script = (.add l true :: ((acceptLoop k l script).trace ++ [.remove l]), -1)) ∧
    ((acceptLoop k l script).ret = .continueLoop →
      startServer k l true script = (.add l true :: (acceptLoop k l script).trace, 0) ∧
      Ev.remove l ∉ (startServer k l true script).1) ∧
    (∀ addOk, ((startServer k l addOk script).2 = 0 ∨ (startServer k l addOk script).2 = -1) ∧
      ((startServer k l addOk script).2 = 0 ↔
        Ev.add l true ∈ (startServer k l addOk script).1 ∧ Ev.remove l ∉ (startServer k l addOk script).1)) := by
  have noRemove : ∀ script, Ev.remove l ∉ (acceptLoop k l script).trace := by
    apply acceptLoop_induct
    · simp [acceptLoop_nil]
    · intro fd fam sa s rest ih
      rw [acceptLoop_conn]
      simp only [List.mem_cons, List.mem_append, not_or]
      exact ⟨by simp, handle_noRemove k fd _ s l, ih⟩
    · intro e rest h ih; simp [acceptLoop_retry _ _ _ _ h, ih]
    · intro e rest h; simp [acceptLoop_stop _ _ _ _ h]
    · intro e rest h; simp [acceptLoop_abort _ _ _ _ h]
  refine ⟨by simp [startServer], ?_, ?_, ?_⟩
  · intro h; simp [startServer, h]
  · intro h
    have := noRemove script
    simp [startServer, h, this]
  · intro addOk
    cases addOk with
    | false => simp [startServer]
    | true =>
      have := noRemove script
      cases h : (acceptLoop k l script).ret <;> simp [startServer, h, this]

example : (acceptLoop .jet 3 [.err EBADF]).ret = .abortLoop ∧ (acceptLoop .jet 3 []).ret = .continueLoop ∧
    startServer .jet 3 true [.err EBADF] = ([.add 3 true, .acceptErr 3 EBADF, .remove 3], -1) := by decide

/-- **stop_server_closes_listener.**  `stop_server` removes the listener from the loop, then closes it — once. -/
theorem stop_server_closes_listener (l : Nat) : stopServer l = [.remove l, .close l] ∧ closes (stopServer l) = [l] := by
  simp [stopServer, closes]

/-! ## the "local connection" bit (C04 / C08) -/

/-- **local_bit_exact.**  For an IPv4 peer address `is_localhost` is true iff the address is 127.0.0.1
    (nothing else of 127.0.0.0/8); for an IPv6 peer address iff it is `::1` or `::ffff:127.0.0.1` —
    whatever port, flow label and scope id the kernel stored. -/
theorem local_bit_exact :
    (∀ port addr : List UInt8, port.length = 2 → addr.length = 4 →
      (isLocalhost AF_INET (sockaddrIn port addr) = true ↔ addr = [127, 0, 0, 1])) ∧
    (∀ port flow addr scope : List UInt8, port.length = 2 → flow.length = 4 → addr.length = 16 →
      (isLocalhost AF_INET6 (sockaddrIn6 port flow addr scope) = true ↔
        (addr = [0, 0, 0, 0, 0, 0, 0, 0, 0, 0, 0, 0, 0, 0, 0, 1] ∨
         addr = [0, 0, 0, 0, 0, 0, 0, 0, 0, 0, 0xff, 0xff, 127, 0, 0, 1]))) := by
  constructor
  · intro port addr hp ha
    have hf : field (sockaddrIn port addr) sinAddrOff 4 = addr := by
      have := field_append port addr (List.replicate 8 0)
      rw [hp, ha] at this
      exact this
    simp [isLocalhost, hf, ipv4LocalhostBytes]
  · intro port flow addr scope hp hfl ha
    have hf : field (sockaddrIn6 port flow addr scope) sin6AddrOff 16 = addr := by
      have := field_append (port ++ flow) addr scope
      rw [List.length_append, hp, hfl, ha] at this
      simpa [sockaddrIn6, sin6AddrOff] using this
    have h6 : AF_INET6 ≠ AF_INET := by decide
    simp [isLocalhost, h6, hf, mappedIpv4LocalhostBytes, localhostBytes]
    exact Or.comm

example : isLocalhost AF_INET (sockaddrIn [0x1f, 0x90] [127, 0, 0, 1]) = true ∧
    isLocalhost AF_INET (sockaddrIn [0x1f, 0x90] [127, 0, 0, 2]) = false ∧
    isLocalhost AF_INET6 (sockaddrIn6 [0, 80] [0, 0, 0, 0] [0, 0, 0, 0, 0, 0, 0, 0, 0, 0, 0xff, 0xff, 127, 0, 0, 1] [0, 0, 0, 0]) = true ∧
    isLocalhost AF_INET6 (sockaddrIn6 [0, 80] [0, 0, 0, 0] [0, 0, 0, 0, 0, 0, 0, 0, 0, 0, 0xff, 0xff, 127, 0, 0, 2] [0, 0, 0, 0]) = false := by
  decide

/-- **local_bit_other_families.**  What the code does for every family other than AF_INET — AF_INET6,
    but also AF_UNIX and anything else: the `else` branch reads the 16 bytes at the offset of
    `sin6_addr` (bytes 6‥21 behind the family field; bytes the kernel did not store read 0) and compares
    them with `::ffff:127.0.0.1` and `::1`. -/
theorem local_bit_other_families (fam : Nat) (sa : List UInt8) (h : fam ≠ AF_INET) :
    isLocalhost fam sa = true ↔
      (field sa 6 16 = [0, 0, 0, 0, 0, 0, 0, 0, 0, 0, 0xff, 0xff, 127, 0, 0, 1] ∨
       field sa 6 16 = [0, 0, 0, 0, 0, 0, 0, 0, 0, 0, 0, 0, 0, 0, 0, 1]) := by
  simp [isLocalhost, h, sin6AddrOff, mappedIpv4LocalhostBytes, localhostBytes]

example : AF_UNIX ≠ AF_INET ∧ AF_INET6 ≠ AF_INET := by decide

/-- **local_bit_unix_unnamed.**  A client of the Unix-domain listener is *not* classified as local
    when `accept` stores fewer than 22 bytes of `sun_path` — in particular for the usual client that
    never bound its socket (`accept` stores the family and nothing else, the storage stays zero).
    With CONFIG_ALLOW_ADD_ONLY_FROM_LOCALHOST such a peer is refused `add`. -/
theorem local_bit_unix_unnamed (sunPath : List UInt8) (h : sunPath.length < 22) :
    isLocalhost AF_UNIX sunPath = false := by
  have hu : AF_UNIX ≠ AF_INET := by decide
  have hz := field_last_zero_of_short sunPath 6 15 (by omega)
  cases hl : isLocalhost AF_UNIX sunPath with
  | false => rfl
  | true =>
    rcases (local_bit_other_families AF_UNIX sunPath hu).mp hl with h1 | h1
    · simp [h1] at hz
    · simp [h1] at hz

example : isLocalhost AF_UNIX [] = false := by decide

/-- **local_bit_unix_pathname.**  A Unix-domain client bound to a file-system path (the kernel
    stores the path — no NUL inside — and its terminating NUL) is not classified as local either,
    whatever the path. -/
theorem local_bit_unix_pathname (path : List UInt8) (h : ∀ b ∈ path, b ≠ 0) :
    isLocalhost AF_UNIX (path ++ [0]) = false := by
  by_cases hlen : path.length < 21
  · exact local_bit_unix_unnamed _ (by simp; omega)
  · have hu : AF_UNIX ≠ AF_INET := by decide
    have h6 : 6 < path.length := by omega
    have hb : (field (path ++ [0]) 6 16)[0]'(by simp [field]) = path[6] := by
      rw [field_getElem]
      simp [List.getD_eq_getElem?_getD, List.getElem?_append_left, h6]
    have hnz : path[6] ≠ 0 := h _ (List.getElem_mem h6)
    cases hl : isLocalhost AF_UNIX (path ++ [0]) with
    | false => rfl
    | true =>
      rcases (local_bit_other_families AF_UNIX _ hu).mp hl with h1 | h1
      · simp [h1] at hb; exact absurd hb.symm hnz
      · simp [h1] at hb; exact absurd hb.symm hnz

/-- "/tmp/client-socket-name-x" -/
example : ∀ b ∈ ([47, 116, 109, 112, 47, 99, 108, 105, 101, 110, 116, 45, 115, 111, 99, 107, 101, 116, 45, 110, 97, 109,
    101, 45, 120] : List UInt8), b ≠ 0 := by decide

/-- **local_bit_unix_abstract_can_be_local.**  …but a Unix-domain client bound to an *abstract* name
    (leading NUL, arbitrary bytes, length given by the caller) is classified as local exactly when bytes
    6‥21 of the name spell `::1` or `::ffff:127.0.0.1`; such names exist.  So for AF_UNIX peers the bit
    is decided by the client's choice of name, not by the transport. -/
theorem local_bit_unix_abstract_can_be_local :
    isLocalhost AF_UNIX ([0, 120, 120, 120, 120, 120] ++ List.replicate 15 0 ++ [1]) = true ∧
    (∀ name : List UInt8, isLocalhost AF_UNIX name = true ↔
      (field name 6 16 = [0, 0, 0, 0, 0, 0, 0, 0, 0, 0, 0xff, 0xff, 127, 0, 0, 1] ∨
       field name 6 16 = [0, 0, 0, 0, 0, 0, 0, 0, 0, 0, 0, 0, 0, 0, 0, 1])) :=
  ⟨by decide, fun name => local_bit_other_families AF_UNIX name (by decide)⟩

end Cjet.Props.Accept
