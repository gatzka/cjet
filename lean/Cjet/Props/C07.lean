import Cjet.Lemmas.DaemonC07Own
import Cjet.Lemmas.Alloc
import Cjet.Props.Accept
import Cjet.Props.Startup
/-!
# C07 — all memory, descriptors and timers are reclaimed

Part A: theorems about the daemon model `Cjet.Daemon` (`step` / `run`).

Vocabulary
* a run `run cfg { users := us } ops` returns the final state and one observation list per
  operation; `(…).2.flatten` is the history, oldest observation first;
* `armed h` / `destroyed h` — the timer ids of the `timerArm` / `timerDestroy` observations of `h`,
  in order (with repetitions, if there were any);
* `s.nextTimer` — the number of timers created so far (`cjet_timer_init` of `set_or_call`): timer
  ids are handed out consecutively, so "created" is `t < s.nextTimer`;
* `heldTimers s` — the `timer` fields of the routing entries stored in the peers' tables;
* `C05.Reachable cfg s` — `s` is reached from an initial state (any user table) by some operations;
* `termOps s orc` — SIGTERM's `destroy_all_peers`: one teardown per peer, in peer-list order.

Assumed where stated (`OpOk`, `runWeight ops < 2^32`, both from C03): the `%p` token of every
connecting peer is non-empty and has no `_`, and the 32-bit id counter of the router has not
wrapped.  They make the routed ids pairwise distinct; without distinct ids a reply removes EVERY
entry with that id from the table but destroys one timer (see `docs/C07-proofs.md`).
-/

namespace Cjet.Props.C07

open Cjet Cjet.Json Cjet.Daemon Cjet.Daemon.C07
open Cjet.Daemon.C03 (destroyed OpOk runWeight opWeight)

/-! ## a concrete history for the non-vacuity examples (`exOps`, `exRun` of `DaemonC07Own`)
  peer 1 owns state "a"; peer 2 has two `set` requests in flight to it; the first is answered. -/

example : heldTimers exRun.1 = [1] ∧ exRun.1.nextTimer = 2 ∧
    armed exRun.2.flatten = [0, 1] ∧ destroyed exRun.2.flatten = [0] := exRun_eval.1

example : (∀ op ∈ exOps, OpOk op) ∧ runWeight exOps < 4294967296 := exOps_ok

/-! ## 1. the timer ledger -/

/-- No timer is destroyed twice, over the whole history of any run. -/
theorem no_double_destroy (cfg : Config) (us : List User) (ops : List Op) :
    (destroyed (run cfg { users := us } ops).2.flatten).Nodup := by
  have h := (ledgerU_run cfg ops _ [] (ledgerU_init us)).d.once
  simp only [C03.rsS, List.append_nil, destroyed_tlog] at h
  exact nodup_of_reverse h

/-- No timer is armed twice. -/
theorem no_double_arm (cfg : Config) (us : List User) (ops : List Op) :
    (armed (run cfg { users := us } ops).2.flatten).Nodup := by
  have h := (ledgerU_run cfg ops _ [] (ledgerU_init us)).a.armedOnce
  simp only [C03.rsS, List.append_nil, armed_tlog] at h
  exact nodup_of_reverse h

/-- Every destroyed timer had been created, and no stored routing entry still carries it
    (nothing refers to a destroyed timer). -/
theorem destroyed_were_created (cfg : Config) (us : List User) (ops : List Op) :
    let r := run cfg { users := us } ops
    ∀ t ∈ destroyed r.2.flatten, t < r.1.nextTimer ∧ t ∉ heldTimers r.1 := by
  intro r t ht
  have h := (ledgerU_run cfg ops _ [] (ledgerU_init us)).d.dead t
    (by simp only [C03.rsS, List.append_nil, destroyed_tlog]; exact List.mem_reverse.mpr ht)
  refine ⟨h.1, fun hm => ?_⟩
  obtain ⟨r', hr', e⟩ := (mem_heldTimers _).mp hm
  exact h.2 r' hr' e

/-- Every armed timer had been created. -/
theorem armed_were_created (cfg : Config) (us : List User) (ops : List Op) :
    let r := run cfg { users := us } ops
    ∀ t ∈ armed r.2.flatten, t < r.1.nextTimer := by
  intro r t ht
  exact (ledgerU_run cfg ops _ [] (ledgerU_init us)).a.armedLt t
    (by simp only [C03.rsS, List.append_nil, armed_tlog]; exact List.mem_reverse.mpr ht)

/-- A timer is never created silently: the created timers are exactly those that were armed or
    destroyed (a timer whose table insertion is refused is destroyed without having been armed). -/
theorem created_iff_observed (cfg : Config) (us : List User) (ops : List Op) :
    let r := run cfg { users := us } ops
    ∀ t, t < r.1.nextTimer ↔ (t ∈ armed r.2.flatten ∨ t ∈ destroyed r.2.flatten) := by
  intro r t
  have hU := ledgerU_run cfg ops _ [] (ledgerU_init us)
  constructor
  · intro ht
    have := hU.a.seen t ht
    simpa only [C03.rsS, List.append_nil, armed_tlog, destroyed_tlog, List.mem_reverse] using this
  · rintro (h | h)
    · exact armed_were_created cfg us ops t h
    · exact (destroyed_were_created cfg us ops t h).1

/-- Every stored routing entry carries its own timer (no two entries share one), and that timer
    has been created and armed and not destroyed. -/
theorem held_timers_live (cfg : Config) (us : List User) (ops : List Op) :
    let r := run cfg { users := us } ops
    (heldTimers r.1).Nodup ∧
    ∀ t ∈ heldTimers r.1, t < r.1.nextTimer ∧ t ∈ armed r.2.flatten ∧ t ∉ destroyed r.2.flatten := by
  intro r
  have hU := ledgerU_run cfg ops _ [] (ledgerU_init us)
  refine ⟨by rw [heldTimers_eq _ []]; exact hU.wf.timers, ?_⟩
  intro t ht
  obtain ⟨r', hr', e⟩ := (mem_heldTimers []).mp ht
  refine ⟨e ▸ hU.wf.timerLt r' hr', ?_, fun hd => (destroyed_were_created cfg us ops t hd).2 ht⟩
  have := hU.a.heldArmed r' (by simpa [C03.rsS] using hr')
  simp only [C03.rsS, List.append_nil, armed_tlog, List.mem_reverse] at this
  exact e ▸ this

/-- `timer_ledger`: at every point of every run, the timers that have been created (armed, or merely
    created) and not yet destroyed are exactly the timers of the routing entries stored in the
    peers' tables.  Together with `held_timers_live` (each such timer is held by exactly one
    entry): no timer is leaked and none is released while an entry still needs it.
    The direction "a created timer that is not destroyed is held by an entry" needs distinct routed
    ids (`OpOk`, no wrap of the id counter). -/
theorem timer_ledger (cfg : Config) (us : List User) (ops : List Op)
    (hok : ∀ op ∈ ops, OpOk op) (hb : runWeight ops < 4294967296) :
    let r := run cfg { users := us } ops
    ∀ t, t ∈ heldTimers r.1 ↔ (t < r.1.nextTimer ∧ t ∉ destroyed r.2.flatten) := by
  intro r t
  constructor
  · intro ht
    have := (held_timers_live cfg us ops).2 t ht
    exact ⟨this.1, this.2.2⟩
  · rintro ⟨h1, h2⟩
    have hC := (ledgerC_run cfg ops _ [] (ledgerC_init us) hok (by simpa using hb)).1
    rcases hC.acct t h1 with hd | hh
    · simp only [C03.rsS, List.append_nil, destroyed_tlog, List.mem_reverse] at hd
      exact absurd hd h2
    · exact (mem_heldTimers _).mpr hh

example : ∀ t, t ∈ heldTimers exRun.1 ↔ (t < exRun.1.nextTimer ∧ t ∉ destroyed exRun.2.flatten) :=
  timer_ledger {} [] exOps exOps_ok.1 exOps_ok.2

/-- Why `timer_ledger` needs distinct routed ids — a counterexample ON THE MODEL with address tokens
    that `%p` never prints: requesters 2 and 3 have the tokens `1_zz` and `zz`; their requests with
    the ids `"q"` and `"q_0"` get the same routed id `q_0_1_z` (counter values 0 and 1).  The
    owner's reply removes BOTH entries from its table (`HASHTABLE_REMOVE` by key; the model filters
    by id) but destroys only the first entry's timer: timer 1 is created, not destroyed, and held
    by no entry. -/
def cexReq (method : String) (id : String) (params : List (Bytes × Json)) : Json :=
  .obj [(k "method", mkStr method), (k "id", mkStr id), (k "params", .obj params)]
def cexOps : List Op :=
  [.connect 1 false true (k "0x1"), .connect 2 false true (k "1_zz"), .connect 3 false true (k "zz"),
   .message 1 (some (cexReq "add" "a" [(k "path", mkStr "a"), (k "value", exNum 1)])) {},
   .message 2 (some (cexReq "set" "q" [(k "path", mkStr "a"), (k "value", exNum 2)])) {},
   .message 3 (some (cexReq "set" "q_0" [(k "path", mkStr "a"), (k "value", exNum 3)])) {},
   .message 1 (some (.obj [(k "id", mkStr "q_0_1_z"), (k "result", .bool true)])) {}]

theorem timer_ledger_counterexample :
    let r := run {} {} cexOps
    (1 < r.1.nextTimer ∧ 1 ∉ destroyed r.2.flatten ∧ 1 ∉ heldTimers r.1) ∧ ¬ (∀ op ∈ cexOps, OpOk op) := by
  decide +kernel

/-! ## 2. the idle baseline -/

/-- `baseline_when_no_peers`: a reachable state without peers has an empty path index and holds no
    element, no fetch, no routing entry and no timer. -/
theorem baseline_when_no_peers (cfg : Config) (s : State) (hr : C05.Reachable cfg s) (h : s.peers = []) :
    s.index = [] ∧ s.peers.flatMap (·.elements) = [] ∧ s.peers.flatMap (·.fetches) = [] ∧
    s.peers.flatMap (·.routes) = [] ∧ heldTimers s = [] :=
  ⟨index_nil_of_no_peers hr.inv h, by simp [h], by simp [h], by simp [h], heldTimers_nil_of_no_peers h⟩

example : C05.Reachable {} (run {} exRun.1 (termOps exRun.1 (fun _ => {}))).1 ∧
    (run {} exRun.1 (termOps exRun.1 (fun _ => {}))).1.peers = [] :=
  ⟨(C05.Reachable.run ⟨[], exOps, rfl⟩ _), term_peers_nil {} (C05.Reachable.inv ⟨[], exOps, rfl⟩) _⟩

/-- … and every timer ever created has been destroyed, exactly once. -/
theorem baseline_timers (cfg : Config) (us : List User) (ops : List Op)
    (hok : ∀ op ∈ ops, OpOk op) (hb : runWeight ops < 4294967296) :
    let r := run cfg { users := us } ops
    r.1.peers = [] → ∀ t, t < r.1.nextTimer → (destroyed r.2.flatten).count t = 1 := by
  intro r hp t ht
  have hmem : t ∈ destroyed r.2.flatten := by
    apply Classical.byContradiction
    intro hn
    have := (timer_ledger cfg us ops hok hb t).mpr ⟨ht, hn⟩
    rw [heldTimers_nil_of_no_peers hp] at this
    cases this
  exact count_eq_one (no_double_destroy cfg us ops) hmem

/-- `disconnect_all_reaches_baseline`: from any reachable state, disconnecting a list of
    connections that covers every live one — in any order, repetitions and dead connections
    allowed, whatever the send results — leaves no peer and an empty index. -/
theorem disconnect_all_reaches_baseline (cfg : Config) (s : State) (hr : C05.Reachable cfg s)
    (ds : List (Nat × Oracle)) (hcov : ∀ p ∈ s.peers, p.conn ∈ ds.map (·.1)) :
    let s' := (run cfg s (ds.map (fun d => Op.disconnect d.1 d.2))).1
    s'.peers = [] ∧ s'.index = [] := by
  intro s'
  have hp : s'.peers = [] := disconnect_all cfg ds hr.inv (fun c hc => by
    obtain ⟨p, hp, rfl⟩ := C05.mem_conns.mp hc
    exact hcov p hp)
  exact ⟨hp, index_nil_of_no_peers (hr.run _).inv hp⟩

example : ∀ p ∈ exRun.1.peers, p.conn ∈ ([(2, ({} : Oracle)), (7, {}), (1, {})].map (·.1)) := by
  intro p hp
  have : p.conn ∈ [1, 2] := exRun_eval.2.1 ▸ C05.mem_conns.mpr ⟨p, hp, rfl⟩
  exact (by decide : ∀ c ∈ [1, 2], c ∈ [(2, ({} : Oracle)), (7, {}), (1, {})].map (·.1)) _ this

/-- `term_releases_all`: SIGTERM at any point of any run — `destroy_all_peers`, one teardown per
    peer in peer-list order, whatever the send results — leaves no peer, an empty index, no element,
    fetch or routing entry, and every timer created during the whole history destroyed exactly once. -/
theorem term_releases_all (cfg : Config) (us : List User) (ops : List Op) (orc : Nat → Oracle)
    (hok : ∀ op ∈ ops, OpOk op) (hb : runWeight ops < 4294967296) :
    let s := (run cfg { users := us } ops).1
    let r := run cfg { users := us } (ops ++ termOps s orc)
    r.1.peers = [] ∧ r.1.index = [] ∧ heldTimers r.1 = [] ∧
    ∀ t, t < r.1.nextTimer → (destroyed r.2.flatten).count t = 1 := by
  intro s r
  have hreach : C05.Reachable cfg s := ⟨us, ops, rfl⟩
  have hp : r.1.peers = [] := by
    show (run cfg { users := us } (ops ++ termOps s orc)).1.peers = []
    rw [run_append]
    exact term_peers_nil cfg hreach.inv orc
  have hok' : ∀ op ∈ ops ++ termOps s orc, OpOk op := by
    intro op hop
    rcases List.mem_append.mp hop with h | h
    · exact hok op h
    · obtain ⟨p, _, rfl⟩ := List.mem_map.mp h
      trivial
  have hw : runWeight (ops ++ termOps s orc) = runWeight ops := by
    have : runWeight (termOps s orc) = 0 :=
      C03.sum_map_eq_zero fun op hop => by obtain ⟨p, _, rfl⟩ := List.mem_map.mp hop; rfl
    simp only [runWeight, List.map_append, List.sum_append] at this ⊢
    omega
  refine ⟨hp, index_nil_of_no_peers (C05.Reachable.inv ⟨us, _, rfl⟩) hp, heldTimers_nil_of_no_peers hp, ?_⟩
  exact baseline_timers cfg us _ hok' (by rw [hw]; exact hb) hp

example : let r := run {} {} (exOps ++ termOps exRun.1 (fun _ => {}))
    r.1.nextTimer = 2 ∧ destroyed r.2.flatten = [0, 1] := exRun_eval.2.2

/-! ## 3. ownership: every object has exactly one owner; a teardown releases exactly the leaver's -/

/-- `objects_owned_once`: in every reachable state every element is in exactly one peer's list
    (paths pairwise different over all lists) and has exactly one index entry, every fetch is in
    exactly one peer's list (uids pairwise different), every routing entry is in exactly one table —
    the one of the peer it names as owner — and carries its own timer. -/
theorem objects_owned_once (cfg : Config) (us : List User) (ops : List Op) :
    let s := (run cfg { users := us } ops).1
    (elemPaths s).Nodup ∧ (s.index.map (·.1)).Perm (elemPaths s) ∧
    (fetchUids s).Nodup ∧
    (heldTimers s).Nodup ∧ (∀ p ∈ s.peers, ∀ r ∈ p.routes, r.owner = p.conn) ∧
    (∀ p ∈ s.peers, ∀ e ∈ p.elements, e.owner = p.conn) := by
  intro s
  have h5 : C05.Inv s := C05.run_inv (C05.inv_init us) ops
  have h1 : C01.Inv cfg s := by
    obtain ⟨tr, h, _⟩ := C01.run_exec (cfg := cfg) ops (C01.inv_init cfg us)
    exact h.inv (C01.inv_init cfg us)
  exact ⟨elemPaths_nodup h5, index_perm_elemPaths h5, fetchUids_nodup h1,
    (held_timers_live cfg us ops).1, fun p hp r hr => (h5.routes p hp r hr).1, h5.owner⟩

/-- `close_releases_exactly`: a closing step (`C05.Closes`: a `disconnect c`, or a message of `c`
    the daemon rejects; `x` is the working context when `free_peer_resources` starts, `x.st = s` for
    a disconnect) takes away, as multisets, exactly: the elements and fetches of the leaving peer's
    own lists, the routing entries of its own table and its own requests in the other tables
    (`requestedBy`), with their timers — which are exactly the timers the teardown destroys — and the
    leaver's index entries.  Every other object is still there, once. -/
theorem close_releases_exactly (cfg : Config) (s : State) (hr : C05.Reachable cfg s) (op : Op) (c : Nat)
    (x : Ctx) (hx : C05.Closes cfg s op c x) (p : Peer) (hp : findPeer x.st.peers c = some p) :
    let s' := (step cfg s op).1
    (elemPaths x.st).Perm (p.elements.map (·.path) ++ elemPaths s') ∧
    (fetchUids x.st).Perm (p.fetches.map (·.uid) ++ fetchUids s') ∧
    (allRoutes x.st).Perm (p.routes ++ requestedBy x.st c ++ allRoutes s') ∧
    (heldTimers x.st).Perm ((p.routes ++ requestedBy x.st c).map (·.timer) ++ heldTimers s') ∧
    destroyed (step cfg s op).2 = destroyed x.out.reverse ++ (p.routes ++ requestedBy x.st c).map (·.timer) ∧
    s'.index = x.st.index.filter (·.2 != c) ∧ s'.peers.map (·.conn) = (x.st.peers.map (·.conn)).filter (· != c) := by
  intro s'
  have hI := hr.inv
  have hIx := hx.inv hI
  have hs' : s' = C05.afterClose x.st c := hx.st_eq hI
  have hroutes := allRoutes_split hIx.nodup hp
  refine ⟨?_, ?_, ?_, ?_, closes_destroyed hI hx hp, ?_, ?_⟩
  · rw [hs', elemPaths_afterClose]
    exact peers_split hIx.nodup hp _
  · rw [hs', fetchUids_afterClose]
    exact peers_split hIx.nodup hp _
  · rw [hs']; exact hroutes
  · rw [hs', heldTimers_eq_map, heldTimers_eq_map, ← List.map_append]
    exact hroutes.map _
  · rw [hs']; rfl
  · rw [hs']; exact C05.conns_afterClose x.st c

example : C05.Closes {} exRun.1 (.disconnect 1 {}) 1 (mkCtx exRun.1 {}) ∧
    (findPeer (mkCtx exRun.1 {}).st.peers 1).isSome = true := by
  have h : 1 ∈ C05.conns exRun.1.peers := exRun_eval.2.1 ▸ List.mem_cons_self
  refine ⟨⟨h, Or.inl ⟨_, rfl, rfl⟩⟩, ?_⟩
  rw [mkCtx_st]
  exact C05.findPeer_isSome.mpr h

/-! ## B. the allocator (`src/alloc.c`, model `Cjet.Alloc`)

`P : Params` is the configuration (cap in KByte, the factor 1024, sizeof(size_t)); `P.Ok` says the
cap is at most half the address space — true for the tree's configuration (`default_params_ok`);
`OsOk P op` is the assumption about the operating system: a request of 2^63 bytes or more is never
granted.  All arithmetic of the model is size_t arithmetic (modulo 2^64). -/

section AllocPart
open Cjet.Alloc

/-- the cap of the unchanged tree (generated from cmake/defaults.cmake) satisfies `Params.Ok` -/
theorem default_params_ok : defaultParams.Ok := by decide

def exAllocOps : List Alloc.Op :=
  [.malloc 10 true, .calloc 3 5 true, .malloc 100 false, .malloc 20971520 true, .free 0, .free 7]

example : (∀ op ∈ exAllocOps, OsOk defaultParams op) ∧
    (Alloc.run defaultParams Alloc.init exAllocOps).2 =
      [(.ptr 0, 18), (.ptr 1, 41), (.null, 41), (.null, 41), (.freed, 23), (.nofree, 23)] := by
  decide +kernel

/-- `cap_respected`: after every operation of every sequence the accounted heap is at most the
    cap (`cjet_get_alloc_size() ≤ CONFIG_MAX_HEAPSIZE_IN_KBYTE * 1024`). -/
theorem cap_respected (P : Params) (hP : P.Ok) (ops : List Alloc.Op) (hos : ∀ op ∈ ops, OsOk P op) :
    (∀ o ∈ (Alloc.run P Alloc.init ops).2, o.2 ≤ P.capBytes) ∧
    (Alloc.run P Alloc.init ops).1.allocated ≤ P.capBytes :=
  ⟨(inv_run hP ops (inv_init P) hos).2, (inv_run hP ops (inv_init P) hos).1.cap⟩

/-- `accounting_exact`: the counter is the sum of the header words of the live blocks — each of
    them the `alloc_size` = request + sizeof(size_t) of its allocation (`granted_block`) — and the
    live blocks have pairwise different ids. -/
theorem accounting_exact (P : Params) (hP : P.Ok) (ops : List Alloc.Op) (hos : ∀ op ∈ ops, OsOk P op) :
    let s := (Alloc.run P Alloc.init ops).1
    s.allocated = (s.live.map (·.2)).sum ∧ (s.live.map (·.1)).Nodup :=
  ⟨(inv_run hP ops (inv_init P) hos).1.acc, (inv_run hP ops (inv_init P) hos).1.nodup⟩

/-- a granted request appends one block whose header word is request + header (when that sum
    does not wrap) and adds exactly that to the counter (modulo 2^64 — no wrap under `OsOk`) -/
theorem granted_block (P : Params) (s : St) (bytes : Nat) (osOk : Bool)
    (h : (alloc P s bytes osOk).2 ≠ .null) (hnw : bytes % W + P.hdr < W) :
    (alloc P s bytes osOk).2 = .ptr s.next ∧
    (alloc P s bytes osOk).1.live = s.live ++ [(s.next, bytes % W + P.hdr)] ∧
    (alloc P s bytes osOk).1.allocated = (s.allocated + (bytes % W + P.hdr)) % W := by
  rw [alloc_granted h]
  simp [allocSize, Nat.mod_eq_of_lt hnw]

example : (alloc defaultParams {} 10 true).2 ≠ .null ∧ 10 % W + defaultParams.hdr < W := by decide +kernel

/-- `refusal_changes_nothing`: a refused allocation (cap reached or OS failure) and a free of
    nothing leave the counter and the live blocks exactly as they were. -/
theorem refusal_changes_nothing (P : Params) (s : St) (op : Alloc.Op)
    (h : (Alloc.step P s op).2 = .null ∨ (Alloc.step P s op).2 = .nofree) : (Alloc.step P s op).1 = s := by
  -- an allocation answers `null` or a pointer
  have halloc : ∀ bytes osOk, ((alloc P s bytes osOk).2 = .null ∨ (alloc P s bytes osOk).2 = .nofree) →
      (alloc P s bytes osOk).1 = s := by
    intro bytes osOk h
    by_cases hn : (alloc P s bytes osOk).2 = .null
    · exact alloc_null hn
    · rw [alloc_granted hn] at h
      rcases h with h | h <;> cases h
  cases op with
  | malloc size osOk => exact halloc _ _ h
  | calloc nmemb size osOk => exact halloc _ _ h
  | free id =>
    rcases h with h | h
    · have : (Alloc.free s id).2 = .null := h
      unfold Alloc.free at this
      split at this <;> cases this
    · exact free_nofree h

example : (Alloc.step defaultParams {} (.malloc 20971520 true)).2 = .null := by decide +kernel

/-- the cap test exactly as written: a request is refused iff
    `allocated_memory + alloc_size > CONFIG_MAX_HEAPSIZE_IN_KBYTE * 1024` (size_t arithmetic) or
    the underlying malloc/calloc fails -/
theorem refusal_iff (P : Params) (s : St) (bytes : Nat) (osOk : Bool) :
    (alloc P s bytes osOk).2 = .null ↔
      ((s.allocated + allocSize P bytes) % W > P.capBytes ∨ osOk = false) :=
  alloc_null_iff P s bytes osOk

/-- `free_returns_to_baseline`: from the state after any sequence, freeing a list of ids that covers
    every live block (any order; repetitions and dead ids are no-ops) brings the counter back to 0. -/
theorem free_returns_to_baseline (P : Params) (hP : P.Ok) (ops : List Alloc.Op) (hos : ∀ op ∈ ops, OsOk P op)
    (l : List Nat) (hcov : ∀ e ∈ (Alloc.run P Alloc.init ops).1.live, e.1 ∈ l) :
    (freeAll (Alloc.run P Alloc.init ops).1 l).allocated = 0 ∧
    (freeAll (Alloc.run P Alloc.init ops).1 l).live = [] := by
  have := freeAll_empties (P := P) l (inv_run hP ops (inv_init P) hos).1 (fun i hi => by
    obtain ⟨e, he, rfl⟩ := List.mem_map.mp hi
    exact hcov e he)
  exact ⟨this.2, this.1⟩

example : ∀ e ∈ (Alloc.run defaultParams Alloc.init exAllocOps).1.live, e.1 ∈ [5, 1, 0] := by decide +kernel

end AllocPart

/-! ### descriptor hygiene of the accept path (linux_io.c): every accepted descriptor is owned by one connection or closed once, on every failure path -/

theorem accept_fd_closed_or_owned_exactly_once : type_of% @Cjet.Props.Accept.fd_closed_or_owned_exactly_once := @Cjet.Props.Accept.fd_closed_or_owned_exactly_once
theorem accept_fd_discipline_monitor : type_of% @Cjet.Props.Accept.fd_discipline_monitor := @Cjet.Props.Accept.fd_discipline_monitor
theorem accept_no_leak_of_peer_or_bs : type_of% @Cjet.Props.Accept.no_leak_of_peer_or_bs := @Cjet.Props.Accept.no_leak_of_peer_or_bs
theorem accept_init_failure_releases_both : type_of% @Cjet.Props.Accept.init_failure_releases_both := @Cjet.Props.Accept.init_failure_releases_both
theorem accept_start_server_unwinds : type_of% @Cjet.Props.Accept.start_server_unwinds := @Cjet.Props.Accept.start_server_unwinds
theorem accept_stop_server_closes_listener : type_of% @Cjet.Props.Accept.stop_server_closes_listener := @Cjet.Props.Accept.stop_server_closes_listener

/-! ### start-up and shut-down of run_io (linux_io.c): whatever step fails, every listener descriptor is closed once and after its removal from the loop; connections accepted meanwhile are released (code as repaired, F66) -/

theorem startup_releases_all_listeners : type_of% @Cjet.Props.Startup.startup_releases_all_listeners := @Cjet.Props.Startup.startup_releases_all_listeners
theorem startup_failure_releases_all : type_of% @Cjet.Props.Startup.startup_failure_releases_all := @Cjet.Props.Startup.startup_failure_releases_all
theorem startup_peer_leak_before_fix : type_of% @Cjet.Props.Startup.startup_failure_releases_all_counterexample := @Cjet.Props.Startup.startup_failure_releases_all_counterexample
theorem startup_remove_before_close : type_of% @Cjet.Props.Startup.remove_before_close := @Cjet.Props.Startup.remove_before_close
theorem startup_no_use_after_close : type_of% @Cjet.Props.Startup.no_use_after_close := @Cjet.Props.Startup.no_use_after_close
theorem startup_success_owns_exactly : type_of% @Cjet.Props.Startup.startup_success_owns_exactly := @Cjet.Props.Startup.startup_success_owns_exactly
theorem shutdown_releases_all : type_of% @Cjet.Props.Startup.shutdown_releases_all := @Cjet.Props.Startup.shutdown_releases_all
theorem shutdown_order : type_of% @Cjet.Props.Startup.shutdown_order := @Cjet.Props.Startup.shutdown_order
theorem startup_error_reported : type_of% @Cjet.Props.Startup.error_reported := @Cjet.Props.Startup.error_reported

end Cjet.Props.C07
