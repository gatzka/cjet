import Cjet.Deflate
import Cjet.Lemmas.DeflateReasm
import Cjet.Lemmas.DeflateBytes
import Cjet.Lemmas.DeflateNego
import Cjet.Lemmas.DeflateReads
import Cjet.Lemmas.DeflateFrames
/-!
# C19 — permessage-deflate: lossless round trip, bounded memory, legal negotiation

Level: the bookkeeping of `compression.c` and the negotiation of `websocket.c` are proved; zlib is an
ASSUMPTION (hypotheses `hTail`, `hInv`, `hBound` of `roundtrip_given_zlib`: statements about the oracle
only), so losslessness rests on zlib and is only sampled by the correspondence runs.  What needs no
assumption about zlib — memory safety of the sender and "a complete message or an error, never a cut-off
stream" — is proved for EVERY zlib output (`compress_never_truncates`,
`compress_no_oob_for_any_zlib_output`).

The model (`Cjet.Deflate`) follows the tree: `reasmGrowLoops` / `reasmNoBufferGuard` / `compressStrict` /
`sendChecked` are regenerated from the source and say whether fixes F23 / F36 / F37 are present
(`fragFlagClearedByOpcode`: whether `ws_handle_frame` clears `is_frag_compressed` for frames picked by their opcode); the
theorems about "the code now" are stated over these names, so re-introducing one of the defects breaks the
build of this file.
-/
namespace Cjet.Props.C19
open Cjet Cjet.Deflate Cjet.Generated.Deflate

/-! ## fragment reassembly -/

/-- The code BEFORE fix F23 (one doubling per fragment): every copy stays inside the buffer exactly when
    every fragment that finds a buffer is at most (free space + capacity) long. -/
theorem reassemble_in_bounds_iff (sizes : List Nat) :
    allInBounds (run false RState.init sizes) = true ↔ fitsOnce RState.init sizes :=
  run_once_iff sizes RState.init (Nat.le_refl 0)

/-- … for two fragments: after a first fragment of `a ≥ 3` bytes the second one may have `5a + 4`. -/
theorem reassemble_two_fragments (a b : Nat) (ha : 3 ≤ a) :
    allInBounds (run false RState.init [a, b]) = true ↔ b ≤ 5 * a + 4 := by
  rw [reassemble_in_bounds_iff]
  have hf : (RState.init.avail == 0) = true := rfl
  have hng : needsGrow (alloc a) a = false := by
    simp [needsGrow, alloc, reasmFactor, reasmHeader, reasmSlack]; omega
  have hs : (stepCopy false RState.init a).2 = ⟨a * 3 + 4, a * 3 - a⟩ := by
    simp [stepCopy, hf, grow, growOnce, hng, alloc_cap, alloc_avail]
  have ha0 : ¬ a = 0 := by omega
  by_cases hb : b = 0
  · subst hb
    simp [fitsOnce, ha0, RState.init]
  · simp only [fitsOnce, ha0, hb, if_false, hs, and_true]
    constructor
    · rintro ⟨_, h | h⟩ <;> omega
    · intro h; exact ⟨Or.inl rfl, Or.inr (by omega)⟩

example : (3 : Nat) ≤ 10 := by decide

/-- F23: fragments [10, 1000] (and already [10, 55]) are copied past the once-doubled buffer. -/
theorem reassemble_counterexample :
    allInBounds (run false RState.init [10, 1000]) = false ∧
    allInBounds (run false RState.init [10, 55]) = false ∧
    allInBounds (run false RState.init [10, 54]) = true := by
  decide

/-- The code NOW (growth statement as regenerated from `compression.c`): for ALL fragment size sequences
    every copy stays inside the buffer … -/
theorem reassemble_in_bounds (sizes : List Nat) :
    allInBounds (run reasmGrowLoops RState.init sizes) = true :=
  (run_loop_good sizes RState.init 0 good_init).1

/-- … lands directly behind the bytes stored before it (offset 4 + bytes so far; in particular the buffer
    is never started afresh in the middle of a message) … -/
theorem reassemble_contiguous (sizes : List Nat) :
    contiguousFrom 0 (run reasmGrowLoops RState.init sizes) = true :=
  (run_loop_good sizes RState.init 0 good_init).2.1

/-- … and the buffer stays linear in the bytes received (`compression.c` has no message limit of its own:
    this is the only bound there is); `avail_in == 0` means exactly "nothing stored". -/
theorem reassemble_cap_le (sizes : List Nat) :
    (stateAfter reasmGrowLoops RState.init sizes).cap ≤ 6 * sizes.sum + 16 ∧
    ((stateAfter reasmGrowLoops RState.init sizes).avail = 0 ↔ sizes.sum = 0) := by
  have h := (run_loop_good sizes RState.init 0 good_init).2.2
  rw [Nat.zero_add] at h
  exact ⟨h.1, h.avail_eq_zero_iff⟩

/-- The whole receive path for a fragmented compressed message, code NOW, ANY fragments (empty ones, all
    empty, a huge later one) and ANY inflater: never a copy outside the buffer, never the buffer pointer
    used without a buffer. -/
theorem frames_memory_safe (inflate : Bytes → Option Bytes) (frs : List Bytes) :
    recvFramesNow inflate RBuf.init frs ≠ Recv.wild :=
  recvFrames_ne_wild inflate frs bufInv_init

/-- F36, the code before the fix: two empty fragments, the second final — the size word is read through
    a pointer that was never set. -/
theorem no_buffer_counterexample :
    recvFrames true false (fun _ => none) RBuf.init [[], []] = Recv.wild := by
  decide

/-! ## tail, output buffers -/

/-- strip-then-reappend is the identity on streams that end with the tail … -/
theorem tail_roundtrip (s : Bytes) (ht : endsWithTail s = true) : stripTail s ++ tail = s :=
  strip_append_tail s ht

example : endsWithTail [0x72, 0x04, 0x00, 0x00, 0x00, 0xff, 0xff] = true := by decide

/-- … and on no other stream: that is why the repaired `websocket_compress_bounded` answers -1 for a
    wrong tail (before F37 it only logged the mismatch and still returned the shortened data). -/
theorem tail_mismatch (s : Bytes) (ht : endsWithTail s = false) :
    stripTail s ++ tail ≠ s := by
  intro h
  have := endsWithTail_append (stripTail s)
  rw [h, ht] at this
  cases this

example : endsWithTail [1, 2, 3, 4, 5] = false := by decide

/-- the inflate output loop: for a non-empty initial buffer `have` is the number of bytes inflated, and
    every `inflate` call was given room inside the (doubled) buffer directly behind the previous one -/
theorem outloop_bookkeeping (total s0 : Nat) (h : 0 < s0) :
    outHave total s0 = total ∧ chunksFrom 0 (outLoop (total + 2) total ⟨s0, s0, 0⟩).1 :=
  ⟨outHave_eq total s0 h, (outLoop_spec _ _ ⟨s0, s0, 0⟩ h (Nat.zero_add s0)).1⟩

example : 0 < inflateOutFactor * 1 := by decide

/-! ## the sender, for every behaviour of zlib -/

/-- For EVERY zlib (any output, of any length, ending in anything — or an error) and EVERY destination
    size: when the compressor answers with data, that data followed by the tail is the COMPLETE output
    zlib has for the message (nothing is left pending in zlib to lead the next message) and it was strictly
    shorter than the destination; otherwise it answers -1.  Likewise `send_frame`, also when `malloc` fails:
    a frame with the complete message, or -1 — never a negative value used as a length. -/
theorem compress_never_truncates (zd : Bytes → Option Bytes) (destSize : Nat) (x : Bytes) :
    (compressNow zd destSize x = .error ∨
      ∃ c, compressNow zd destSize x = .ok c true ∧ zd x = some (c ++ tail) ∧ (c ++ tail).length < destSize) ∧
    ∀ (mallocOk : Bool) (dbound : Nat → Nat),
      sendFrame compressStrict sendChecked mallocOk dbound zd x = .error ∨
      ∃ c, sendFrame compressStrict sendChecked mallocOk dbound zd x = .sent c ∧ zd x = some (c ++ tail) := by
  simp only [compressNow, show compressStrict = true from rfl, show sendChecked = true from rfl]
  refine ⟨compress_strict_spec zd destSize x, fun mallocOk dbound => ?_⟩
  cases mallocOk with
  | false => exact Or.inl rfl
  | true =>
    rw [sendFrame_checked]
    rcases compress_strict_spec zd (compressBound dbound x.length) x with h | ⟨c, h, hz, -⟩
    · rw [h]; exact Or.inl rfl
    · rw [h]; exact Or.inr ⟨c, rfl, hz⟩

/-- For EVERY zlib output and EVERY destination size the compressor stays inside `dest`: zlib is handed
    `destSize` bytes and stores no more, the tail check reads only indices `0 ≤ i < written` (bytes just
    stored — before F37 `dest[have - 4]` with `have < 4`), the model's `wild` never happens; at level 0
    the payload is copied only into a destination that holds it. -/
theorem compress_no_oob_for_any_zlib_output (zd : Bytes → Option Bytes) (destSize : Nat) (x : Bytes) :
    (compressAccess compressStrict zd destSize x).written ≤ destSize ∧
    (∀ i ∈ (compressAccess compressStrict zd destSize x).reads,
      0 ≤ i ∧ i < Int.ofNat (compressAccess compressStrict zd destSize x).written) ∧
    compressNow zd destSize x ≠ .wild ∧
    (compressCopy compressStrict destSize x = .error ∨
      (compressCopy compressStrict destSize x = .ok x true ∧ x.length ≤ destSize)) := by
  simp only [compressNow, show compressStrict = true from rfl]
  refine ⟨(compressAccess_strict zd destSize x).1, (compressAccess_strict zd destSize x).2, ?_, ?_⟩
  · rcases compress_strict_spec zd destSize x with h | ⟨c, h, -⟩ <;> rw [h] <;> nofun
  · rw [compressCopy_strict]
    by_cases h : destSize < x.length
    · exact Or.inl (if_pos h)
    · exact Or.inr ⟨if_neg h, Nat.le_of_not_lt h⟩

/-! ## round trip, given zlib -/

/-- ASSUMING zlib for this message — `hTail`: a sync/full flush ends with `00 00 ff ff` behind at least
    one byte; `hInv`: inflate undoes deflate (for the negotiated window bits and context takeover settings,
    which live inside the two functions); `hBound`: zlib's documented size contract, the output is at most
    `deflateBound(length)` plus the flush marker of at most `flushMarkerMax` bytes — `send_frame` sends the
    message, and decompressing it — as one message or cut into ANY fragments — returns the payload.
    Every hypothesis is about the oracle only; none restricts the payload. -/
theorem roundtrip_given_zlib (zdeflate : Bytes → Option Bytes) (zinflate : Bytes → Option Bytes)
    (dbound : Nat → Nat) (x body : Bytes)
    (hTail : zdeflate x = some (body ++ tail) ∧ body ≠ [])
    (hInv : zinflate (body ++ tail) = some x)
    (hBound : (body ++ tail).length ≤ dbound x.length + flushMarkerMax) :
    sendFrameNow dbound zdeflate x = .sent body ∧
      recvMessage zinflate body = .ok x ∧
      ∀ frs : List Bytes, frs ≠ [] → frs.flatten = body → recvFramesNow zinflate RBuf.init frs = .ok x := by
  obtain ⟨hb, hne⟩ := hTail
  have hmsg : recvMessage zinflate body = .ok x := by
    rw [recvMessage, privateDecompress_eq zinflate hne, hInv]
  have hc : compress true zdeflate (compressBound dbound x.length) x = .ok body true :=
    compress_strict_ok hb (by simp only [compressBound, flushSpare]; omega)
  refine ⟨?_, hmsg, fun frs hn hf => ?_⟩
  · show sendFrame true true true dbound zdeflate x = .sent body
    rw [sendFrame_checked, hc]
  · show recvFrames true true zinflate RBuf.init frs = .ok x
    rw [recvFrames_eq zinflate frs hn RBuf.init 0 [] bufInv_init, List.nil_append, hf, if_neg hne, hmsg]

/-- the hypotheses are satisfiable, for a ONE-byte payload and for the empty one (the triggers of F37):
    a "stored" codec (`0 :: x ++ tail`) with zlib's conservative `deflateBound` formula -/
example : ∃ (zd : Bytes → Option Bytes) (zi : Bytes → Option Bytes) (dbound : Nat → Nat),
    ∀ x : Bytes, (zd x = some ((0 :: x) ++ tail) ∧ (0 :: x) ≠ []) ∧ zi ((0 :: x) ++ tail) = some x ∧
      ((0 :: x) ++ tail).length ≤ dbound x.length + flushMarkerMax :=
  ⟨fun x => some (storedDeflate x), fun s => some (storedInflate s), storedBound,
    fun x => ⟨⟨rfl, nofun⟩, congrArg some (storedInflate_deflate x), storedDeflate_length_le x⟩⟩

/-- ASSUMING zlib as a pair of coupled state machines (`R` relates a deflate state to the inflate state
    of the other endpoint: from related states, deflate's output ends with the tail behind at least one byte
    and respects the size contract `deflateBound + flushMarkerMax`, inflate returns the payload, and the
    successor states are related again): ANY sequence of ANY messages, each cut into ANY fragments, arrives
    unchanged — the bookkeeping of `compression.c` carries nothing from one message to the next. -/
theorem roundtrip_session_given_zlib {σd σi : Type}
    (dbound : Nat → Nat)
    (deflate : σd → Bytes → Bytes × σd) (inflate : σi → Bytes → Option (Bytes × σi))
    (R : σd → σi → Prop)
    (hz : ∀ sd si, R sd si → ∀ x, ∃ body si', body ≠ [] ∧ (deflate sd x).1 = body ++ tail ∧
        (deflate sd x).1.length ≤ dbound x.length + flushMarkerMax ∧
        inflate si (deflate sd x).1 = some (x, si') ∧ R (deflate sd x).2 si')
    (cut : Bytes → List Bytes) (hcut : ∀ c, cut c ≠ [] ∧ (cut c).flatten = c)
    (msgs : List Bytes) (sd : σd) (si : σi) (hR : R sd si) :
    sessionOk dbound deflate inflate cut sd si msgs := by
  induction msgs generalizing sd si with
  | nil => trivial
  | cons x rest ih =>
    obtain ⟨body, si', hne, hb, hbd, hi, hR'⟩ := hz sd si hR x
    rw [hb] at hbd hi
    obtain ⟨hc, -, hfr⟩ := roundtrip_given_zlib (fun y => some (deflate sd y).1) (fun s => (inflate si s).map (·.1))
      dbound x body ⟨congrArg some hb, hne⟩ (congrArg (Option.map (·.1)) hi) hbd
    simp only [sessionOk, hc, hi]
    exact ⟨hfr (cut body) (hcut body).1 (hcut body).2, ih (deflate sd x).2 si' hR'⟩

/-- the hypotheses are satisfiable: a stateful "stored" codec that counts messages, one-byte fragments -/
example : ∃ (dbound : Nat → Nat) (deflate : Nat → Bytes → Bytes × Nat) (inflate : Nat → Bytes → Option (Bytes × Nat))
    (R : Nat → Nat → Prop) (cut : Bytes → List Bytes),
    (∀ sd si, R sd si → ∀ x, ∃ body si', body ≠ [] ∧ (deflate sd x).1 = body ++ tail ∧
        (deflate sd x).1.length ≤ dbound x.length + flushMarkerMax ∧
        inflate si (deflate sd x).1 = some (x, si') ∧ R (deflate sd x).2 si') ∧
    (∀ c, cut c ≠ [] ∧ (cut c).flatten = c) ∧ R 0 0 :=
  ⟨storedBound, fun n x => (storedDeflate x, n + 1), fun n s => some (storedInflate s, n + 1),
    fun a b => a = b, fun c => [] :: c.map (fun b => [b]),
    fun sd si h x => ⟨0 :: x, si + 1, nofun, rfl, storedDeflate_length_le x,
      congrArg (fun y => some (y, si + 1)) (storedInflate_deflate x), congrArg (· + 1) h⟩,
    fun c => ⟨by simp, by induction c with
      | nil => rfl
      | cons a r ih => simpa using ih⟩,
    rfl⟩

/-- F37, the code BEFORE the repair (`strict = checked = false`: `2 * length` bytes for zlib, nothing
    checked), with a zlib that satisfies all three assumptions: a one-byte payload makes the tail check read
    outside `dest`, the empty payload is answered with -1, and `send_frame` uses either as the frame. -/
theorem roundtrip_counterexample_before_fix :
    ∃ (zd : Bytes → Option Bytes) (zi : Bytes → Option Bytes) (dbound : Nat → Nat),
      (∀ x : Bytes, (zd x = some ((0 :: x) ++ tail) ∧ (0 :: x) ≠ []) ∧ zi ((0 :: x) ++ tail) = some x ∧
        ((0 :: x) ++ tail).length ≤ dbound x.length + flushMarkerMax) ∧
      compressWrapper false zd [0x41] = .wild ∧ compressWrapper false zd [] = .error ∧
      sendFrame false false true dbound zd [0x41] = .bogus .wild ∧
      sendFrame false false true dbound zd [] = .bogus .error ∧
      (∃ i ∈ (compressAccess false zd 2 [0x41]).reads, i < 0) :=
  ⟨fun x => some (storedDeflate x), fun s => some (storedInflate s), storedBound,
    fun x => ⟨⟨rfl, nofun⟩, congrArg some (storedInflate_deflate x), storedDeflate_length_le x⟩,
    by decide, by decide, by decide, by decide, ⟨-1, by decide, by decide⟩⟩

/-! ## round trip for every presentation on the wire: fragments with control frames in between -/

/-- ASSUMING zlib as in `roundtrip_given_zlib`: the message `send_frame` produces arrives unchanged in EVERY legal
    presentation of its compressed body through `ws_handle_frame` — unfragmented, or cut into any fragments
    (`f0`, then the `p.2`; empty ones included) with ANY sequence of ping / pong frames (`p.1`, at most 125 bytes
    each) in front of ANY continuation frame (RFC 6455 §5.4).  Every ping is answered by a pong with the same
    payload, in order; the payload is delivered exactly once (message callback when unfragmented, frame callback
    with `last` otherwise); and the connection is back in its initial state — flags clear, nothing left in the
    reassembly buffer — so the next message starts from scratch. -/
theorem roundtrip_interleaved_given_zlib (zdeflate : Bytes → Option Bytes) (zinflate : Bytes → Option Bytes)
    (dbound : Nat → Nat) (closeCode : Bytes → Nat) (x body : Bytes)
    (hTail : zdeflate x = some (body ++ tail) ∧ body ≠ [])
    (hInv : zinflate (body ++ tail) = some x)
    (hBound : (body ++ tail).length ≤ dbound x.length + flushMarkerMax) :
    sendFrameNow dbound zdeflate x = .sent body ∧
      ∀ (op : Nat), (op = opText ∨ op = opBinary) →
      ∀ (f0 : Bytes) (rest : List (List Ctl × Bytes)), f0 ++ (rest.map (·.2)).flatten = body →
        (∀ p ∈ rest, ∀ k ∈ p.1, k.payload.length ≤ wsSmallFrame) →
        runFramesNow zinflate closeCode Conn.init (present op f0 rest) =
          (presentEvents op x rest, some Conn.init) := by
  obtain ⟨hs, hmsg, _⟩ := roundtrip_given_zlib zdeflate zinflate dbound x body hTail hInv hBound
  refine ⟨hs, fun op hop f0 rest hcut hctl => ?_⟩
  show runFrames false true true zinflate closeCode Conn.init (present op f0 rest) = _
  exact runFrames_present zinflate closeCode op hop body x f0 rest hcut hctl hTail.2 hmsg

/-- the hypotheses are satisfiable and the statement is about something: the "stored" codec, the payload `AB`,
    body `00 41 42` cut into three fragments (the second empty) with a ping, a pong and an empty ping in between -/
example : ∃ (zd zi : Bytes → Option Bytes) (dbound : Nat → Nat) (x body f0 : Bytes) (rest : List (List Ctl × Bytes)),
    (zd x = some (body ++ tail) ∧ body ≠ []) ∧ zi (body ++ tail) = some x ∧
    (body ++ tail).length ≤ dbound x.length + flushMarkerMax ∧
    f0 ++ (rest.map (·.2)).flatten = body ∧ (∀ p ∈ rest, ∀ k ∈ p.1, k.payload.length ≤ wsSmallFrame) ∧
    presentEvents opBinary x rest = [.pong [1, 2], .pong [], .frame opBinary x true] :=
  ⟨fun x => some ((0 :: x) ++ tail), fun s => some ((s.drop 1).take (s.length - 5)),
    fun n => n + (n + 7) / 8 + (n + 63) / 64 + 5, [0x41, 0x42], [0, 0x41, 0x42], [0],
    [([.ping [1, 2], .pong [3]], []), ([.ping []], [0x41, 0x42])],
    ⟨rfl, by simp⟩, by decide, by decide, by decide, by decide, by decide⟩

/-- … and for whole connections (zlib as two coupled state machines, as in `roundtrip_session_given_zlib`): ANY
    sequence of ANY messages, each one text or binary, in its own presentation (own fragmentation, own control
    frames between the fragments and in front of the message): every message is delivered once and unchanged,
    every ping answered, and between two messages the connection is in its initial state. -/
theorem roundtrip_session_interleaved_given_zlib {σd σi : Type}
    (dbound : Nat → Nat)
    (deflate : σd → Bytes → Bytes × σd) (inflate : σi → Bytes → Option (Bytes × σi))
    (R : σd → σi → Prop)
    (hz : ∀ sd si, R sd si → ∀ x, ∃ body si', body ≠ [] ∧ (deflate sd x).1 = body ++ tail ∧
        (deflate sd x).1.length ≤ dbound x.length + flushMarkerMax ∧
        inflate si (deflate sd x).1 = some (x, si') ∧ R (deflate sd x).2 si')
    (closeCode : Bytes → Nat)
    (msgs : List MsgSpec) (hm : ∀ m ∈ msgs, m.Legal) (sd : σd) (si : σi) (hR : R sd si) :
    sessionIlOk dbound deflate inflate closeCode sd si msgs := by
  induction msgs generalizing sd si with
  | nil => trivial
  | cons m rest ih =>
    obtain ⟨body, si', hne, hb, hbd, hi, hR'⟩ := hz sd si hR m.x
    rw [hb] at hbd hi
    obtain ⟨hc, hmsg, -⟩ := roundtrip_given_zlib (fun y => some (deflate sd y).1) (fun s => (inflate si s).map (·.1))
      dbound m.x body ⟨congrArg some hb, hne⟩ (congrArg (Option.map (·.1)) hi) hbd
    simp only [sessionIlOk, hc, hi]
    exact ⟨runFrames_msg _ closeCode m (hm m (.head _)) body hne hmsg,
      ih (fun m' h' => hm m' (List.mem_cons_of_mem _ h')) (deflate sd m.x).2 si' hR'⟩

/-- the hypotheses are satisfiable: the counting "stored" codec; a message cut into one-byte fragments with a ping
    in front of every continuation frame, behind a ping and a pong -/
example : ∃ (dbound : Nat → Nat) (deflate : Nat → Bytes → Bytes × Nat) (inflate : Nat → Bytes → Option (Bytes × Nat))
    (R : Nat → Nat → Prop) (m : MsgSpec),
    (∀ sd si, R sd si → ∀ x, ∃ body si', body ≠ [] ∧ (deflate sd x).1 = body ++ tail ∧
        (deflate sd x).1.length ≤ dbound x.length + flushMarkerMax ∧
        inflate si (deflate sd x).1 = some (x, si') ∧ R (deflate sd x).2 si') ∧
    m.Legal ∧ (m.cut [0, 7, 8]).2.length = 3 ∧ R 0 0 :=
  ⟨storedBound, fun n x => (storedDeflate x, n + 1), fun n s => some (storedInflate s, n + 1),
    fun a b => a = b,
    ⟨[7, 8], opText, [.ping [9], .pong []], fun c => ([], c.map fun b => ([.ping [b]], [b]))⟩,
    fun sd si h x => ⟨0 :: x, si + 1, nofun, rfl, storedDeflate_length_le x,
      congrArg (fun y => some (y, si + 1)) (storedInflate_deflate x), congrArg (· + 1) h⟩,
    ⟨Or.inl rfl, by decide, fun c => ⟨by induction c with
        | nil => rfl
        | cons a r ih => simpa using ih,
      by intro p hp k hk
         simp only [List.mem_map] at hp
         obtain ⟨b, _, rfl⟩ := hp
         simp only [List.mem_singleton] at hk
         subst hk
         simp [Ctl.payload, wsSmallFrame]⟩⟩,
    rfl, rfl⟩

/-- The dispatch in front of the decompressor, code NOW, for ANY sequence of ANY frames (any opcodes, RSV and FIN
    bits, data and control frames in any order — legal or not) and ANY inflater: never a copy outside the
    reassembly buffer, never the buffer pointer used without a buffer (`frames_memory_safe` lifted from the
    fragments of one message to everything `ws_handle_frame` can be fed). -/
theorem dispatch_memory_safe (inflate : Bytes → Option Bytes) (closeCode : Bytes → Nat) (frames : List Frame) :
    Ev.wild ∉ (runFramesNow inflate closeCode Conn.init frames).1 :=
  runFrames_safe inflate closeCode fragFlagClearedByOpcode frames Conn.init rbuf_init_sane

/-- What the statement excludes: a `ws_handle_frame` that clears `is_frag_compressed` for every frame whose opcode
    is not "continuation" (`clr = true`; NOT the code as committed — `fragFlagClearedByOpcode` is regenerated from
    the source).  With a zlib satisfying all three hypotheses, payload `A`, body `00 41` in two fragments and one
    empty ping between them: the ping is answered, but the application receives the second fragment raw, as the
    whole message, and the first fragment stays in the reassembly buffer. -/
theorem interleaved_counterexample_if_flag_cleared :
    ∃ (zd : Bytes → Option Bytes) (zi : Bytes → Option Bytes) (dbound : Nat → Nat),
      (∀ x : Bytes, (zd x = some ((0 :: x) ++ tail) ∧ (0 :: x) ≠ []) ∧ zi ((0 :: x) ++ tail) = some x ∧
        ((0 :: x) ++ tail).length ≤ dbound x.length + flushMarkerMax) ∧
      runFrames true true true zi (fun _ => 1000) Conn.init (present opBinary [] [([.ping []], [0, 0x41])]) =
        ([.pong [], .frame opBinary [0, 0x41] true], some ⟨WsFlags.init, RBuf.init⟩) ∧
      (runFrames true true true zi (fun _ => 1000) Conn.init (present opBinary [0] [([.ping []], [0x41])])).2.map
        (fun c => c.buf.live) = some true ∧
      runFrames false true true zi (fun _ => 1000) Conn.init (present opBinary [] [([.ping []], [0, 0x41])]) =
        ([.pong [], .frame opBinary [0x41] true], some Conn.init) :=
  ⟨fun x => some (storedDeflate x), fun s => some (storedInflate s), storedBound,
    fun x => ⟨⟨rfl, nofun⟩, congrArg some (storedInflate_deflate x), storedDeflate_length_le x⟩,
    by decide, by decide, by decide⟩

/-! ## negotiation -/

/-- For ANY header value (and any memory behind it) and every compression level: no write into the
    response buffer — including the terminating NUL, including the elements that end up declined —
    goes beyond its `responseMax` (129) bytes. -/
theorem response_len_le_buffer (level : Nat) (hl : level < 4) (mem : Bytes) (length : Nat) :
    (negotiate level mem length).hiWater ≤ responseMax ∧
    ((negotiate level mem length).accepted = true → (negotiate level mem length).resp.length + 1 ≤ responseMax) := by
  have h := negotiate_between level hl mem length
  exact ⟨h.1.hw, fun ha => (h.2 ha).len⟩

example : (2 : Nat) < 4 := by decide

/-- An accepted offer: the response is the extension name followed by parameters, each name at most
    once, each of them legal in the sense of RFC 7692 (`Legal`): `client_max_window_bits` only when the
    accepted element has it, 8..15 and not above an offered value; `server_max_window_bits` 8..15 and not
    above an offered value; the takeover parameters without a value.  The windows handed to zlib are in
    range (and never the 8 bits zlib cannot deflate with). -/
theorem response_params_legal (level : Nat) (hl : level < 4) (mem : Bytes) (length : Nat)
    (ha : (negotiate level mem length).accepted = true) :
    let e := negotiate level mem length
    e.resp = extName ++ renderItems e.items ∧
    (∀ n, (e.items.map (·.name)).count n ≤ 1) ∧
    (∀ it ∈ e.items, Legal (mem.drop e.elemStart) e.offers it) ∧
    8 ≤ e.cmw ∧ e.cmw ≤ 15 ∧ 9 ≤ e.smw ∧ e.smw ≤ 15 := by
  have h := (negotiate_between level hl mem length).2 ha
  have hs := h.smwOk
  have := h.rng
  refine ⟨h.resp, h.once, h.legal, this.1, this.2.1, ?_, this.2.2.2⟩
  have : (negotiate level mem length).smw ≠ 8 := hs
  omega

/-- non-vacuity, and the bound of `response_len_le_buffer` is reached: level 3, all four parameters
    offered — accepted, 128 bytes + NUL -/
example :
    let offer : Bytes := extName ++ renderItem .cmw 15 ++ renderItem .smw 15 ++ renderItem .cnc 0 ++ renderItem .snc 0
    (negotiate 3 offer offer.length).accepted = true ∧
    (negotiate 3 offer offer.length).resp.length + 1 = responseMax := by
  decide +kernel

/-- F38 repaired: `fill_requested_extension(s, start, length)` reads `start[0 .. length)` only — for ALL
    memory contents, ALL lengths (offers ending in blanks, right behind a `=`, inside a parameter name, …)
    and every state of the negotiation; `fillReads` lists every `*(start + i)`, `*value_start` and the
    ranges handed to `memcmp`.  Hence a whole header value is read inside `[0, length)` as well:
    `check_websocket_extensions` hands over sub-ranges of it. -/
theorem offer_parse_reads_in_bounds (e : Ext) (buf : Bytes) (length : Nat) :
    ∀ i ∈ fillReads e buf length, i < length :=
  fillReads_lt e buf length

/-- non-vacuity: the offer that ends right behind the `=` is scanned up to its last byte, and the parser's
    answer does not depend on what follows it in memory (before F38: `…bits=` followed by `15` was accepted) -/
example :
    let offer : Bytes := extName ++ [59, 32] ++ nameCmw ++ [61]
    (fillReads (Ext.init 2) offer offer.length).length = 84 ∧ offer.length - 1 ∈ fillReads (Ext.init 2) offer offer.length ∧
    (negotiate 2 (offer ++ [49, 53]) offer.length).accepted = false := by
  decide +kernel

end Cjet.Props.C19
