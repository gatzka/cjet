import Cjet.Lemmas.DaemonC03Exact
import Cjet.Props.CjsonTree
/-!
# C03 — routed set/call: delivered once to the owner, answered once to the caller

Theorems about the daemon model `Cjet.Daemon` (`router.c`, `element.c:set_or_call`, `peer.c`).
All states are arbitrary states satisfying the invariants, which hold in every state reachable from
`{ users := us }` by any list of operations (`routes_wf`, `rid_unique`, `elements_owned`).

What is assumed (stated as hypotheses where used):
* `OpOk` — the `%p` token of every connecting peer is non-empty and contains no `_`;
* `runWeight ops < 2^32` — fewer than 2³² request objects were received in the run, so the 32-bit
  id counter `uuid` did not wrap.  Only the distinctness of generated ids needs this.
-/

namespace Cjet.Props.C03

open Cjet Cjet.Json Cjet.Daemon Cjet.Daemon.C03

/-! ## The objects of the non-vacuity examples (`DaemonC03Exact`) -/

theorem exS_reachable : (run exCfg {} exOps).1 = exS := exS_run

theorem exS1_reachable : (run exCfg {} (exOps ++ [.message 2 (some exSet) {}])).1 = exS1 := exS1_run

/-! ## 1. Well-formed routing tables -/

/-- `routes_wf`: in every reachable state connection numbers are distinct, every routing entry
    stored in peer `p`'s table names `p` as owner, its requester is a connected peer, its timer id
    is below the timer counter, and the timer ids of all stored entries are pairwise distinct. -/
theorem routes_wf (cfg : Config) (us : List User) (ops : List Op) :
    let s := (run cfg { users := us } ops).1
    (s.peers.map (·.conn)).Nodup ∧
    (∀ p ∈ s.peers, ∀ r ∈ p.routes,
      r.owner = p.conn ∧ (findPeer s.peers r.requester).isSome = true ∧ r.timer < s.nextTimer) ∧
    ((s.peers.flatMap (·.routes)).map (·.timer)).Nodup := by
  intro s
  have h : RoutesWf s := routesWf_run cfg ops _ (routesWf_init us)
  refine ⟨?_, ?_, ?_⟩
  · have := h.conns
    rwa [List.map_map] at this
  · intro p hp r hr
    have hmem : r ∈ vRoutes (s.peers.map pview) := by
      rw [vRoutes_map_pview]; exact List.mem_flatMap.mpr ⟨p, hp, hr⟩
    refine ⟨h.owner (pview p) (mem_map_pview hp) r hr, ?_, h.timerLt r hmem⟩
    rw [findPeer_isSome_iff_conns]
    exact h.requester r hmem
  · have := h.timers
    rwa [vRoutes_map_pview] at this

/-- the same invariant, as an inductive step from ANY state that satisfies it -/
theorem routes_wf_step (cfg : Config) (s : State) (op : Op) (h : RoutesWf s) : RoutesWf (step cfg s op).1 :=
  routesWf_step cfg s op h

/-- `rid_unique`: while the id counter has not wrapped (fewer than 2³² request objects received)
    and all address tokens are well formed, the ids of all stored routing entries are pairwise
    distinct — across all tables, whatever the callers' own ids are (they may contain `_`, be
    equal, be numbers or be absent). -/
theorem rid_unique (cfg : Config) (us : List User) (ops : List Op)
    (hok : ∀ op ∈ ops, OpOk op) (hb : runWeight ops < 4294967296) :
    let s := (run cfg { users := us } ops).1
    ((s.peers.flatMap (·.routes)).map (·.rid)).Nodup ∧ RidsWf s := by
  intro s
  have h := (ridsWf_run cfg ops _ (routesWf_init us) (ridsWf_init us) hok (by simpa using hb)).1
  refine ⟨?_, h⟩
  have := h.rids
  rwa [vRoutes_map_pview] at this

example : (∀ op ∈ exOps, OpOk op) ∧ runWeight exOps < 4294967296 := by decide +kernel

/-- the id generated for the next request of any connected peer differs from every stored id -/
theorem rid_fresh (s : State) (h : RidsWf s) (p : Peer) (hp : p ∈ s.peers) (oid : Option Json) :
    ∀ q ∈ s.peers, ∀ r ∈ q.routes, r.rid ≠ routedId oid s.uuid p.addrTok := by
  intro q hq r hr e
  have hmem : r ∈ vRoutes (s.peers.map pview) := by
    rw [vRoutes_map_pview]; exact List.mem_flatMap.mpr ⟨q, hq, hr⟩
  obtain ⟨u, hu, hseg⟩ := h.issued r hmem
  have ha : AddrOk p.addrTok := h.addrs (pview p) (mem_map_pview hp)
  rw [e, uuidSeg_routedId _ _ _ ha] at hseg
  have := hexDigits_inj hseg
  omega

theorem exS1_rids : RidsWf exS1 := by
  rw [← exS1_reachable]
  exact (rid_unique exCfg [] _ (by decide +kernel) (by decide +kernel)).2

example : RidsWf exS1 ∧ exP2 ∈ exS1.peers := ⟨exS1_rids, .tail _ (.head _)⟩

/-- an element reached through the path index belongs to a connected peer: its owner -/
theorem elements_owned (cfg : Config) (us : List User) (ops : List Op) :
    EO (run cfg { users := us } ops).1 :=
  run_inv (I := fun s _ => EO s) (H := []) cfg ops (fun s op _ => eo_step cfg s op) (eo_init us)

/-! ## 2. Delivery -/

/-- `routed_delivery` (one request object, also inside a batch): a set (`isState = true`) or call
    that passes the checks of `set_or_call` (`Checks`: params and path present, element exists, not
    fetch-only, of the right kind, caller authorised, id absent or a string or number), carries a
    value if it is a set and a valid timeout, is not refused by the owner's table and whose send to
    the owner succeeds
    * returns no immediate response;
    * emits exactly `timerArm t tns` followed by ONE message, to the element's owner, which is
      `{id: rid, method: path, params: {value: v}}` for a set and `{…, params: args}` (or `{}` when
      `args` is absent) for a call, `v`/`args` being the caller's own JSON value;
    * stores the entry `(rid, caller, owner, caller's id, t)` at the end of the owner's table — the
      owner is connected — and changes nothing else but the two counters. -/
theorem routed_delivery (cfg : Config) (x : Ctx) (p : Peer) (req : Json) (isState : Bool)
    (params : Json) (path : Bytes) (e : Element) (tns : Nat)
    (heo : EO x.st)
    (hc : Checks cfg x.st p req isState params path e)
    (hv : isState = true → (params.getItem (k "value")).isSome = true)
    (ht : getTimeout cfg (params.getItem (k "timeout")) e.timeoutNs = .ns tns)
    (hfull : x.routeFull = false) (hsend : nextSend x = true) :
    let r : Route := { rid := routedId (req.getItem (k "id")) x.st.uuid p.addrTok, requester := p.conn,
                       owner := e.owner, originId := req.getItem (k "id"), timer := x.st.nextTimer }
    let v : Json := (if isState then params.getItem (k "value") else params.getItem (k "args")).getD (.obj [])
    let y := setOrCall cfg x p req isState
    y.2 = none ∧
    y.1.out = .send e.owner (.obj [(k "id", .str r.rid), (k "method", .str path),
                (k "params", if isState then .obj [(k "value", v)] else v)]) true
              :: .timerArm x.st.nextTimer tns :: x.out ∧
    y.1.st = { x.st with
      uuid := (x.st.uuid + 1) % 4294967296, nextTimer := x.st.nextTimer + 1,
      peers := updatePeer x.st.peers e.owner (fun q => { q with routes := q.routes ++ [r] }) } ∧
    (∃ q, findPeer x.st.peers e.owner = some q) ∧ Stored y.1.st r := by
  intro r v y
  have hy : y = ((send (stored x r tns) e.owner (routedMessage r.rid path isState (reqValue isState params))).1, none) := by
    show setOrCall cfg x p req isState = _
    rw [setOrCall_of_checks hc, routeCore_ns hv ht, hfull, hsend]
    rfl
  obtain ⟨q, hq⟩ := findElement_owner_live heo hc.el
  have hst : y.1.st = { x.st with
      uuid := (x.st.uuid + 1) % 4294967296, nextTimer := x.st.nextTimer + 1,
      peers := updatePeer x.st.peers e.owner (fun q => { q with routes := q.routes ++ [r] }) } := by
    rw [hy]; simp only [send_st]; rfl
  refine ⟨by rw [hy], ?_, hst, ⟨q, hq⟩, ?_⟩
  · rw [hy]
    simp only [send_out, nextSend_stored, hsend, routedMessage_eq]
    rfl
  · exact stored_addRoute (r := r) hq y.1.st (by rw [hst])

/-- `routed_delivery` for a message that consists of this one request: the complete output of the
    step is `[timerArm t tns, send owner msg true]`. -/
theorem routed_delivery_step (cfg : Config) (s : State) (c : Nat) (o : Oracle) (members : List (Bytes × Json))
    (p : Peer) (isState : Bool) (params : Json) (path : Bytes) (e : Element) (tns : Nat)
    (heo : EO s) (hp : findPeer s.peers c = some p)
    (hm : (Json.obj members).getItem (k "method") = some (.str (if isState then k "set" else k "call")))
    (hc : Checks cfg s p (.obj members) isState params path e)
    (hv : isState = true → (params.getItem (k "value")).isSome = true)
    (ht : getTimeout cfg (params.getItem (k "timeout")) e.timeoutNs = .ns tns)
    (hfull : o.routeFull = false) (hsend : o.sends.headD true = true) :
    let oid := (Json.obj members).getItem (k "id")
    let r : Route := { rid := routedId oid s.uuid p.addrTok, requester := c, owner := e.owner,
                       originId := oid, timer := s.nextTimer }
    let v : Json := (if isState then params.getItem (k "value") else params.getItem (k "args")).getD (.obj [])
    step cfg s (.message c (some (.obj members)) o) =
      ({ s with
          uuid := (s.uuid + 1) % 4294967296, nextTimer := s.nextTimer + 1,
          peers := updatePeer s.peers e.owner (fun q => { q with routes := q.routes ++ [r] }) },
       [.timerArm s.nextTimer tns,
        .send e.owner (.obj [(k "id", .str r.rid), (k "method", .str path),
          (k "params", if isState then .obj [(k "value", v)] else v)]) true]) := by
  intro oid r v
  have hd := routed_delivery cfg (mkCtx s o) p (.obj members) isState params path e tns heo hc hv ht hfull hsend
  obtain ⟨h1, h2, h3, _, _⟩ := hd
  rw [step_single cfg s c o members (by rw [hp]; rfl)]
  rw [parseJsonRpc_route (isState := isState) (by simpa using hp) hm]
  dsimp only
  rw [h1]
  simp only [sendResponse, ↓reduceIte]
  rw [h2, h3, findPeer_conn hp]
  rfl

example : ∃ (cfg : Config) (s : State) (c : Nat) (o : Oracle) (members : List (Bytes × Json)) (p : Peer)
    (isState : Bool) (params : Json) (path : Bytes) (e : Element) (tns : Nat),
    EO s ∧ findPeer s.peers c = some p ∧
    (Json.obj members).getItem (k "method") = some (.str (if isState then k "set" else k "call")) ∧
    Checks cfg s p (.obj members) isState params path e ∧
    (isState = true → (params.getItem (k "value")).isSome = true) ∧
    getTimeout cfg (params.getItem (k "timeout")) e.timeoutNs = .ns tns ∧
    o.routeFull = false ∧ o.sends.headD true = true := by
  exact ⟨exCfg, exS, 2, {}, exSetMembers, exP2, true, exParams, k "p", exElem, 5000000000, exS_eo, exS_peer2,
    exSet_method, exSet_checks, fun _ => exParams_value, exParams_timeout ▸ rfl, rfl, rfl⟩

/-! ## 3. Third-party independence -/

/-- `entry_stable`: a routing entry `r` stored in its owner's table is still stored there, with
    the same fields, after EVERY operation that is not one of its four resolvers (`Resolves`):
    a message of its owner containing a routing response with its id, a message of its owner or
    requester that gets that peer dropped, the disconnect of its owner or requester, the expiry of
    its own timer.  In particular connects, disconnects, messages (requests, responses with other or
    forged ids, their own set/call traffic to the same owner, failing sends, refused insertions) and
    timers of all other peers leave it alone. -/
theorem entry_stable (cfg : Config) (s : State) (op : Op) (r : Route)
    (hw : RoutesWf s) (hr : RidsWf s) (hok : OpOk op) (hb : s.uuid + opWeight op < 4294967296)
    (hin : Stored s r) (hres : ¬ Resolves cfg s r op) : Stored (step cfg s op).1 r :=
  stored_step cfg s op r hw hr hok hb hin hres

/-- a bystander (peer 3, not connected before) connects while `exRoute` is in flight -/
example : RoutesWf exS1 ∧ RidsWf exS1 ∧ OpOk (.connect 3 false true (k "0x3")) ∧
    exS1.uuid + opWeight (.connect 3 false true (k "0x3")) < 4294967296 ∧ Stored exS1 exRoute ∧
    ¬ Resolves exCfg exS1 exRoute (.connect 3 false true (k "0x3")) :=
  ⟨exS1_wf, exS1_rids, by decide +kernel, by decide +kernel, exS1_stored, fun h => h⟩

/-- the contrapositive: an operation after which the entry is gone is one of its resolvers -/
theorem resolution_cases (cfg : Config) (s : State) (op : Op) (r : Route)
    (hw : RoutesWf s) (hr : RidsWf s) (hok : OpOk op) (hb : s.uuid + opWeight op < 4294967296)
    (hin : Stored s r) (hgone : ¬ Stored (step cfg s op).1 r) : Resolves cfg s r op :=
  Classical.byContradiction fun h => hgone (stored_step cfg s op r hw hr hok hb hin h)

/-! ## 4. The final answer -/

/-- an answerable origin id (string or number) gets `{id: originId, result|error: payload}` with
    the owner's payload unchanged; no origin id, no answer -/
theorem reply_answer_shape (r : Route) (payload : Json) (typ : String) :
    (∀ oid, r.originId = some oid → Answerable (some oid) →
      replyAnswer r payload typ = some (.obj [(k "id", oid), (k typ, payload)])) ∧
    (r.originId = none → replyAnswer r payload typ = none) := by
  constructor
  · intro oid h ha
    simp only [replyAnswer, h, Option.bind_some]
    exact resultResponse_of_answerable ha payload typ
  · intro h; simp [replyAnswer, h]

theorem timeout_answer_shape (r : Route) :
    (∀ oid, r.originId = some oid → Answerable (some oid) →
      timeoutAnswer r = some (.obj [(k "id", oid),
        (k "error", errorObject INTERNAL_ERROR "reason" (k "timeout for routed request"))])) ∧
    (r.originId = none → timeoutAnswer r = none) := by
  constructor
  · intro oid h ha
    simp only [timeoutAnswer, h, Option.bind_some]
    exact errorResponse_of_answerable ha _ _ _
  · intro h; simp [timeoutAnswer, h]

theorem shutdown_answer_shape (r : Route) :
    (∀ oid, r.originId = some oid → Answerable (some oid) →
      shutdownAnswer r = some (.obj [(k "id", oid),
        (k "error", errorObject INTERNAL_ERROR "reason" (k "peer shuts down"))])) ∧
    (r.originId = none → shutdownAnswer r = none) := by
  constructor
  · intro oid h ha
    simp only [shutdownAnswer, h, Option.bind_some]
    exact errorResponse_of_answerable ha _ _ _
  · intro h; simp [shutdownAnswer, h]

/-- `final_answer`, reply: the step of a message consisting of one routing response (result, or
    error if there is no result member) of `r`'s owner with `r`'s id removes the entry, destroys
    its timer and sends exactly one message: `replyAnswer` to the requester — none if the caller had
    no id.  Nothing else changes, nothing else is emitted. -/
theorem final_answer_reply (cfg : Config) (s : State) (orc : Oracle) (members : List (Bytes × Json))
    (payload : Json) (typ : String) (r : Route) (hr : RidsWf s) (hin : Stored s r)
    (hresp : IsResponse (.obj members) payload typ)
    (hid : (Json.obj members).getItem (k "id") = some (.str r.rid)) :
    step cfg s (.message r.owner (some (.obj members)) orc) =
      ({ s with peers := removeRoute s.peers r.owner r.rid },
       .timerDestroy r.timer :: answerSends r.requester (replyAnswer r payload typ) (orc.sends.headD true)) ∧
    ¬ Stored { s with peers := removeRoute s.peers r.owner r.rid } r :=
  ⟨step_reply cfg s orc members payload typ r hr hin hresp hid, not_stored_after_remove s r⟩

example : RidsWf exS1 ∧ Stored exS1 exRoute ∧ IsResponse (.obj exReplyMembers) (.bool true) "result" ∧
    (Json.obj exReplyMembers).getItem (k "id") = some (.str exRoute.rid) :=
  ⟨exS1_rids, exS1_stored, exReply_isResponse, exReply_id⟩

/-- `final_answer`, timeout: the expiry of `r`'s timer removes the entry, sends the INTERNAL_ERROR
    "timeout for routed request" response to the requester (none if the caller had no id) and
    destroys the timer.  Nothing else. -/
theorem final_answer_timeout (cfg : Config) (s : State) (orc : Oracle) (r : Route)
    (hw : RoutesWf s) (hin : Stored s r) :
    step cfg s (.timerFire r.timer orc) =
      ({ s with peers := removeRoute s.peers r.owner r.rid },
       answerSends r.requester (timeoutAnswer r) (orc.sends.headD true) ++ [.timerDestroy r.timer]) ∧
    ¬ Stored { s with peers := removeRoute s.peers r.owner r.rid } r :=
  ⟨step_timeout cfg s orc r hw hin, not_stored_after_remove s r⟩

/-- `final_answer`, owner shutdown: when `r`'s owner disconnects, the outputs of the step contain
    the destruction of `r`'s timer immediately followed by the INTERNAL_ERROR "peer shuts down"
    response to the requester (none if the caller had no id, or if the caller is the owner
    itself); the timer of `r` is destroyed nowhere else in the step, and the owner is gone
    afterwards (so is its table). -/
theorem final_answer_shutdown (cfg : Config) (s : State) (orc : Oracle) (r : Route) (p : Peer)
    (hw : RoutesWf s) (hp : findPeer s.peers r.owner = some p) (hr : r ∈ p.routes)
    (hne : r.requester ≠ r.owner) :
    ∃ pre post ok,
      (step cfg s (.disconnect r.owner orc)).2 =
        pre ++ .timerDestroy r.timer :: answerSends r.requester (shutdownAnswer r) ok ++ post ∧
      r.timer ∉ (pre ++ post).filterMap destroyedOf := by
  obtain ⟨pre, post, ok, hout, hnd⟩ := closePeer_shutdown (mkCtx s orc) r.owner p r hw hp hr hne
  refine ⟨pre.reverse, post.reverse, ok, ?_, ?_⟩
  · rw [step_disconnect_eq]
    have : (findPeer s.peers r.owner).isNone = false := by rw [hp]; rfl
    simp only [this, Bool.false_eq_true, ↓reduceIte]
    rw [hout]
    simp only [Daemon.mkCtx_out, List.append_nil, List.reverse_append, List.reverse_cons, List.append_assoc,
      List.singleton_append]
    congr 1
    cases shutdownAnswer r <;> rfl
  · intro h
    apply hnd
    rw [List.filterMap_append, List.mem_append] at h ⊢
    rw [List.filterMap_reverse, List.filterMap_reverse, List.mem_reverse, List.mem_reverse] at h
    exact h

example : RoutesWf exS1 ∧ findPeer exS1.peers exRoute.owner = some { exP1 with routes := [exRoute] } ∧
    exRoute ∈ ({ exP1 with routes := [exRoute] } : Peer).routes ∧ exRoute.requester ≠ exRoute.owner :=
  ⟨exS1_wf, by with_unfolding_all rfl, .head _, by decide⟩

/-- the same for every way the owner's connection ends (`closePeer`: disconnect, or a message of
    the owner that gets it dropped — `x` is then the context after that message was processed):
    outputs are newest first here -/
theorem final_answer_shutdown_close (x : Ctx) (r : Route) (p : Peer)
    (hw : WfV (x.st.peers.map pview) x.st.nextTimer) (hp : findPeer x.st.peers r.owner = some p)
    (hr : r ∈ p.routes) (hne : r.requester ≠ r.owner) :
    ∃ pre post ok,
      (closePeer x r.owner).out =
        post ++ answerSends r.requester (shutdownAnswer r) ok ++ .timerDestroy r.timer :: pre ++ x.out ∧
      r.timer ∉ (pre ++ post).filterMap destroyedOf :=
  closePeer_shutdown x r.owner p r hw hp hr hne

/-- when a peer disconnects, its own requests are purged from every table (nobody is told): no
    stored entry names it as requester afterwards -/
theorem caller_disconnect_purges (cfg : Config) (s : State) (c : Nat) (orc : Oracle) (hw : RoutesWf s) :
    ∀ q ∈ (step cfg s (.disconnect c orc)).1.peers, ∀ r ∈ q.routes, r.requester ≠ c := by
  intro q hq r hr
  rw [step_disconnect_eq] at hq
  cases hp : findPeer s.peers c with
  | none =>
    simp only [hp, Option.isNone_none, ↓reduceIte] at hq
    -- `c` is not connected, and requesters of stored entries are
    intro e
    have hmem : r ∈ vRoutes (s.peers.map pview) := by
      rw [vRoutes_map_pview]; exact List.mem_flatMap.mpr ⟨q, hq, hr⟩
    have hlive := hw.requester r hmem
    rw [← findPeer_isSome_iff_conns, e, hp] at hlive
    cases hlive
  | some p =>
    simp only [hp, Option.isNone_some, Bool.false_eq_true, ↓reduceIte] at hq
    have hrs := rs_closePeer (mkCtx s orc) c p hp
    have hV : (closePeer (mkCtx s orc) c).st.peers.map pview = vClose (s.peers.map pview) c :=
      congrArg RS.V hrs
    have hmem : r ∈ vRoutes (vClose (s.peers.map pview) c) := by
      rw [← hV, vRoutes_map_pview]
      exact List.mem_flatMap.mpr ⟨q, hq, hr⟩
    obtain ⟨_, _, _, _, hne⟩ := mem_vRoutes_vClose.mp hmem
    exact hne

example : RoutesWf exS1 := exS1_wf

/-- `late_reply_ignored`: a routing response whose id matches no entry of the REPLIER'S OWN table
    — a late reply (after the timeout answer), a duplicated reply, a forged id, the id of an entry
    in another peer's table — changes nothing and emits nothing. -/
theorem late_reply_ignored (cfg : Config) (s : State) (c : Nat) (orc : Oracle) (members : List (Bytes × Json))
    (payload : Json) (typ : String) (rid : Bytes) (p : Peer) (hp : findPeer s.peers c = some p)
    (hresp : IsResponse (.obj members) payload typ)
    (hid : (Json.obj members).getItem (k "id") = some (.str rid))
    (hmiss : ∀ r ∈ p.routes, r.rid ≠ rid) :
    step cfg s (.message c (some (.obj members)) orc) = (s, []) :=
  step_reply_miss cfg s c orc members payload typ rid p hp hresp hid hmiss

/-- peer 2 (whose table is empty) sends a response carrying the id of the entry in peer 1's table -/
example : findPeer exS1.peers 2 = some exP2 ∧ IsResponse (.obj exReplyMembers) (.bool true) "result" ∧
    (Json.obj exReplyMembers).getItem (k "id") = some (.str exRoute.rid) ∧
    (∀ r ∈ exP2.routes, r.rid ≠ exRoute.rid) :=
  ⟨by with_unfolding_all rfl, exReply_isResponse, exReply_id, fun _ h => nomatch h⟩

/-- after the reply (or the timeout) the owner's table holds no entry with that id, so a second
    reply with the same id falls under `late_reply_ignored` -/
theorem duplicate_reply_ignored (s : State) (r : Route) (p' : Peer)
    (hp' : findPeer (removeRoute s.peers r.owner r.rid) r.owner = some p') :
    ∀ r' ∈ p'.routes, r'.rid ≠ r.rid :=
  no_rid_after_removeRoute s.peers r.owner r.rid p' hp'

/-- the expiry of a timer that no stored entry carries (its entry was answered before) does nothing -/
theorem late_expiry_ignored (cfg : Config) (s : State) (orc : Oracle) (t : Nat)
    (h : ∀ r ∈ s.peers.flatMap (·.routes), r.timer ≠ t) : step cfg s (.timerFire t orc) = (s, []) :=
  step_timeout_miss cfg s orc t h

example : ∀ r ∈ exS.peers.flatMap (·.routes), r.timer ≠ 0 := fun _ h => nomatch h

/-! ## 5. Refusal -/

/-- `refusal_only_when_full`: whatever the request and the state, `set_or_call` answers the
    INTERNAL_ERROR "routing table full" response only when the owner's table refused the insertion
    (oracle `routeFull`; C17 characterises when the real hopscotch table does). -/
theorem refusal_only_when_full (cfg : Config) (x : Ctx) (p : Peer) (req : Json) (isState : Bool) (j : Json)
    (hresp : (setOrCall cfg x p req isState).2 = some j)
    (hcode : errCode j = some INTERNAL_ERROR)
    (hreason : errReason j = some (k "reason", k "routing table full")) : x.routeFull = true := by
  rcases setOrCall_response cfg x p req isState with ⟨tag, reason, h⟩ | ⟨hf, _⟩ | ⟨_, _, h⟩ | ⟨_, _, h⟩
  · rw [h] at hresp
    have := (errorFromRequest_shape hresp).1
    rw [hcode] at this
    exact absurd (Option.some.inj this) (by unfold INTERNAL_ERROR INVALID_PARAMS; decide)
  · exact hf
  · rw [h] at hresp; cases hresp
  · rw [h] at hresp
    have := (errorFromRequest_shape hresp).2
    rw [hreason] at this
    have h2 := congrArg Prod.snd (Option.some.inj this)
    exact absurd h2 reason_full_ne_send

/-- with a refusing table a request that passes all checks gets exactly that response: no entry is
    stored, the timer that had been created is destroyed without having been armed, nothing is sent
    to the owner -/
theorem refused_when_full (cfg : Config) (x : Ctx) (p : Peer) (req : Json) (isState : Bool)
    (params : Json) (path : Bytes) (e : Element) (tns : Nat)
    (hc : Checks cfg x.st p req isState params path e)
    (hv : isState = true → (params.getItem (k "value")).isSome = true)
    (ht : getTimeout cfg (params.getItem (k "timeout")) e.timeoutNs = .ns tns)
    (hfull : x.routeFull = true) :
    let y := setOrCall cfg x p req isState
    y.2 = errorFromRequest req INTERNAL_ERROR "reason" (k "routing table full") ∧
    y.1.out = .timerDestroy x.st.nextTimer :: x.out ∧ y.1.st.peers = x.st.peers := by
  intro y
  have hy : y = _ := (setOrCall_of_checks hc).trans (routeCore_ns hv ht)
  rw [hy, hfull]
  exact ⟨rfl, rfl, rfl⟩

/-- with a table that does not refuse, a well-formed, authorised set/call on an existing element of
    the right kind is never refused for capacity: it is accepted when the send to the owner
    succeeds (`routed_delivery`), and otherwise answered "could not send routing information" with
    the entry removed again and its timer destroyed -/
theorem accepted_when_not_full (cfg : Config) (x : Ctx) (p : Peer) (req : Json) (isState : Bool)
    (params : Json) (path : Bytes) (e : Element) (tns : Nat)
    (hc : Checks cfg x.st p req isState params path e)
    (hv : isState = true → (params.getItem (k "value")).isSome = true)
    (ht : getTimeout cfg (params.getItem (k "timeout")) e.timeoutNs = .ns tns)
    (hfull : x.routeFull = false) :
    (nextSend x = true → (setOrCall cfg x p req isState).2 = none) ∧
    (nextSend x = false →
      (setOrCall cfg x p req isState).2 =
        errorFromRequest req INTERNAL_ERROR "reason" (k "could not send routing information") ∧
      tobs (setOrCall cfg x p req isState).1.out =
        .timerDestroy x.st.nextTimer :: .timerArm x.st.nextTimer tns :: tobs x.out) := by
  rw [setOrCall_of_checks hc, routeCore_ns hv ht, hfull]
  constructor
  · intro hs
    rw [hs]
    rfl
  · intro hs
    rw [hs]
    refine ⟨rfl, ?_⟩
    simp [stored, newRoute]

/-- the hypotheses of the three theorems above hold for `exSet` at `exS` (with either oracle) -/
example : Checks exCfg exS exP2 exSet true exParams (k "p") exElem ∧
    (exParams.getItem (k "value")).isSome = true ∧
    getTimeout exCfg (exParams.getItem (k "timeout")) exElem.timeoutNs = .ns 5000000000 :=
  ⟨exSet_checks, exParams_value, exParams_timeout ▸ rfl⟩

/-- … and the table-full response really is produced there when the table refuses -/
example : ∃ j, (setOrCall exCfg (mkCtx exS { routeFull := true }) exP2 exSet true).2 = some j ∧
    errCode j = some INTERNAL_ERROR ∧ errReason j = some (k "reason", k "routing table full") := by
  have h := (refused_when_full exCfg (mkCtx exS { routeFull := true }) exP2 exSet true exParams (k "p") exElem
    5000000000 exSet_checks (fun _ => exParams_value) (exParams_timeout ▸ rfl) rfl).1
  -- `exSet` has an id, so the error response exists
  have hs : (errorFromRequest exSet INTERNAL_ERROR "reason" (k "routing table full")).isSome = true := by
    with_unfolding_all rfl
  obtain ⟨j, hj⟩ := Option.isSome_iff_exists.mp hs
  exact ⟨j, h.trans hj, errorFromRequest_shape hj⟩

/-! ## further non-vacuity examples -/

/-- `routes_wf_step`, `final_answer_timeout`, `resolution_cases` (the expiry of its timer resolves
    `exRoute`: afterwards it is not stored) -/
example : RoutesWf exS1 ∧ Stored exS1 exRoute ∧
    ¬ Stored (step exCfg exS1 (.timerFire exRoute.timer {})).1 exRoute := by
  refine ⟨exS1_wf, exS1_stored, ?_⟩
  rw [(final_answer_timeout exCfg exS1 {} exRoute exS1_wf exS1_stored).1]
  exact (final_answer_timeout exCfg exS1 {} exRoute exS1_wf exS1_stored).2

/-- `routed_delivery` (handler level) at `mkCtx exS {}` -/
example : EO (mkCtx exS {}).st ∧ Checks exCfg (mkCtx exS {}).st exP2 exSet true exParams (k "p") exElem ∧
    (mkCtx exS {}).routeFull = false ∧ nextSend (mkCtx exS {}) = true :=
  ⟨exS_eo, exSet_checks, rfl, rfl⟩

/-- `duplicate_reply_ignored`: the table of peer 1 after the reply -/
example : ∃ p', findPeer (removeRoute exS1.peers exRoute.owner exRoute.rid) exRoute.owner = some p' :=
  ⟨_, by with_unfolding_all rfl⟩


/-! ### the cJSON tree layer: every stored, forwarded or routed value is a cJSON_Duplicate (real code tied by vlib/cjsontree_tie.py) -/

theorem json_duplicate_is_faithful_copy : type_of% @Cjet.Props.CjsonTree.duplicate_is_faithful_copy := @Cjet.Props.CjsonTree.duplicate_is_faithful_copy
theorem json_duplicate_exact_without_references : type_of% @Cjet.Props.CjsonTree.duplicate_exact_without_references := @Cjet.Props.CjsonTree.duplicate_exact_without_references
theorem json_duplicate_succeeds_when_allocations_do : type_of% @Cjet.Props.CjsonTree.duplicate_succeeds_when_allocations_do := @Cjet.Props.CjsonTree.duplicate_succeeds_when_allocations_do
theorem json_get_object_item_first_hit : type_of% @Cjet.Props.CjsonTree.get_object_item_first_hit := @Cjet.Props.CjsonTree.get_object_item_first_hit
theorem json_get_object_item_ci_none_iff : type_of% @Cjet.Props.CjsonTree.get_object_item_ci_none_iff := @Cjet.Props.CjsonTree.get_object_item_ci_none_iff

end Cjet.Props.C03
