import Cjet.Ws
import Cjet.Ws.Wire
import Cjet.Lemmas.WsMachine
import Cjet.Lemmas.WsDispatch
import Cjet.Lemmas.Base64
import Cjet.Lemmas.WsHandshake
/-!
# C12 — the WebSocket endpoint follows RFC 6455

Theorems over the model of `src/websocket.c` (`Cjet.Ws`), the callback set of `src/websocket_peer.c`,
`src/base64.c` and `src/sha1/sha1.c`.  Constants come from `Cjet.Generated.Ws` (regenerated from the
source on every run).  `utf8Valid` (the verdict of the UTF-8 validator on a close reason, C18) and the
JSON-RPC layer's verdict on a text message (`parseOk`) are parameters.
-/
namespace Cjet.Props.C12
open Cjet Cjet.Ws Cjet.Generated.Ws

/-! ## Frames sent by the server -/

/-- Every frame `send_frame` builds in server mode is `header ++ payload` with: first byte `0x80 | opcode`
    (FIN set, RSV1-3 clear), MASK bit clear, and the minimal length form — 7 bit iff `len ≤ 125`,
    16 bit iff `126 ≤ len ≤ 65535`, otherwise 64 bit — carrying exactly the payload length. -/
theorem server_frame_wellformed (word align : Nat) (key : Bytes) (typ : Nat) (ht : typ < 16) (payload : Bytes)
    (hl : payload.length < 18446744073709551616) :
    ∃ hdr : Bytes,
      sendFrame true word align key typ payload = hdr ++ payload ∧
      (hdr.getD 0 0).toNat = 128 + typ ∧
      (hdr.getD 1 0).toNat < 128 ∧
      (payload.length ≤ 125 → hdr.length = 2 ∧ (hdr.getD 1 0).toNat = payload.length) ∧
      (126 ≤ payload.length ∧ payload.length ≤ 65535 →
        hdr.length = 4 ∧ (hdr.getD 1 0).toNat = 126 ∧ beVal (hdr.drop 2) = payload.length) ∧
      (65536 ≤ payload.length →
        hdr.length = 10 ∧ (hdr.getD 1 0).toNat = 127 ∧ beVal (hdr.drop 2) = payload.length) := by
  refine ⟨frameHeader true key typ payload.length, by simp [sendFrame], ?_⟩
  have hb0 : (UInt8.ofNat (typ ||| wsHeaderFin)).toNat = 128 + typ := by
    rw [ofNat_or_fin ht, UInt8.toNat_ofNat']
    simp only [bit, if_true]
    omega
  simp only [frameHeader, if_true, sendLen7Limit, sendLen16Limit, sendLen16Marker, sendLen64Marker,
    List.getD_cons_zero, List.getD_cons_succ, UInt8.toNat_ofNat']
  refine ⟨hb0, ?_, fun h => ?_, fun h => ?_, fun h => ?_⟩
  · split
    · omega
    · split <;> decide
  · rw [if_pos (by omega), if_pos (by omega)]
    exact ⟨rfl, by omega⟩
  · rw [if_neg (by omega), if_pos (by omega), if_neg (by omega), if_pos (by omega)]
    exact ⟨rfl, rfl, beVal_be16 (by omega)⟩
  · rw [if_neg (by omega), if_neg (by omega), if_neg (by omega), if_neg (by omega)]
    exact ⟨rfl, rfl, beVal_be64 hl⟩

example : sendFrame true 8 0 [] opText [104, 105] = [0x81, 0x02, 104, 105] := by decide

/-- The same statement in terms of the RFC wire layout: a server frame *is* the wire form with FIN,
    RSV = 0, no masking key and the minimal length form. -/
theorem server_frame_is_minimal_wire (word align : Nat) (key : Bytes) (typ : Nat) (ht : typ < 16) (payload : Bytes) :
    sendFrame true word align key typ payload = wire true 0 typ none (LenForm.minimal payload.length) payload :=
  sendFrame_server_eq_wire ht

example : (LenForm.minimal 125, LenForm.minimal 126, LenForm.minimal 65535, LenForm.minimal 65536) =
    (.short, .ext16, .ext16, .ext64) := by decide

/-! ## The header machine -/

/-- **Header decoding per RFC 6455 §5.2.**  From the header phase, for every FIN/RSV/opcode, with or
    without a masking key (every key), in each of the three length forms the length fits in (minimal or
    not), for every payload the read buffer can hold, provided the header passes
    `is_frame_header_invalid` (see `header_valid_iff`; otherwise `header_invalid_refused`): running
    the machine over the frame's bytes followed by `rest` hands exactly `(fin, rsv, opcode, mask)` and
    the *unmasked* payload to `ws_get_payload` (`frameOutcome`), then continues on `rest`. -/
theorem header_spec (c : Conf) (hw0 : 0 < c.word) (hw : c.word % 4 = 0) (hbuf : 8 ≤ c.bufSize) (a : Nat)
    (s : St) (hs : s.phase = .header)
    (fin : Bool) (rsv opcode : Nat) (hr : rsv < 8) (ho : opcode < 16)
    (key : Option Bytes) (hk : ∀ k, key = some k → k.length = 4)
    (form : LenForm) (payload : Bytes) (hfit : form.fits payload.length)
    (hlen : payload.length ≤ c.bufSize)
    (hvalid : headerInvalid c { s.flags with fin := fin, rsv := rsv, opcode := opcode, mask := key.isSome }
      payload.length = false) (rest : Bytes) :
    run c a s (wire fin rsv opcode key form payload ++ rest) =
      (let fl : Flags := { s.flags with fin := fin, rsv := rsv, opcode := opcode, mask := key.isSome }
       let s2 : St := { s with flags := fl, length := payload.length, key := key.getD s.key }
       let r := afterPayload s2 (frameOutcome c fl payload)
       seqRun r (run c a r.1 rest)) := by
  rw [wire, ((run_frame hs hbuf hr ho hfit).2 hvalid key rfl hk).2 hlen payload rest rfl, deliver_eq hw0 hw]
  rfl

/-- non-vacuity of `header_spec`: a masked 16-bit-form text frame through the daemon's configuration -/
example :
    (run { cbs := daemonCallbacks (fun _ => true), utf8Valid := fun _ => true, bufSize := 512 } 3 {}
      (wire true 0 opText (some [1, 2, 3, 4]) .ext16 [104, 105] ++ [0x81])).2.2 = [Action.textMessage [104, 105]] := by
  decide +kernel

/-- what `is_frame_header_invalid` lets pass -/
theorem header_valid_iff (c : Conf) (f : Flags) (len : Nat) :
    headerInvalid c f len = false ↔
      (c.isServer = true → f.mask = true) ∧ (f.rsv = 0 ∨ c.extAccepted = true) ∧
      (f.opcode ≤ opBinary ∨ (opClose ≤ f.opcode ∧ f.opcode ≤ opPong ∧ f.fin = true ∧ len ≤ wsSmallFrameSize)) := by
  -- the stages are independent: each returns `true` at once or falls through to the next
  simp only [headerInvalid, Bool.if_true_left, Bool.or_eq_false_iff]
  refine and_congr ?mask (and_congr ?rsv ?opcode)
  case mask => simp
  case rsv => by_cases f.rsv = 0 <;> simp [*]
  case opcode =>
    simp only [opClose, opPong, opBinary, wsSmallFrameSize]
    cases f.fin <;> split <;> simp <;> omega

/-- **Header-level protocol errors → 1002, before any payload byte is requested** (hence also when the
    declared length exceeds the read buffer): for every header that `is_frame_header_invalid` rejects,
    in each length form, the run over the header bytes ends with exactly `handle_error(1002)`; whatever
    follows is not consumed. -/
theorem header_invalid_refused (c : Conf) (hbuf : 8 ≤ c.bufSize) (a : Nat) (s : St) (hs : s.phase = .header)
    (fin : Bool) (rsv opcode : Nat) (hr : rsv < 8) (ho : opcode < 16) (masked : Bool) (form : LenForm) (len : Nat)
    (hfit : form.fits len)
    (hinv : headerInvalid c { s.flags with fin := fin, rsv := rsv, opcode := opcode, mask := masked } len = true)
    (rest : Bytes) :
    (run c a s (wireHeader fin rsv opcode masked form len ++ rest)).2.2 = handleError c closeProtocolError ∧
    (run c a s (wireHeader fin rsv opcode masked form len ++ rest)).1.phase = .closed ∧
    (run c a s (wireHeader fin rsv opcode masked form len ++ rest)).2.1 = rest := by
  rw [(run_frame hs hbuf hr ho hfit).1 hinv rest]
  exact ⟨rfl, rfl, rfl⟩

example : (run exampleConf 0 {} (wireHeader true 0 opPing true .ext16 126 ++ [1, 2, 3])).2.2 =
    handleError exampleConf closeProtocolError := by decide +kernel

/-- The table of header-level errors the property names: an unmasked client frame, a reserved bit
    without a negotiated extension, a reserved opcode (3-7, 11-15), a fragmented control frame, a
    control frame longer than 125 bytes — each makes `is_frame_header_invalid` true, so by
    `header_invalid_refused` the connection ends with close frame 1002. -/
theorem close_code_header_table (c : Conf) (f : Flags) (len : Nat)
    (h : (c.isServer = true ∧ f.mask = false) ∨
         (f.rsv ≠ 0 ∧ c.extAccepted = false) ∨
         (opBinary < f.opcode ∧ f.opcode < opClose) ∨ opPong < f.opcode ∨
         (opClose ≤ f.opcode ∧ f.fin = false) ∨
         (opClose ≤ f.opcode ∧ len > wsSmallFrameSize)) :
    headerInvalid c f len = true := by
  -- each alternative contradicts one conjunct of `header_valid_iff`
  rw [← Bool.not_eq_false, header_valid_iff]
  simp only [opBinary, opClose, opPong, wsSmallFrameSize] at h ⊢
  rintro ⟨h1, h2, h3⟩
  rcases h with ⟨hs, hm⟩ | ⟨hr, hx⟩ | h | h | ⟨_, hf⟩ | h
  · simp [h1 hs] at hm
  · simp [hr, hx] at h2
  · omega
  · omega
  · rcases h3 with h3 | ⟨_, _, h3, _⟩
    · omega
    · simp [h3] at hf
  · omega

example : headerInvalid { cbs := daemonCallbacks (fun _ => true), utf8Valid := fun _ => true, bufSize := 512 }
    { fin := true, opcode := opPing, mask := true } 126 = true := by decide

/-- A *data* frame whose header is acceptable but whose payload is longer than the read buffer is never
    delivered: the reader's error handler runs (close frame 1001 from `free_websocket_peer_on_error`). -/
theorem oversize_payload_error_handler (c : Conf) (hbuf : 8 ≤ c.bufSize) (a : Nat) (s : St) (hs : s.phase = .header)
    (fin : Bool) (rsv opcode : Nat) (hr : rsv < 8) (ho : opcode < 16) (key : Option Bytes)
    (hk : ∀ k, key = some k → k.length = 4) (form : LenForm) (len : Nat)
    (hfit : form.fits len) (hbig : c.bufSize < len)
    (hvalid : headerInvalid c { s.flags with fin := fin, rsv := rsv, opcode := opcode, mask := key.isSome } len = false)
    (rest : Bytes) :
    (run c a s (wireHeader fin rsv opcode key.isSome form len ++ key.getD [] ++ rest)).2.2 = errorHandler c := by
  rw [((run_frame hs hbuf hr ho hfit).2 hvalid key rfl hk).1 hbig rest]

example : (run exampleConf 0 {} (wireHeader true 0 opText true .ext16 600 ++ [1, 2, 3, 4] ++ [9])).2.2 =
    errorHandler exampleConf := by decide +kernel

/-- **Segmentation independence.**  However the byte stream is cut into pieces, the machine ends in the
    same state with the same unconsumed bytes and has performed the same actions as on the whole stream. -/
theorem segmentation_independent (c : Conf) (hbuf : 1 ≤ c.bufSize) (a : Nat) (s : St) (hs : s.phase = .header)
    (chunks : List Bytes) :
    runChunks c a s [] chunks = run c a s chunks.flatten := by
  have hq : run c a s [] = (s, [], []) :=
    run_block (by simp [hs]) (by simp [St.want, hs]; omega) (by simp [St.want, hs])
  simpa using runChunks_eq_run c a s [] chunks hq

example : runChunks { cbs := daemonCallbacks (fun _ => true), utf8Valid := fun _ => true, bufSize := 512 } 0 {} []
    [[0x89], [0x80, 1], [2, 3, 4]] = ({ key := [1, 2, 3, 4], flags := { fin := true, opcode := 9, mask := true } }, [],
      [Action.write true [0x8a, 0]]) := by decide +kernel

/-! ## Unmasking -/

/-- The aligned fast path of `unmask_payload` equals the byte-wise XOR with `key[i mod 4]` — for every
    alignment of the buffer, every length and every key (word size 8 as on the reference platform). -/
theorem unmask_fast_eq_bytewise (align : Nat) (key buf : Bytes) :
    unmaskPayload 8 align key buf = xorMask key buf :=
  unmaskPayload_eq_xorMask 8 (by decide) (by decide) align key buf

/-- … and for every word size that is a positive multiple of 4 (`sizeof(uint_fast32_t)` is 4 or 8). -/
theorem unmask_fast_eq_bytewise_any_word (word : Nat) (hw0 : 0 < word) (hw : word % 4 = 0) (align : Nat)
    (key buf : Bytes) : unmaskPayload word align key buf = xorMask key buf :=
  unmaskPayload_eq_xorMask word hw0 hw align key buf

example : unmaskPayload 4 1 [1, 2, 3, 4] [0, 0, 0, 0, 0, 0] = [1, 2, 3, 4, 1, 2] := by decide

example : unmaskPayload 8 3 [1, 2, 3, 4] [0, 0, 0, 0, 0, 0, 0, 0, 0, 0, 0, 0, 0] = [1, 2, 3, 4, 1, 2, 3, 4, 1, 2, 3, 4, 1] := by
  decide

/-- byte `i` of the result is `buf[i] XOR key[i mod 4]` -/
theorem unmask_bytewise_spec (key buf : Bytes) (i : Nat) :
    (xorMask key buf)[i]? = buf[i]?.map (· ^^^ key.getD (i % 4) 0) := by
  simpa [xorMask, maskByte] using xorFrom_getElem? key 0 buf i

/-- masking is an involution: unmasking what was masked with the same key gives the payload back,
    whatever the two alignments -/
theorem unmask_involution (a1 a2 : Nat) (key buf : Bytes) :
    unmaskPayload 8 a1 key (unmaskPayload 8 a2 key buf) = buf := by
  rw [unmask_fast_eq_bytewise, unmask_fast_eq_bytewise]
  exact xorFrom_involutive key 0 buf

/-! ## decode ∘ encode -/

/-- A frame built by `send_frame` in server mode, read by the header machine in the client role, is
    handed to the dispatcher with FIN = 1, RSV = 0, the same opcode and the same payload. -/
theorem decode_encode (c : Conf) (hcl : c.isServer = false) (hw0 : 0 < c.word) (hw : c.word % 4 = 0)
    (hbuf : 8 ≤ c.bufSize) (a : Nat) (s : St) (hs : s.phase = .header)
    (word align : Nat) (key : Bytes) (typ : Nat) (ht : typ < 16) (payload : Bytes)
    (hlen : payload.length ≤ c.bufSize) (hl64 : payload.length < 18446744073709551616)
    (hctl : typ ≤ opBinary ∨ (opClose ≤ typ ∧ typ ≤ opPong ∧ payload.length ≤ wsSmallFrameSize))
    (rest : Bytes) :
    run c a s (sendFrame true word align key typ payload ++ rest) =
      (let fl : Flags := { s.flags with fin := true, rsv := 0, opcode := typ, mask := false }
       let s2 : St := { s with flags := fl, length := payload.length }
       let r := afterPayload s2 (payloadResult c (wsHandleFrame c fl payload))
       seqRun r (run c a r.1 rest)) := by
  rw [sendFrame_server_eq_wire ht]
  have hv : headerInvalid c { s.flags with fin := true, rsv := 0, opcode := typ, mask := (none : Option Bytes).isSome }
      payload.length = false :=
    (header_valid_iff ..).2 ⟨by simp [hcl], .inl rfl, hctl.imp_right fun ⟨h1, h2, h3⟩ => ⟨h1, h2, rfl, h3⟩⟩
  rw [header_spec c hw0 hw hbuf a s hs true 0 typ (by omega) ht none (by simp) _ payload
    (minimal_fits hl64) hlen hv rest]
  simp [frameOutcome, hcl]

example : (run { exampleConf with isServer := false, cbs := fullCallbacks .ok } 0 {}
    (sendFrame true 8 0 [] opText [104, 105] ++ [0x81])).2.2 = [Action.textMessage [104, 105]] := by decide +kernel

/-- A frame built by `send_frame` in client mode (masked with any 4 byte key, payload at any alignment),
    read by the server-side machine: the dispatcher receives the original payload. -/
theorem decode_encode_masked (c : Conf) (hw0 : 0 < c.word) (hw : c.word % 4 = 0)
    (hbuf : 8 ≤ c.bufSize) (a : Nat) (s : St) (hs : s.phase = .header)
    (word : Nat) (hw0' : 0 < word) (hw' : word % 4 = 0) (align : Nat) (key : Bytes) (hk : key.length = 4)
    (typ : Nat) (ht : typ < 16) (payload : Bytes)
    (hlen : payload.length ≤ c.bufSize) (hl64 : payload.length < 18446744073709551616)
    (hctl : typ ≤ opBinary ∨ (opClose ≤ typ ∧ typ ≤ opPong ∧ payload.length ≤ wsSmallFrameSize))
    (rest : Bytes) :
    run c a s (sendFrame false word align key typ payload ++ rest) =
      (let fl : Flags := { s.flags with fin := true, rsv := 0, opcode := typ, mask := true }
       let s2 : St := { s with flags := fl, length := payload.length, key := key }
       let r := afterPayload s2 (payloadResult c (wsHandleFrame c fl payload))
       seqRun r (run c a r.1 rest)) := by
  rw [sendFrame_client_eq_wire hw0' hw' hk ht]
  have hv : headerInvalid c { s.flags with fin := true, rsv := 0, opcode := typ, mask := (some key).isSome }
      payload.length = false :=
    (header_valid_iff ..).2 ⟨fun _ => rfl, .inl rfl, hctl.imp_right fun ⟨h1, h2, h3⟩ => ⟨h1, h2, rfl, h3⟩⟩
  rw [header_spec c hw0 hw hbuf a s hs true 0 typ (by omega) ht (some key) (by intro k h; cases h; exact hk) _ payload
    (minimal_fits hl64) hlen hv rest]
  simp [frameOutcome]

example : (run exampleConf 5 {} (sendFrame false 8 3 [9, 8, 7, 6] opText [104, 105, 33])).2.2 =
    [Action.textMessage [104, 105, 33]] := by decide +kernel

/-- A ping with payload `p`, `|p| ≤ 125`, (in any fragmentation state) is answered by exactly one frame:
    the pong `8a len p` — FIN, unmasked, minimal length, identical payload — and nothing is closed. -/
theorem pong_echo (c : Conf) (hsrv : c.isServer = true) (hok : c.sendOk = true) (f : Flags)
    (hfin : f.fin = true) (hrsv : f.rsv = 0) (hop : f.opcode = opPing) (p : Bytes) (hp : p.length ≤ 125) :
    (wsHandleFrame c f p).actions =
      Action.write true (wire true 0 opPong none .short p) ::
        (match c.cbs.ping with | some _ => [Action.ping p] | none => []) ∧
    (c.cbs.ping = none → (wsHandleFrame c f p).ret = .ok) ∧
    (wsHandleFrame c f p).flags = f := by
  have hfr : c.frame 0 opPong p = wire true 0 opPong none .short p := by
    rw [Conf.frame, hsrv, sendFrame_server_eq_wire (by decide), LenForm.minimal, if_pos hp]
  rw [wsHandleFrame_fin hfin hrsv (.inr (by rw [hop]; decide))]
  simp +decide only [dispatchOpcode, hop, hok, hfr, Conf.afterSend, hsrv, wsSmallFrameSize, if_neg (Nat.not_lt.2 hp)]
  cases c.cbs.ping <;> simp

example : (wsHandleFrame { cbs := daemonCallbacks (fun _ => true), utf8Valid := fun _ => true, bufSize := 512 }
    { fin := true, opcode := opPing } [1, 2, 3]).actions = [Action.write true [0x8a, 3, 1, 2, 3]] := by decide

/-! ## Close codes -/

/-- what "the connection ends with a close frame of status `code`" means for an upgraded server:
    `88 02 hi lo` is written, the connection is released, `on_error` runs — and nothing else -/
theorem refusal_is_close_frame (c : Conf) (hs : c.isServer = true) (hu : c.upgradeComplete = true) (code : Nat) :
    handleError c code = [Action.write c.sendOk (serverCloseFrame code), Action.closeConn, Action.onError] :=
  handleError_server hs hu code

example : serverCloseFrame closeProtocolError = [0x88, 0x02, 0x03, 0xea] := by decide

/-- an unmasked client frame → 1002 (whatever else the frame is) -/
theorem close_code_unmasked (c : Conf) (hs : c.isServer = true) (fl : Flags) (hm : fl.mask = false) (payload : Bytes) :
    (frameOutcome c fl payload).open_ = false ∧
    (frameOutcome c fl payload).actions = handleError c closeProtocolError := by
  simp [frameOutcome, hs, hm]

example : (frameOutcome exampleConf { fin := true, opcode := opText, mask := false } [104]).actions =
    [Action.write true [0x88, 2, 0x03, 0xea], Action.closeConn, Action.onError] := by decide

/-- a reserved bit without a negotiated extension → 1002 -/
theorem close_code_rsv (c : Conf) (hx : c.extAccepted = false) (f : Flags) (hr : f.rsv ≠ 0) (p : Bytes) :
    (wsHandleFrame c f p).refusedWith c closeProtocolError := by
  simp [wsHandleFrame, rsvCheck, hr, hx, refuse, HandleResult.refusedWith]

example : (wsHandleFrame exampleConf { fin := true, rsv := 4, opcode := opText, mask := true } [104]).refusedWith exampleConf
    closeProtocolError := close_code_rsv _ rfl _ (by decide) _

/-- a reserved opcode (3-7, 11-15) → 1002, with or without FIN, in any fragmentation state -/
theorem close_code_reserved_opcode (c : Conf) (f : Flags)
    (hop : f.opcode ≠ opContinuation ∧ f.opcode ≠ opText ∧ f.opcode ≠ opBinary ∧
           f.opcode ≠ opClose ∧ f.opcode ≠ opPing ∧ f.opcode ≠ opPong) (p : Bytes) :
    (wsHandleFrame c f p).refusedWith c closeProtocolError := by
  obtain ⟨h0, h1, h2, h8, h9, h10⟩ := hop
  rcases wsHandleFrame_cases c f p with ⟨f', h⟩ | ⟨_, h⟩ | ⟨f', h0', hf', h⟩
  · rw [h]; exact refuse_refusedWith c f' _
  · rw [h]; simp [dispatchOpcode, h0, h1, h2, h8, h9, h10, refuse_refusedWith]
  · rw [h]; simp [dispatchOpcode, h0', hf', h1, h2, refuse_refusedWith]

example : (wsHandleFrame exampleConf { fin := true, opcode := 11, mask := true } []).actions =
    handleError exampleConf closeProtocolError := by decide

/-- a fragmented control frame (FIN = 0, opcode ≥ 8) → 1002 -/
theorem close_code_fragmented_control (c : Conf) (hx : c.extAccepted = false) (f : Flags) (hfin : f.fin = false)
    (hop : f.opcode ≥ opClose) (p : Bytes) :
    (wsHandleFrame c f p).refusedWith c closeProtocolError := by
  by_cases hr : f.rsv = 0
  · simp [wsHandleFrame, rsvCheck, hr, hfin, hop, refuse, HandleResult.refusedWith]
  · exact close_code_rsv c hx f hr p

example : (wsHandleFrame exampleConf { fin := false, opcode := opPing, mask := true } [1]).actions =
    handleError exampleConf closeProtocolError := by decide

/-- the dispatcher itself also refuses a ping or pong payload above 125 with 1002 -/
theorem close_code_ping_pong_too_long (c : Conf) (f : Flags) (hfin : f.fin = true) (hrsv : f.rsv = 0)
    (hop : f.opcode = opPing ∨ f.opcode = opPong) (p : Bytes) (hp : p.length > wsSmallFrameSize) :
    (wsHandleFrame c f p).refusedWith c closeProtocolError := by
  rw [wsHandleFrame_fin hfin hrsv (.inr (by rcases hop with h | h <;> rw [h] <;> decide))]
  rcases hop with h | h <;> simp +decide [dispatchOpcode, h, hp, refuse_refusedWith]

example : (wsHandleFrame exampleConf { fin := true, opcode := opPong, mask := true } (List.replicate 126 0)).actions =
    handleError exampleConf closeProtocolError := by decide +kernel

/-- a close frame with a one byte payload → 1002 -/
theorem close_code_close_length_one (c : Conf) (f : Flags) (hfin : f.fin = true) (hrsv : f.rsv = 0)
    (hop : f.opcode = opClose) (b : UInt8) :
    (wsHandleFrame c f [b]).refusedWith c closeProtocolError := by
  rw [wsHandleFrame_fin hfin hrsv (.inr (Nat.le_of_eq hop.symm))]
  simp +decide [dispatchOpcode, hop, refuse_refusedWith]

example : (wsHandleFrame exampleConf { fin := true, opcode := opClose, mask := true } [3]).actions =
    handleError exampleConf closeProtocolError := by decide

/-- the valid status codes are exactly 1000-1003, 1007-1011 and 3000-4999 -/
theorem status_code_ranges (code : Nat) :
    isStatusCodeInvalid code = false ↔
      (1000 ≤ code ∧ code ≤ 1003) ∨ (1007 ≤ code ∧ code ≤ 1011) ∨ (3000 ≤ code ∧ code ≤ 4999) := by
  simp [isStatusCodeInvalid, validStatusRanges]
  omega

/-- a close frame carrying an invalid status code (reason absent or valid UTF-8) → 1002 -/
theorem close_code_invalid_status (c : Conf) (f : Flags) (hfin : f.fin = true) (hrsv : f.rsv = 0)
    (hop : f.opcode = opClose) (p : Bytes) (hlen : 2 ≤ p.length)
    (hutf : p.length > 2 → c.utf8Valid (p.drop 2) = true)
    (hbad : isStatusCodeInvalid (beVal (p.take 2)) = true) :
    (wsHandleFrame c f p).refusedWith c closeProtocolError := by
  rw [wsHandleFrame_fin hfin hrsv (.inr (Nat.le_of_eq hop.symm))]
  by_cases h3 : p.length > 2
  · simp +decide [dispatchOpcode, hop, hlen, hutf h3, hbad, h3, refuse_refusedWith]
  · simp +decide [dispatchOpcode, hop, hlen, hbad, h3, refuse_refusedWith]

example : (wsHandleFrame exampleConf { fin := true, opcode := opClose, mask := true } [0x03, 0xed]).actions =
    handleError exampleConf closeProtocolError ∧ isStatusCodeInvalid 1005 = true := by decide

/-- a close frame whose reason is not valid UTF-8 → 1007 -/
theorem close_code_invalid_utf8 (c : Conf) (f : Flags) (hfin : f.fin = true) (hrsv : f.rsv = 0)
    (hop : f.opcode = opClose) (p : Bytes) (hlen : p.length > 2) (hutf : c.utf8Valid (p.drop 2) = false) :
    (wsHandleFrame c f p).refusedWith c closeUnsupportedData := by
  rw [wsHandleFrame_fin hfin hrsv (.inr (Nat.le_of_eq hop.symm))]
  simp +decide [dispatchOpcode, hop, hlen, hutf, refuse_refusedWith]

example : (wsHandleFrame exampleConf { fin := true, opcode := opClose, mask := true } [0x03, 0xe8, 0xc0, 0x80]).actions =
    handleError exampleConf closeUnsupportedData := by decide

/-- a well-formed close frame (empty, or valid code + valid reason, at most 125 bytes) is answered by
    the close frame 1000, the connection is released and `close_received` gets the peer's code -/
theorem close_handshake (c : Conf) (f : Flags) (hfin : f.fin = true) (hrsv : f.rsv = 0)
    (hop : f.opcode = opClose) (p : Bytes) (hl1 : p.length ≠ 1) (hl : p.length ≤ wsSmallFrameSize)
    (hutf : p.length > 2 → c.utf8Valid (p.drop 2) = true)
    (hgood : p.length ≥ 2 → isStatusCodeInvalid (beVal (p.take 2)) = false) :
    (wsHandleFrame c f p).ret = .closed ∧
    (wsHandleFrame c f p).actions = websocketClose c closeNormal ++
      (match c.cbs.close with
       | some _ => [Action.closeReceived (if p.length ≥ 2 then beVal (p.take 2) else closeNormal)]
       | none => []) := by
  rw [wsHandleFrame_fin hfin hrsv (.inr (Nat.le_of_eq hop.symm))]
  have hl' : ¬ (p.length > wsSmallFrameSize) := by omega
  have hu : (decide (p.length > 2) && !c.utf8Valid (p.drop 2)) = false := by
    by_cases h3 : p.length > 2 <;> simp [h3, hutf]
  have hst : isStatusCodeInvalid (if p.length ≥ 2 then beVal (p.take 2) else closeNormal) = false := by
    split
    · exact hgood ‹_›
    · decide
  simp +decide [dispatchOpcode, hop, hl1, hl', hu, hst]
  cases c.cbs.close <;> rfl

example : (wsHandleFrame exampleConf { fin := true, opcode := opClose, mask := true } [0x03, 0xe9, 98, 121, 101]).actions =
    [Action.write true [0x88, 2, 0x03, 0xe8], Action.closeConn, Action.closeReceived 1001] := by decide

/-! ## The daemon's callback set (websocket_peer.c) -/

/-- the generated facts about `init_websocket_peer` agree with `daemonCallbacks` -/
theorem daemon_callback_set (parseOk : Bytes → Bool) :
    ((daemonCallbacks parseOk).textMessage.isSome, (daemonCallbacks parseOk).textFrame.isSome,
     (daemonCallbacks parseOk).binaryMessage.isSome, (daemonCallbacks parseOk).binaryFrame.isSome,
     (daemonCallbacks parseOk).ping.isSome, (daemonCallbacks parseOk).pong.isSome,
     (daemonCallbacks parseOk).close.isSome) =
    (daemonSets_text_message_received, daemonSets_text_frame_received, daemonSets_binary_message_received,
     daemonSets_binary_frame_received, daemonSets_ping_received, daemonSets_pong_received,
     daemonSets_close_received) := by
  rfl

/-- a binary message: the daemon has no binary handler → 1003 -/
theorem close_code_binary_message (c : Conf) (parseOk : Bytes → Bool) (hc : c.cbs = daemonCallbacks parseOk)
    (f : Flags) (hfin : f.fin = true) (hrsv : f.rsv = 0) (hop : f.opcode = opBinary) (hfr : f.isFragmented = false)
    (p : Bytes) :
    (wsHandleFrame c f p).refusedWith c closeUnsupported := by
  rw [wsHandleFrame_fin hfin hrsv (.inl hfr)]
  simp +decide [dispatchOpcode, hop, hc, daemonCallbacks, refuse_refusedWith]

example : (wsHandleFrame exampleConf { fin := true, opcode := opBinary, mask := true } [1, 2]).actions =
    handleError exampleConf closeUnsupported := by decide

/-- a text message: the payload is handed to the JSON-RPC layer exactly once; if that layer accepts it
    the connection stays open and nothing is written by the WebSocket layer; if it rejects it the
    connection ends with close frame 1011 -/
theorem text_message_dispatch (c : Conf) (parseOk : Bytes → Bool) (hc : c.cbs = daemonCallbacks parseOk)
    (hs : c.isServer = true) (fl : Flags) (hm : fl.mask = true) (hfin : fl.fin = true) (hrsv : fl.rsv = 0)
    (hop : fl.opcode = opText) (hfr : fl.isFragmented = false) (p : Bytes) :
    (parseOk p = true →
      (frameOutcome c fl p).open_ = true ∧ (frameOutcome c fl p).actions = [Action.textMessage p]) ∧
    (parseOk p = false →
      (frameOutcome c fl p).open_ = false ∧
      (frameOutcome c fl p).actions = Action.textMessage p :: handleError c closeInternalError) := by
  rw [frameOutcome, wsHandleFrame_fin hfin hrsv (.inl hfr)]
  constructor <;> intro hp <;>
    simp +decide [hs, hm, payloadResult, dispatchOpcode, hop, hc, daemonCallbacks, hp]

example : (frameOutcome exampleConf { fin := true, opcode := opText, mask := true } [123, 125]).actions = [Action.textMessage [123, 125]] ∧
    (frameOutcome exampleConf { fin := true, opcode := opText, mask := true } [63]).actions =
      Action.textMessage [63] :: handleError exampleConf closeInternalError := by decide

/-- **Fragmented data messages are processed or refused with a close frame — never anything else.**
    For every callback set: a fragment (FIN = 0 data frame, or a continuation frame) either reaches
    `text_frame_received` / `binary_frame_received` with its payload, or the only thing that happens is
    `handle_error` with 1002 (protocol) or 1003 (no fragment handler). -/
theorem data_fragments_processed_or_refused (c : Conf) (f : Flags)
    (hfrag : (f.fin = false ∧ f.opcode < opClose) ∨ f.opcode = opContinuation) (p : Bytes) :
    (∃ last, (wsHandleFrame c f p).actions.head? = some (Action.textFrame p last)) ∨
    (∃ last, (wsHandleFrame c f p).actions.head? = some (Action.binaryFrame p last)) ∨
    (wsHandleFrame c f p).refusedWith c closeProtocolError ∨
    (wsHandleFrame c f p).refusedWith c closeUnsupported :=
  (fragment_outcome c f hfrag p).imp And.right (Or.imp And.right id)

example : (wsHandleFrame { exampleConf with cbs := fullCallbacks .ok } { fin := false, opcode := opText, mask := true } [104]).actions =
    [Action.textFrame [104] false] := by decide

/-- With the daemon's callback set (no fragment handlers) every fragment is refused with a close frame:
    1002 for a protocol error, 1003 otherwise. -/
theorem daemon_fragments_refused (c : Conf) (parseOk : Bytes → Bool) (hc : c.cbs = daemonCallbacks parseOk)
    (f : Flags) (hfrag : (f.fin = false ∧ f.opcode < opClose) ∨ f.opcode = opContinuation) (p : Bytes) :
    (wsHandleFrame c f p).refusedWith c closeProtocolError ∨
    (wsHandleFrame c f p).refusedWith c closeUnsupported := by
  rcases fragment_outcome c f hfrag p with ⟨h, _⟩ | ⟨h, _⟩ | h
  · rw [hc] at h; cases h
  · rw [hc] at h; cases h
  · exact h

example : (wsHandleFrame { cbs := daemonCallbacks (fun _ => true), utf8Valid := fun _ => true, bufSize := 512 }
    { fin := false, opcode := opText, mask := true } [104]).actions =
    [Action.write true [0x88, 2, 0x03, 0xeb], Action.closeConn, Action.onError] := by decide

/-! ## base64, SHA-1, the accept value -/

theorem base64_length (bs : Bytes) : (Base64.encode bs).length = 4 * ((bs.length + 2) / 3) :=
  Base64.encode_length bs

/-- the specification decoder (RFC 4648, canonical padding) inverts `b64_encode_buffer` on every input -/
theorem base64_decode_encode (bs : Bytes) : Base64.decode (Base64.encode bs) = some bs :=
  Base64.decode_encode bs

theorem sha1_length (msg : Bytes) : (Sha1.sha1 msg).length = sha1HashSize := by
  simp [Sha1.sha1, Sha1.be32, sha1HashSize]

/-- RFC 3174 test vectors 1 and 2 -/
theorem sha1_rfc3174_vectors :
    Sha1.sha1 "abc".toUTF8.toList =
      [0xA9, 0x99, 0x3E, 0x36, 0x47, 0x06, 0x81, 0x6A, 0xBA, 0x3E, 0x25, 0x71, 0x78, 0x50, 0xC2, 0x6C, 0x9C, 0xD0, 0xD8, 0x9D] ∧
    Sha1.sha1 "abcdbcdecdefdefgefghfghighijhijkijkljklmklmnlmnomnopnopq".toUTF8.toList =
      [0x84, 0x98, 0x3E, 0x44, 0x1C, 0x3B, 0xD2, 0x6E, 0xBA, 0xAE, 0x4A, 0xA1, 0xF9, 0x51, 0x29, 0xE5, 0xE5, 0x46, 0x70, 0xF1] := by
  decide +kernel

/-- the accept value always has the 28 characters `send_upgrade_response` reserves for it -/
theorem accept_value_length (secKey : Bytes) : (acceptValue secKey).length = acceptValueSize := by
  simp [acceptValue, base64_length, sha1_length, sha1HashSize, acceptValueSize]

/-- RFC 6455 §1.3 sample: key `dGhlIHNhbXBsZSBub25jZQ==` gives `s3pPLMBiTxaQ9kYGzzhZRbK+xOo=` -/
theorem accept_value_rfc6455_sample :
    acceptValue ("dGhlIHNhbXBsZSBub25jZQ==".toUTF8.toList ++ wsGuid) = "s3pPLMBiTxaQ9kYGzzhZRbK+xOo=".toUTF8.toList := by
  decide +kernel

/-! ## The upgrade decision -/

/-- **A valid upgrade is answered with 101 and the correct accept digest.**  For every request for a
    target the handler is registered for, with any headers in any order and number — provided every
    `Sec-WebSocket-Key` value has 24 bytes and every `Sec-WebSocket-Version` value is "13" (`hdrOk`) —
    GET, HTTP/1.1 or later, `Upgrade` + `Connection: Upgrade` (http-parser's `upgrade` flag), and a
    sub-protocol list that is absent or contains "jet": the one and only action is writing the 101
    response with `Sec-WebSocket-Accept: base64(sha1(key ++ GUID))` and `Sec-WebSocket-Protocol: jet`,
    and the connection is in frame mode afterwards. -/
theorem handshake_valid_101 (c : Conf) (hok : c.sendOk = true) (target path : Bytes)
    (hpre : target.isPrefixOf path = true) (hdrs : List (Bytes × Bytes)) (hall : ∀ x ∈ hdrs, hdrOk x)
    (major minor : Nat) (hver : major > 1 ∨ (major = 1 ∧ minor ≥ 1))
    (hproto : (hdrFold hsAfterRequestLine hdrs).protocolRequested = true → (hdrFold hsAfterRequestLine hdrs).found = true) :
    (Hs.run c target {} (reqEvents path hdrs httpGet major minor true)).1.phase = .upgraded ∧
    (Hs.run c target {} (reqEvents path hdrs httpGet major minor true)).2 =
      [Action.write true (switchResponse ++ Base64.encode (Sha1.sha1 (hdrFold hsAfterRequestLine hdrs).secKey) ++
        switchProtocol ++ subProtocol ++ switchEnd)] := by
  rw [run_valid_request hok hpre hall hver hproto rfl]
  exact ⟨rfl, rfl⟩

/-- the digest is over the value of the last `Sec-WebSocket-Key` header followed by the GUID -/
theorem handshake_accept_key (pre post : List (Bytes × Bytes)) (n v : Bytes) (hk : hdrKind n = .key)
    (hpost : ∀ x ∈ post, hdrKind x.1 ≠ .key) :
    (hdrFold hsAfterRequestLine (pre ++ (n, v) :: post)).secKey = v ++ wsGuid :=
  hdrFold_secKey_last hsAfterRequestLine pre post n v hk hpost

/-- RFC 6455 §1.3 sample request, headers in another order and other letter case: 101 and
    `s3pPLMBiTxaQ9kYGzzhZRbK+xOo=` -/
example :
    (Hs.run exampleConf "/api/jet/".toUTF8.toList {}
      (reqEvents "/api/jet/".toUTF8.toList
        [("sec-websocket-VERSION".toUTF8.toList, "13".toUTF8.toList),
         ("Host".toUTF8.toList, "x".toUTF8.toList),
         ("Sec-WebSocket-Protocol".toUTF8.toList, "chat ,jet".toUTF8.toList),
         ("SEC-WEBSOCKET-KEY".toUTF8.toList, "dGhlIHNhbXBsZSBub25jZQ==".toUTF8.toList)] httpGet 1 1 true)).2 =
    [Action.write true (switchResponse ++ "s3pPLMBiTxaQ9kYGzzhZRbK+xOo=".toUTF8.toList ++ switchProtocol ++ subProtocol ++ switchEnd)] := by
  -- an instance of the valid-upgrade theorem; the digest of this key is `accept_value_rfc6455_sample`
  refine (congrArg (·.2) (run_valid_request (c := exampleConf) rfl ?_ ?_ ?_ ?_
    (k := "dGhlIHNhbXBsZSBub25jZQ==".toUTF8.toList ++ wsGuid) ?_)).trans
    (by rw [upgradeResponse, accept_value_rfc6455_sample]) <;> decide +kernel

/-- What the code does with requests the RFC tells a server to refuse: a key of the wrong length, a
    version other than 13, a sub-protocol list without "jet", a method other than GET, HTTP/1.0, a
    missing `Upgrade` → `400 Bad Request` and the connection is released; an unknown target → 404.
    (A request with *no* key or version header at all is still answered 101 — the digest is then over
    60 zero bytes; RFC 6455 §4.2.1 deviation, outside the property's statement.) -/
theorem handshake_refusals :
    let t := "/api/jet/".toUTF8.toList
    let bad := [Action.write true httpBadRequestResponse, Action.closeConn, Action.onError]
    let key := ("Sec-WebSocket-Key".toUTF8.toList, "dGhlIHNhbXBsZSBub25jZQ==".toUTF8.toList)
    (Hs.run exampleConf t {} (reqEvents t [("Sec-WebSocket-Key".toUTF8.toList, "short".toUTF8.toList)] httpGet 1 1 true)).2 = bad ∧
    (Hs.run exampleConf t {} (reqEvents t [key, ("Sec-WebSocket-Version".toUTF8.toList, "8".toUTF8.toList)] httpGet 1 1 true)).2 = bad ∧
    (Hs.run exampleConf t {} (reqEvents t [key, ("Sec-WebSocket-Protocol".toUTF8.toList, "chat, jetx".toUTF8.toList)] httpGet 1 1 true)).2 = bad ∧
    (Hs.run exampleConf t {} (reqEvents t [key] 3 1 1 true)).2 = bad ∧
    (Hs.run exampleConf t {} (reqEvents t [key] httpGet 1 0 true)).2 = bad ∧
    (Hs.run exampleConf t {} (reqEvents t [key] httpGet 1 1 false)).2 = bad ∧
    (Hs.run exampleConf t {} (reqEvents "/other".toUTF8.toList [key] httpGet 1 1 true)).2 =
      [Action.write true httpNotFoundResponse, Action.closeConn] ∧
    (Hs.run exampleConf t {} (reqEvents t [] httpGet 1 1 true)).2 =
      [Action.write true (upgradeResponse (List.replicate 60 0))] := by
  intro t bad key
  -- the last request is valid (`run_valid_request` without headers); the refusals are computations
  have h : (Hs.run exampleConf t {} (reqEvents t [] httpGet 1 1 true)).2 =
      [Action.write true (upgradeResponse (List.replicate 60 0))] :=
    congrArg (·.2) (run_valid_request (hdrs := []) rfl (List.isPrefixOf_iff_prefix.2 (List.prefix_refl t))
      (by simp) (by decide) (by decide) rfl)
  simp only [h, and_true]
  decide +kernel

end Cjet.Props.C12
