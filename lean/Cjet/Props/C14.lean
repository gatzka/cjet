import Cjet.Props.C03
import Cjet.Lemmas.DaemonC14Deadline
import Cjet.Lemmas.DaemonC14Loop
import Cjet.Lemmas.DaemonC07Run
/-!
# C14 — routed-request deadlines: right value, never early, exactly one outcome

Theorems about the daemon model (`timer.c`, `router.c`, `element.c`) and two small models written
for this property (`Cjet.Lemmas.DaemonC14Loop`): `convert_timeoutns_to_itimerspec` of
`timer_linux.c` and the batch dispatch loop of `eventloop_epoll.c` (fixed and original).

`Float` is opaque here: `belowMin cfg n` is the comparison `valuedouble < MIN_TIMEOUT_IN_S` and
`secondsToNs bits` the conversion `(uint64_t)(seconds * 1e9)`; statements are about the `Nat`
the model hands to the timer.

Assumption about time (not provable in a model without a clock): the harness issues
`Op.timerFire t` only after the simulated clock has passed the deadline armed by `timerArm t ns`,
which is what `timerfd` guarantees.  "Never early" is then: the timeout answer comes from
`timerFire` of that very timer and from nothing else (`timeout_only_on_fire`).
-/

namespace Cjet.Props.C14

open Cjet Cjet.Json Cjet.Daemon Cjet.Daemon.C03 Cjet.Daemon.C14 Cjet.Props.C03

/-! ## 6. The deadline -/

/-- `deadline_precedence`: the deadline armed for an accepted set/call is
    `deadlineOf cfg (request's "timeout" member) (element's timeoutNs)` — the request's own timeout
    if it has one (a number not below the minimum), else the element's — and the complete output
    of the step is `[timerArm t deadline, send owner msg true]`. -/
theorem deadline_precedence (cfg : Config) (s : State) (c : Nat) (o : Oracle) (members : List (Bytes × Json))
    (p : Peer) (isState : Bool) (params : Json) (path : Bytes) (e : Element)
    (heo : EO s) (hp : findPeer s.peers c = some p)
    (hm : (Json.obj members).getItem (k "method") = some (.str (if isState then k "set" else k "call")))
    (hc : Checks cfg s p (.obj members) isState params path e)
    (hv : isState = true → (params.getItem (k "value")).isSome = true)
    (hfull : o.routeFull = false) (hsend : o.sends.headD true = true) :
    -- the request's own timeout
    (∀ n, params.getItem (k "timeout") = some (.num n) → ¬ belowMin cfg n →
      ∃ msg, (step cfg s (.message c (some (.obj members)) o)).2 =
        [.timerArm s.nextTimer (secondsToNs n.bits), .send e.owner msg true]) ∧
    -- else the element's
    (params.getItem (k "timeout") = none →
      ∃ msg, (step cfg s (.message c (some (.obj members)) o)).2 =
        [.timerArm s.nextTimer e.timeoutNs, .send e.owner msg true]) := by
  have key : ∀ tns, deadlineOf cfg (params.getItem (k "timeout")) e.timeoutNs = some tns →
      ∃ msg, (step cfg s (.message c (some (.obj members)) o)).2 =
        [.timerArm s.nextTimer tns, .send e.owner msg true] := by
    intro tns ht
    have := routed_delivery_step cfg s c o members p isState params path e tns heo hp hm hc hv
      ((getTimeout_ns_iff ..).mpr ht) hfull hsend
    exact ⟨_, congrArg Prod.snd this⟩
  constructor
  · intro n hn hb
    exact key _ (by simp [deadlineOf, hn, hb])
  · intro hn
    exact key _ (by simp [deadlineOf, hn])

/-- the hypotheses hold for the request `exSet` of C03 (no timeout member) -/
example : EO exS ∧ findPeer exS.peers 2 = some exP2 ∧
    (Json.obj exSetMembers).getItem (k "method") = some (.str (if true then k "set" else k "call")) ∧
    Checks exCfg exS exP2 (.obj exSetMembers) true exParams (k "p") exElem ∧
    exParams.getItem (k "timeout") = none :=
  ⟨exS_eo, exS_peer2, exSet_method, exSet_checks, exParams_timeout⟩

/-- `element_timeout_from_add`: after an `add` request every element is an element that was there
    before (same peer, same path, same timeout) or the new one — in the adder's list, with the
    request's path and `timeoutNs = deadlineOf cfg (add's "timeout" member) cfg.defaultTimeoutNs`:
    the add's own timeout if given, else the configured default. -/
theorem element_timeout_from_add (cfg : Config) (x : Ctx) (p : Peer) (req : Json) :
    ∀ q ∈ (addElement cfg x p req).1.st.peers, ∀ e' ∈ q.elements,
      (∃ q0 ∈ x.st.peers, q0.conn = q.conn ∧ ∃ e ∈ q0.elements, e.path = e'.path ∧ e.timeoutNs = e'.timeoutNs) ∨
      (q.conn = p.conn ∧ ∃ params, getParamsAndPath req = .ok params e'.path ∧
        deadlineOf cfg (params.getItem (k "timeout")) cfg.defaultTimeoutNs = some e'.timeoutNs) := by
  let P : Nat → Nat → Bytes → Nat → Prop := fun c _ path tns =>
    (∃ q0 ∈ x.st.peers, q0.conn = c ∧ ∃ e ∈ q0.elements, e.path = path ∧ e.timeoutNs = tns) ∨
    (c = p.conn ∧ ∃ params, getParamsAndPath req = .ok params path ∧
      deadlineOf cfg (params.getItem (k "timeout")) cfg.defaultTimeoutNs = some tns)
  exact ep_addElement (P := P) cfg x p req (fun q hq e he => Or.inl ⟨q, hq, rfl, e, he, rfl, rfl⟩)
    fun params path tns hpp ht => Or.inr ⟨rfl, params, hpp, (getTimeout_ns_iff ..).mp ht⟩

/-- `element_timeout_stable`: no operation changes the timeout (or the path, or the peer) of an
    existing element.  Every element after a step was there before with the same path and timeout,
    or was created in this step by an `add` request object of the message, with that request's
    timeout (or the default). -/
theorem element_timeout_stable (cfg : Config) (s : State) (op : Op) (heo : EO s) :
    ∀ q ∈ (step cfg s op).1.peers, ∀ e' ∈ q.elements,
      (∃ q0 ∈ s.peers, q0.conn = q.conn ∧ ∃ e ∈ q0.elements, e.path = e'.path ∧ e.timeoutNs = e'.timeoutNs) ∨
      (∃ msg o, op = .message q.conn msg o ∧ ∃ req ∈ msgRequests msg,
        req.getItem (k "method") = some (.str (k "add")) ∧
        ∃ params, getParamsAndPath req = .ok params e'.path ∧
          deadlineOf cfg (params.getItem (k "timeout")) cfg.defaultTimeoutNs = some e'.timeoutNs) := by
  let P : Nat → Nat → Bytes → Nat → Prop := fun c o path tns => o = c ∧
    ((∃ q0 ∈ s.peers, q0.conn = c ∧ ∃ e ∈ q0.elements, e.path = path ∧ e.timeoutNs = tns) ∨
    (∃ msg o, op = .message c msg o ∧ ∃ req ∈ msgRequests msg,
      req.getItem (k "method") = some (.str (k "add")) ∧
      ∃ params, getParamsAndPath req = .ok params path ∧
        deadlineOf cfg (params.getItem (k "timeout")) cfg.defaultTimeoutNs = some tns))
  have hadd : OpAddOk P cfg op := by
    cases op with
    | message c msg o =>
      exact fun req hreq hmeth params path tns hpp ht =>
        ⟨rfl, Or.inr ⟨msg, o, rfl, req, hreq, hmeth, params, hpp, (getTimeout_ns_iff ..).mp ht⟩⟩
    | _ => trivial
  exact fun q hq e' he' => (ep_step (P := P) And.left cfg s op
    (fun q hq e he => ⟨heo q hq e he, Or.inl ⟨q, hq, rfl, e, he, rfl, rfl⟩⟩) hadd q hq e' he').2

example : EO exS := exS_eo

/-- hence, in every reachable state, an element's timeout is the configured default or the
    conversion of a number that was not below the minimum -/
theorem element_timeout_valid (cfg : Config) (us : List User) (ops : List Op) :
    ∀ q ∈ (run cfg { users := us } ops).1.peers, ∀ e ∈ q.elements,
      e.timeoutNs = cfg.defaultTimeoutNs ∨ ∃ n, ¬ belowMin cfg n ∧ e.timeoutNs = secondsToNs n.bits := by
  let P : Nat → Nat → Bytes → Nat → Prop := fun c o _ tns => o = c ∧
    (tns = cfg.defaultTimeoutNs ∨ ∃ n, ¬ belowMin cfg n ∧ tns = secondsToNs n.bits)
  have hall : ∀ c req, AddOk P cfg c req := by
    intro c req params path tns _ ht
    refine ⟨rfl, ?_⟩
    have hd := (getTimeout_ns_iff ..).mp ht
    unfold deadlineOf at hd
    split at hd
    · exact Or.inl (Option.some.inj hd).symm
    · next n _ =>
      split at hd
      · cases hd
      · next hb => exact Or.inr ⟨n, hb, (Option.some.inj hd).symm⟩
    · cases hd
  have hop : ∀ op, OpAddOk P cfg op := by
    intro op
    cases op with
    | message c msg o => exact fun req _ _ => hall c req
    | _ => trivial
  exact fun q hq e he => (run_inv (I := fun s _ => EP P s) (s := { users := us }) (H := []) cfg ops
    (fun s op _ h => ep_step And.left cfg s op h (hop op)) (fun _ hp => nomatch hp) q hq e he).2

/-- `timeout_refusal`, set/call: a `timeout` member that is not a number, or a number below the
    minimum, is answered with INVALID_PARAMS ("timeout is not a number" / "timeout value is too
    small"); no routing entry is stored, no timer created or armed, nothing is sent to the owner —
    only the id counter has advanced. -/
theorem timeout_refusal (cfg : Config) (x : Ctx) (p : Peer) (req : Json) (isState : Bool)
    (params : Json) (path : Bytes) (e : Element)
    (hc : Checks cfg x.st p req isState params path e)
    (hv : isState = true → (params.getItem (k "value")).isSome = true)
    (hbad : deadlineOf cfg (params.getItem (k "timeout")) e.timeoutNs = none) :
    ∃ reason, (reason = "timeout value is too small" ∨ reason = "timeout is not a number") ∧
      (setOrCall cfg x p req isState).2 = errorFromRequest req INVALID_PARAMS "reason" (k reason) ∧
      (setOrCall cfg x p req isState).1.out = x.out ∧
      (setOrCall cfg x p req isState).1.st.peers = x.st.peers ∧
      (setOrCall cfg x p req isState).1.st.nextTimer = x.st.nextTimer := by
  obtain ⟨reason, hr, h⟩ := setOrCall_timeout_refused hc hv hbad
  exact ⟨reason, hr, by rw [h], by rw [h], by rw [h], by rw [h]⟩

/-- what "refused" means: a non-number, or a number below the minimum -/
theorem refused_timeouts (cfg : Config) (t : Option Json) (dflt : Nat) :
    deadlineOf cfg t dflt = none ↔ ∃ j, t = some j ∧ ((∀ n, j ≠ .num n) ∨ ∃ n, j = .num n ∧ belowMin cfg n) :=
  deadlineOf_none_iff cfg t dflt

def exBadParams : Json := .obj [(k "path", .str (k "p")), (k "value", ofInt 7), (k "timeout", .str (k "soon"))]
def exBadSet : Json := .obj [(k "id", .str (k "a")), (k "method", .str (k "set")), (k "params", exBadParams)]

example : Checks exCfg exS exP2 exBadSet true exBadParams (k "p") exElem ∧
    (exBadParams.getItem (k "value")).isSome = true ∧
    deadlineOf exCfg (exBadParams.getItem (k "timeout")) exElem.timeoutNs = none :=
  ⟨⟨by with_unfolding_all rfl, exSet_checks.el, rfl, rfl, exSet_checks.acc, by with_unfolding_all rfl⟩,
    by with_unfolding_all rfl, by with_unfolding_all rfl⟩

/-- `timeout_refusal`, add: the same refusal; the element is not created, nothing is emitted,
    the state is untouched. -/
theorem timeout_refusal_add (cfg : Config) (x : Ctx) (p : Peer) (req : Json) (params : Json) (path : Bytes)
    (hpp : getParamsAndPath req = .ok params path)
    (hbad : deadlineOf cfg (params.getItem (k "timeout")) cfg.defaultTimeoutNs = none) :
    (addElement cfg x p req).1 = x ∧
    ((cfg.localOnlyAdd && !p.isLocal) = false →
     (params.getItem (k "fetchOnly") = none ∨ ∃ b, params.getItem (k "fetchOnly") = some (.bool b)) →
     ∃ reason, (reason = "timeout value is too small" ∨ reason = "timeout is not a number") ∧
       (addElement cfg x p req).2 = errorFromRequest req INVALID_PARAMS "reason" (k reason)) := by
  refine ⟨addElement_timeout_refused' hpp hbad, ?_⟩
  intro hl hf
  obtain ⟨reason, hr, h⟩ := addElement_timeout_refused (x := x) hl hpp hf hbad
  exact ⟨reason, hr, by rw [h]⟩

def exBadAddParams : Json := .obj [(k "path", .str (k "q")), (k "timeout", .bool true)]
def exBadAdd : Json := .obj [(k "method", .str (k "add")), (k "params", exBadAddParams)]

example : getParamsAndPath exBadAdd = .ok exBadAddParams (k "q") ∧
    deadlineOf exCfg (exBadAddParams.getItem (k "timeout")) exCfg.defaultTimeoutNs = none :=
  ⟨by with_unfolding_all rfl, by with_unfolding_all rfl⟩

/-! ## 7. `convert_timeoutns_to_itimerspec` -/

/-- `itimerspec_exact`: `tv_sec·10⁹ + tv_nsec = ns`, `tv_nsec < 10⁹`, and a positive deadline never
    becomes the all-zero value that would disarm the timer. -/
theorem itimerspec_exact (ns : Nat) :
    (toItimerspec ns).1 * 1000000000 + (toItimerspec ns).2 = ns ∧ (toItimerspec ns).2 < 1000000000 ∧
    (ns > 0 → toItimerspec ns ≠ (0, 0)) :=
  toItimerspec_exact ns

/-- for a `uint64_t` deadline the C arithmetic does not wrap and `tv_sec` fits a signed 64-bit `time_t` -/
theorem itimerspec_in_range (ns : Nat) (h : ns < 2 ^ 64) :
    (toItimerspec ns).1 < 2 ^ 63 ∧ (toItimerspec ns).1 * NSECONDS_IN_SECONDS ≤ ns :=
  toItimerspec_in_range ns h

example : (5000000000 : Nat) < 2 ^ 64 := by decide

/-! ## 8. Exactly one outcome -/

/-- `one_outcome`: over every run, every timer id is destroyed at most once.  Each of the three
    final answers of a routed request — reply relay (`final_answer_reply`), timeout answer
    (`final_answer_timeout`), shutdown answer (`final_answer_shutdown`) — and the immediate error
    when the send to the owner fails is emitted together with `timerDestroy` of that request's
    timer (and timer ids are never reused: `routes_wf`), so at most one of them is ever emitted. -/
theorem one_outcome (cfg : Config) (us : List User) (ops : List Op) :
    ((run cfg { users := us } ops).2.flatten.filterMap destroyedOf).Nodup :=
  C07.nodup_of_reverse (C07.destroyed_tlog _ ▸ (C07.ledgerU_of_run cfg us ops).d.once)

/-- a destroyed timer id is below the timer counter and carried by no stored entry — an entry is
    never resolved twice, a resolved entry never comes back -/
theorem destroyed_timers_dead (cfg : Config) (us : List User) (ops : List Op) :
    let s := (run cfg { users := us } ops).1
    ∀ t ∈ (run cfg { users := us } ops).2.flatten.filterMap destroyedOf,
      t < s.nextTimer ∧ ∀ q ∈ s.peers, ∀ r ∈ q.routes, r.timer ≠ t := by
  intro s t ht
  have h := (C07.ledgerU_of_run cfg us ops).d.dead t (by
    show t ∈ destroyed (C07.tlog _)
    rw [C07.destroyed_tlog]
    exact List.mem_reverse.mpr ht)
  refine ⟨h.1, fun q hq r hr => h.2 r ?_⟩
  show r ∈ vRoutes (s.peers.map pview)
  rw [vRoutes_map_pview]
  exact List.mem_flatMap.mpr ⟨q, hq, hr⟩

/-- `reply_after_timeout_ignored`: after the timeout answer of `r`, and after any further
    operations (counter not wrapping), a reply of the owner with `r`'s id has no effect on the
    state and produces no output. -/
theorem reply_after_timeout_ignored (cfg : Config) (s : State) (r : Route) (orc orc' : Oracle) (ops : List Op)
    (members : List (Bytes × Json)) (payload : Json) (typ : String)
    (hw : RoutesWf s) (hr : RidsWf s) (hin : Stored s r)
    (hok : ∀ op ∈ ops, OpOk op) (hb : s.uuid + runWeight ops < 4294967296)
    (hresp : IsResponse (.obj members) payload typ)
    (hid : (Json.obj members).getItem (k "id") = some (.str r.rid)) :
    let s1 := (step cfg s (.timerFire r.timer orc)).1
    let s2 := (run cfg s1 ops).1
    step cfg s2 (.message r.owner (some (.obj members)) orc') = (s2, []) := by
  intro s1 s2
  have hstep := (final_answer_timeout cfg s orc r hw hin)
  have hgone : ¬ Stored s1 r := by
    show ¬ Stored (step cfg s (.timerFire r.timer orc)).1 r
    rw [hstep.1]; exact hstep.2
  have hb0 : s.uuid + opWeight (.timerFire r.timer orc) < 4294967296 := by
    have : opWeight (.timerFire r.timer orc) = 0 := rfl
    omega
  have hdead1 : RidDeadS s1 r.rid := resolved_is_dead cfg s _ r hw hr trivial hb0 hin hgone
  have hw1 : RoutesWf s1 := routesWf_step cfg s _ hw
  obtain ⟨hr1, hu1⟩ := ridsWf_step cfg s (.timerFire r.timer orc) hw hr trivial hb0
  have hu1' : s1.uuid ≤ s.uuid := by
    have : opWeight (.timerFire r.timer orc) = 0 := rfl
    have h2 : s1.uuid ≤ s.uuid + opWeight (.timerFire r.timer orc) := hu1
    omega
  have hdead2 : RidDeadS s2 r.rid := ridDead_run cfg ops s1 r.rid hw1 hr1 hok (by omega) hdead1
  exact reply_to_dead_ignored cfg s2 r.owner orc' members payload typ r.rid hdead2 hresp hid

example : RoutesWf exS1 ∧ RidsWf exS1 ∧ Stored exS1 exRoute ∧
    IsResponse (.obj exReplyMembers) (.bool true) "result" ∧
    (Json.obj exReplyMembers).getItem (k "id") = some (.str exRoute.rid) :=
  ⟨exS1_wf, exS1_rids, exS1_stored, exReply_isResponse, exReply_id⟩

/-- `reply_and_expiry_together`: when the owner's reply and the expiry of the request's timer are
    both ready (same event-loop iteration), exactly one answer is produced whichever is processed
    first — the second of the two operations changes nothing and emits nothing. -/
theorem reply_and_expiry_together (cfg : Config) (s : State) (r : Route) (orc₁ orc₂ : Oracle)
    (members : List (Bytes × Json)) (payload : Json) (typ : String)
    (hw : RoutesWf s) (hr : RidsWf s) (hin : Stored s r)
    (hresp : IsResponse (.obj members) payload typ)
    (hid : (Json.obj members).getItem (k "id") = some (.str r.rid)) :
    -- reply first: the relay is the answer, the expiry finds nothing
    (let s1 := (step cfg s (.message r.owner (some (.obj members)) orc₁)).1
     (step cfg s (.message r.owner (some (.obj members)) orc₁)).2 =
        .timerDestroy r.timer :: answerSends r.requester (replyAnswer r payload typ) (orc₁.sends.headD true) ∧
     step cfg s1 (.timerFire r.timer orc₂) = (s1, [])) ∧
    -- expiry first: the timeout error is the answer, the reply finds nothing
    (let s1 := (step cfg s (.timerFire r.timer orc₁)).1
     (step cfg s (.timerFire r.timer orc₁)).2 =
        answerSends r.requester (timeoutAnswer r) (orc₁.sends.headD true) ++ [.timerDestroy r.timer] ∧
     step cfg s1 (.message r.owner (some (.obj members)) orc₂) = (s1, [])) := by
  constructor
  · intro s1
    have h := (final_answer_reply cfg s orc₁ members payload typ r hr hin hresp hid).1
    refine ⟨congrArg Prod.snd h, ?_⟩
    apply late_expiry_ignored
    intro r' hr'
    have hs1 : s1 = { s with peers := removeRoute s.peers r.owner r.rid } := congrArg Prod.fst h
    rw [hs1] at hr'
    have hmem : r' ∈ vRoutes (vRemove (s.peers.map pview) r.owner r.rid) := by
      rw [← map_pview_removeRoute, vRoutes_map_pview]; exact hr'
    exact no_timer_after_drop (a := rsS s []) hw ((stored_iff s r).mp hin) r' hmem
  · intro s1
    refine ⟨congrArg Prod.snd (final_answer_timeout cfg s orc₁ r hw hin).1, ?_⟩
    exact reply_after_timeout_ignored cfg s r orc₁ orc₂ [] members payload typ hw hr hin
      (fun _ h => nomatch h) (by have := hr.bound; simp [runWeight]; exact this) hresp hid

/-- `timeout_only_on_fire`: the timeout answer of `r` is what `timerFire r.timer` emits while `r`
    is stored (`final_answer_timeout`); an operation other than the expiry of `r`'s own timer that
    ends `r`'s life is a reply of its owner (→ relay), a drop or disconnect of its owner
    (→ shutdown answer) or of its requester (→ no answer); every other operation leaves `r`
    stored.  And an expiry while `r` is not stored emits nothing (`late_expiry_ignored`). -/
theorem timeout_only_on_fire (cfg : Config) (s : State) (op : Op) (r : Route)
    (hw : RoutesWf s) (hr : RidsWf s) (hok : OpOk op) (hb : s.uuid + opWeight op < 4294967296)
    (hin : Stored s r) (hnot : ∀ o, op ≠ .timerFire r.timer o) :
    Stored (step cfg s op).1 r ∨
    (∃ msg o, op = .message r.owner msg o ∧ msgReplies msg r.rid = true) ∨
    (∃ c msg o, op = .message c msg o ∧ (c = r.owner ∨ c = r.requester) ∧
      (parseMessage cfg (mkCtx s o) c msg).2 = false) ∨
    (∃ c o, op = .disconnect c o ∧ (c = r.owner ∨ c = r.requester)) := by
  by_cases hst : Stored (step cfg s op).1 r
  · exact Or.inl hst
  · right
    have hres := resolution_cases cfg s op r hw hr hok hb hin hst
    cases op with
    | connect _ _ _ _ => exact absurd hres (by simp [Resolves])
    | message c msg o =>
      rcases hres with ⟨rfl, h⟩ | ⟨h1, h2⟩
      · exact Or.inl ⟨msg, o, rfl, h⟩
      · exact Or.inr (Or.inl ⟨c, msg, o, rfl, h1, h2⟩)
    | disconnect c o => exact Or.inr (Or.inr ⟨c, o, rfl, hres⟩)
    | timerFire t o =>
      have : t = r.timer := hres
      exact absurd (this ▸ rfl) (hnot o)

example : RoutesWf exS1 ∧ RidsWf exS1 ∧ OpOk (.connect 3 false true (k "0x3")) ∧
    exS1.uuid + opWeight (.connect 3 false true (k "0x3")) < 4294967296 ∧ Stored exS1 exRoute ∧
    (∀ o, Op.connect 3 false true (k "0x3") ≠ .timerFire exRoute.timer o) :=
  ⟨exS1_wf, exS1_rids, by decide +kernel, by decide +kernel, exS1_stored, fun _ h => nomatch h⟩

/-! ## 9. The event loop -/

/-- `batch_safety` (fixed loop): for every harvested batch — any registrations, any order,
    duplicates, read and write readiness in any combination — and every behaviour of the
    callbacks, no callback is invoked for a registration that was removed from the loop earlier
    in the same batch (by an earlier event's callback or by the read callback of the same event). -/
theorem batch_safety (beh : Behaviour) (batch : List Ev) :
    ∀ c ∈ dispatchFixed beh batch [], c.reg ∉ c.removedBefore :=
  dispatchFixed_safe beh batch [] (fun _ _ _ _ h => nomatch h)

/-- the reply socket (registration 1) and the timer of the routed request (registration 2) are
    harvested together; the reply handler releases the routing entry and with it the timer -/
def replyThenExpiry : List Ev := [⟨some 1, true, false⟩, ⟨some 2, true, false⟩]
def replyFreesTimer : Behaviour := fun reg _ _ => if reg = 1 then [2] else []

/-- `batch_unsafe_original`: the ORIGINAL loop dispatches the harvested expiry through the
    registration the reply handler has just removed (use after free, F10). -/
theorem batch_unsafe_original :
    ∃ c ∈ dispatchOrig replyFreesTimer replyThenExpiry [], c.reg ∈ c.removedBefore := by decide

/-- the fixed loop skips it -/
theorem batch_fixed_example :
    dispatchFixed replyFreesTimer replyThenExpiry [] = [⟨1, .read, []⟩] := by
  with_unfolding_all rfl

end Cjet.Props.C14
