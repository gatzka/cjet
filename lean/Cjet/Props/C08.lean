import Cjet.Lemmas.DaemonC08Examples
import Cjet.Props.Accept

/-!
# C08 — access control: visibility and set/call rights follow authenticated groups only

Model: `Cjet.Daemon.Model` (`groupBit`/`getGroups`/`hasAccess` = groups.c, `authenticateReq` /
`passwdReq` = authenticate.c + the decision part of posix/auth_file.c, the checks in
`offerElement`, `getReq`, `setOrCall`, `addElement`).  `cfg.authLoaded = true` means a credential
file is loaded, `cfg.allGroups` are the registered group names, `State.users` the credential
table (plaintext passwords; `crypt` is outside the model).  Group words are `Nat` bit sets;
`groups_fit_word` shows that they fit the 32-bit `group_t` when at most 32 groups are registered.

Vocabulary (`Cjet.Lemmas.DaemonC08*`):
* `Reach cfg us s`  — `s` is reached from `{ users := us }` by some list of operations (`run`);
* `Unit`            — one JSON-RPC object (`.req x c j`: `parseJsonRpc cfg x c j` runs in context
                      `x`), one close (`.close x c`) or one timer expiry (`.timeout x t`);
  `unitsOf cfg s op` — the units of operation `op` in the order they run (a batch message has one
                      unit per member, then possibly the close of the sender); `u.pre` the context
                      in which `u` starts ("the time of sending" for everything `u` sends),
                      `u.post cfg` the one it ends in; `u.decl cfg` the path and fetch groups an
                      `add` request declares;
* `idFirst j`       — `j` is an object whose first member is "id" (answers and routed requests);
  `isNotif j`       — first member "method" (fetch notifications); `notification e fid ev` is the
                      value notify/offer build for element `e`;
* `ElemIn s path fg`— some peer of `s` owns an element with this path and these fetch groups;
* `AV p`            — `(p.conn, p.user, p.fetchGroups, p.setGroups, p.callGroups)`;
* `VerifiedAuth cfg u p'` — unit `u` is a request of the connection of `p'` whose "user"/"password"
                      members name a record of the credential table (case-folded lookup, as the
                      code does) with exactly that password and an "auth" object, and the user
                      name and three group words of `p'` are the presented name and what
                      get_groups derives from that object;
* `methodOf req`    — the string "method" member; `credentialsOk us u pw` — verdict of credentials_ok;
* `Inv cfg s`       — the invariant (`FInv`: unique connection numbers, fetcher-table slots only for
                      live subscriptions with access; `AuthInv`: theorem 2) — `reachable_inv`.
-/

namespace Cjet.Daemon.C08

open Cjet Cjet.Json Cjet.Daemon

/-! ## 1. groups.c: names ↦ bits, access = non-empty intersection -/

/-- get_groups: bit `j` of the word is set iff the `j`-th registered group name occurs as a string
    member of the array.  (A name registered twice, at `j` and `j'`, sets both bits — the statement
    is per index, so it covers that case as it is; add_group in the C code never registers a name
    twice.) -/
theorem groups_spec (cfg : Config) (hauth : cfg.authLoaded = true) (l : List Json) (j : Nat) :
    (getGroups cfg (some (.arr l))).testBit j = true ↔
      ∃ name, cfg.allGroups[j]? = some name ∧ Json.str name ∈ l :=
  getGroups_testBit cfg hauth l j

example : exCfg.authLoaded = true ∧ getGroups exCfg (some (grp ["ops", "nobody"])) = 2 := by decide +kernel

/-- everything else yields the empty word; words fit `group_t` under the 32-group limit -/
theorem groups_fit_word (cfg : Config) :
    (∀ j, (∀ l, j ≠ some (.arr l)) → getGroups cfg j = 0) ∧
    (cfg.authLoaded = false → ∀ j, getGroups cfg j = 0) ∧
    (cfg.allGroups.length ≤ 32 → ∀ j, getGroups cfg j < 2 ^ 32) :=
  ⟨getGroups_not_array cfg, fun h j => getGroups_noauth cfg h j, fun h j => getGroups_lt cfg h j⟩

example : exCfg.allGroups.length ≤ 32 := by decide +kernel

/-- has_access: a shared set bit when a credential file is loaded, always true otherwise -/
theorem has_access_spec (cfg : Config) (a b : Nat) :
    (cfg.authLoaded = true → (hasAccess cfg a b = true ↔ ∃ i, a.testBit i = true ∧ b.testBit i = true)) ∧
    (cfg.authLoaded = true → (hasAccess cfg a b = true ↔ a &&& b ≠ 0)) ∧
    (cfg.authLoaded = false → hasAccess cfg a b = true) :=
  ⟨fun h => (hasAccess_auth cfg h a b).trans (and_ne_zero_iff a b), fun h => hasAccess_auth cfg h a b,
   fun h => hasAccess_noauth cfg h a b⟩

/-- access = non-empty intersection of the NAMED groups -/
theorem access_iff_shared_group (cfg : Config) (hauth : cfg.authLoaded = true) (la lb : List Json) :
    hasAccess cfg (getGroups cfg (some (.arr la))) (getGroups cfg (some (.arr lb))) = true ↔
      ∃ name, name ∈ cfg.allGroups ∧ Json.str name ∈ la ∧ Json.str name ∈ lb := by
  rw [hasAccess_auth cfg hauth, and_ne_zero_iff]
  constructor
  · rintro ⟨i, ha, hb⟩
    obtain ⟨n1, h1, m1⟩ := (getGroups_testBit cfg hauth la i).mp ha
    obtain ⟨n2, h2, m2⟩ := (getGroups_testBit cfg hauth lb i).mp hb
    have : n1 = n2 := by rw [h1] at h2; exact Option.some.inj h2
    subst this
    exact ⟨n1, List.mem_of_getElem? h1, m1, m2⟩
  · rintro ⟨name, hn, ma, mb⟩
    obtain ⟨i, hi⟩ := List.mem_iff_getElem?.mp hn
    exact ⟨i, (getGroups_testBit cfg hauth la i).mpr ⟨name, hi, ma⟩, (getGroups_testBit cfg hauth lb i).mpr ⟨name, hi, mb⟩⟩

example : hasAccess exCfg (getGroups exCfg (some (grp ["admin"]))) (getGroups exCfg (some (grp ["ops", "admin"]))) = true ∧
    hasAccess exCfg (getGroups exCfg (some (grp ["admin"]))) (getGroups exCfg (some (grp ["ops"]))) = false := by
  decide +kernel

/-! ## 2. peer groups come from a successful authenticate only -/

/-- every reachable state satisfies the invariant the other theorems assume of a context -/
theorem reachable_inv (cfg : Config) (us : List User) (s : State) (hr : Reach cfg us s) (op : Op) :
    Inv cfg s ∧ Reach cfg us (step cfg s op).1 ∧ ∀ u ∈ unitsOf cfg s op, Inv cfg u.pre.st :=
  ⟨hr.inv, hr.step op, (step_inv cfg s op hr.inv).2.1⟩

example : Reach exCfg exUsers exS := exS_reach

/-- In every reachable state every live peer either holds no user name and no group at all, or
    holds a user name `u` for which the case-folded lookup finds a credential record with an
    "auth" object from which get_groups yields exactly the peer's three group words.
    (No hypothesis on `authLoaded`: without a credential file `getGroups` is constantly 0.) -/
theorem peer_groups_from_auth_only (cfg : Config) (us : List User) (s : State) (hr : Reach cfg us s) :
    ∀ p ∈ s.peers,
      (p.user = none ∧ p.fetchGroups = 0 ∧ p.setGroups = 0 ∧ p.callGroups = 0) ∨
      (∃ u usr auth, p.user = some u ∧ findUser s.users u = some usr ∧ usr.auth = some auth ∧
        p.fetchGroups = getGroups cfg (auth.getItem (k "fetchGroups")) ∧
        p.setGroups = getGroups cfg (auth.getItem (k "setGroups")) ∧
        p.callGroups = getGroups cfg (auth.getItem (k "callGroups"))) :=
  hr.inv.a

example : userCheck exS 1 true = true ∧ userCheck exS 3 false = true := by rw [exS_eq]; decide +kernel

/-- … and the credential table of a reachable state is the loaded one up to password fields -/
theorem credential_table_stable (cfg : Config) (us : List User) (s : State) (hr : Reach cfg us s) :
    s.users.map (fun u => (u.name, u.auth, u.readonly, u.admin)) =
      us.map (fun u => (u.name, u.auth, u.readonly, u.admin)) := by
  obtain ⟨ops, rfl⟩ := hr
  exact run_users ops _ (Inv.init cfg us)

/-- The history part: across one operation the authentication fields of a peer stay as they were,
    or the peer is the fresh one of a `connect` (all unset), or the operation contains a request
    of that very connection presenting the stored password of a credential record, and the
    peer's user name and group words are exactly those of that record (`VerifiedAuth`). -/
theorem groups_change_only_by_verified_password (cfg : Config) (us : List User) (s : State)
    (hr : Reach cfg us s) (op : Op) :
    ∀ p' ∈ (step cfg s op).1.peers,
      (∃ p ∈ s.peers, AV p' = AV p) ∨
      (∃ ws il a, op = .connect p'.conn ws il a ∧ p'.user = none ∧ p'.fetchGroups = 0 ∧
        p'.setGroups = 0 ∧ p'.callGroups = 0) ∨
      (∃ u ∈ unitsOf cfg s op, VerifiedAuth cfg u p') :=
  step_auth hr.inv op

example : userCheck (step exCfg exS (.message 3 (some exGoodAuth) {})).1 3 true = true := by rw [exS_eq]; decide +kernel

/-- after `connect`, on either transport and from any origin, the new peer has no user and no group -/
theorem fresh_peer_has_no_groups (cfg : Config) (s : State) (c : Nat) (ws il : Bool) (a : Bytes)
    (h : findPeer s.peers c = none) :
    ∃ p, (step cfg s (.connect c ws il a)).1.peers = s.peers ++ [p] ∧ p.conn = c ∧ p.ws = ws ∧ p.isLocal = il ∧
      p.user = none ∧ p.fetchGroups = 0 ∧ p.setGroups = 0 ∧ p.callGroups = 0 ∧
      (step cfg s (.connect c ws il a)).2 = [] := by
  refine ⟨{ conn := c, ws := ws, isLocal := il, addrTok := a }, ?_, rfl, rfl, rfl, rfl, rfl, rfl, rfl, ?_⟩
  · simp [step, h]
  · simp [step, h]

example : findPeer exS.peers 4 = none := by rw [exS_eq]; rfl

/-- An authenticate that is answered with an error, or whose credentials do not verify, leaves
    the whole context (state, outputs, oracle) unchanged. -/
theorem failed_auth_changes_nothing (cfg : Config) (x : Ctx) (p : Peer) (req : Json) :
    (∀ j, (authenticateReq cfg x p req).2 = some j → (j.getItem (k "error")).isSome = true →
        (authenticateReq cfg x p req).1 = x) ∧
    (∀ u pw, getCredentials req = .ok u pw → credentialsOk x.st.users u pw = none →
        (authenticateReq cfg x p req).1 = x) := by
  rcases authenticateReq_spec cfg x p req with ⟨h, _⟩ | ⟨u, pw, auth, hc, _, hok, heq⟩
  · exact ⟨fun _ _ _ => h, fun _ _ _ _ => h⟩
  · constructor
    · intro j hj he
      rw [heq] at hj
      rw [success_has_no_error hj] at he
      cases he
    · intro u' pw' hc' hno
      rw [hc] at hc'
      injection hc' with h1 h2
      subst h1; subst h2
      rw [hok] at hno
      cases hno

example : isErrorResp (authenticateReq exCfg exX { conn := 3, ws := false, isLocal := false, addrTok := k "0x3" } exBadAuth).2 = true := by
  rw [exX, exS_eq]; decide +kernel

/-- the same through the dispatcher: the unit of a failed authenticate leaves the state as it was -/
theorem failed_auth_changes_nothing_unit (cfg : Config) (x : Ctx) (c : Nat) (p : Peer) (req : Json)
    (hp : findPeer x.st.peers c = some p) (hm : methodOf req = some (k "authenticate"))
    (hfail : ∀ u pw, getCredentials req = .ok u pw → credentialsOk x.st.users u pw = none) :
    (parseJsonRpc cfg x c req).1.st = x.st := by
  rw [parseJsonRpc_of_methodOf hp hm, handleMethod_authenticate]
  have h1 : (authenticateReq cfg x p req).1 = x := by
    rcases authenticateReq_spec cfg x p req with ⟨h, _⟩ | ⟨u, pw, auth, hc, _, hok, _⟩
    · exact h
    · rw [hfail u pw hc] at hok; cases hok
  rw [h1, sendResponse_st]

example : findPeer exS.peers 3 = some { conn := 3, ws := false, isLocal := false, addrTok := k "0x3" } ∨ True := Or.inr trivial

/-! ## 3. visibility -/

/-- Every value the daemon sends in any operation from any reachable state is either an answer /
    routed request (first member "id") or a fetch notification, and every notification
    `notification e fid ev` sent to connection `c` was sent by a unit `u` of the operation in whose
    start state the peer `p` of `c` shares a fetch group with `e`
    (`e.fetchGroups &&& p.fetchGroups ≠ 0`), where `e` carries the path and fetch groups of an
    element registered in that state or of the element the unit's `add` request declares. -/
theorem visible_only_shared_group (cfg : Config) (hauth : cfg.authLoaded = true) (us : List User) (s : State)
    (hr : Reach cfg us s) (op : Op) :
    ∀ c j ok, Obs.send c j ok ∈ (step cfg s op).2 →
      (idFirst j = true ∧ isNotif j = false) ∨
      (isNotif j = true ∧ ∃ u ∈ unitsOf cfg s op, ∃ e fid ev p,
        j = notification e fid ev ∧ findPeer u.pre.st.peers c = some p ∧
        e.fetchGroups &&& p.fetchGroups ≠ 0 ∧
        (ElemIn u.pre.st e.path e.fetchGroups ∨ u.decl cfg = some (e.path, e.fetchGroups))) := by
  intro c j ok hmem
  obtain ⟨u, hu, hJ⟩ := (step_inv cfg s op hr.inv).2.2 _ hmem
  rcases hJ with h | ⟨e, fid, ev, p, h1, h2, h3, h4⟩
  · exact Or.inl ⟨h, not_isNotif_of_idFirst h⟩
  · refine Or.inr ⟨h1 ▸ isNotif_notification e fid ev, u, hu, e, fid, ev, p, h1, h2, ?_, h4⟩
    exact (hasAccess_auth cfg hauth _ _).mp h3

example : ∃ j ok, Obs.send 2 j ok ∈ (step exCfg exS exChange).2 ∧ isNotif j = true :=
  notifTo_sound (by rw [exS_eq]; decide +kernel)

/-- `get`: the unit of a get request only answers the caller, and every entry of the result is
    the path/value of a registered state that shares a fetch group with the caller. -/
theorem get_only_shared_group (cfg : Config) (hauth : cfg.authLoaded = true) (x : Ctx) (c : Nat) (p : Peer) (req : Json)
    (hp : findPeer x.st.peers c = some p) (hm : methodOf req = some (k "get")) :
    ∃ r, parseJsonRpc cfg x c req = sendResponse x c r ∧
      ((∃ code tag reason, r = errorFromRequest req code tag reason) ∨
       (∃ entries, r = resultFromRequest req (.arr entries) ∧
         ∀ entry ∈ entries, ∃ owner ∈ x.st.peers, ∃ e ∈ owner.elements, ∃ v, e.value = some v ∧
           entry = Json.obj [(k "path", .str e.path), (k "value", v)] ∧
           e.fetchGroups &&& p.fetchGroups ≠ 0)) := by
  rw [parseJsonRpc_of_methodOf hp hm, handleMethod_get]
  obtain ⟨h1, h2⟩ := getReq_spec cfg x p req
  refine ⟨(getReq cfg x p req).2, by rw [h1], ?_⟩
  rcases h2 with ⟨tag, reason, code, h⟩ | ⟨rule, h⟩
  · exact Or.inl ⟨code, tag, reason, h⟩
  · refine Or.inr ⟨_, h, ?_⟩
    intro entry he
    obtain ⟨owner, ho, e, hel, v, hv, hent, hacc, _⟩ := getEntries_mem he
    exact ⟨owner, ho, e, hel, v, hv, hent, (hasAccess_auth cfg hauth _ _).mp hacc⟩

example : ∃ p, findPeer exX.st.peers 2 = some p ∧ methodOf exGet = some (k "get") := by
  obtain ⟨p, hp, _⟩ := userCheck_sound (s := exS) (c := 2) (a := true) (by rw [exS_eq]; decide +kernel)
  exact ⟨p, hp, by decide +kernel⟩

/-! ## 4. set / call -/

/-- A set (call) for an element whose set (call) groups share no group with the caller is not
    routed: the unit is exactly "answer the caller with an INVALID_PARAMS error" — the state is
    unchanged (no routing entry, counters untouched), nothing is sent to the owner, no timer is
    armed; without a usable request id nothing is sent at all. -/
theorem set_call_only_shared_group (cfg : Config) (hauth : cfg.authLoaded = true) (x : Ctx) (c : Nat) (p : Peer)
    (req params : Json) (path : Bytes) (e : Element) (isState : Bool)
    (hp : findPeer x.st.peers c = some p)
    (hm : methodOf req = some (if isState then k "set" else k "call"))
    (hgp : getParamsAndPath req = .ok params path) (he : findElement x.st path = some e)
    (hno : (if isState then e.setGroups &&& p.setGroups else e.callGroups &&& p.callGroups) = 0) :
    ∃ tag, parseJsonRpc cfg x c req = sendResponse x c (errorFromRequest req INVALID_PARAMS tag path) ∧
      (parseJsonRpc cfg x c req).1.st = x.st ∧
      ((errorFromRequest req INVALID_PARAMS tag path = none ∧ (parseJsonRpc cfg x c req).1 = x) ∨
       (∃ resp ok, errorFromRequest req INVALID_PARAMS tag path = some resp ∧
          (parseJsonRpc cfg x c req).1.out = Obs.send c resp ok :: x.out)) := by
  have hacc : routeAccess cfg e p isState = false :=
    Bool.eq_false_iff.2 fun h => (routeAccess_iff cfg hauth e p isState).1 h hno
  obtain ⟨tag, htag⟩ := setOrCall_denied (cfg := cfg) (x := x) (isState := isState) hgp he hacc
  have hpj : parseJsonRpc cfg x c req = sendResponse x c (errorFromRequest req INVALID_PARAMS tag path) := by
    rw [parseJsonRpc_setOrCall hp hm, htag]
  refine ⟨tag, hpj, ?_, ?_⟩
  · rw [hpj, sendResponse_st]
  · rw [hpj]
    cases hr : errorFromRequest req INVALID_PARAMS tag path with
    | none => exact Or.inl ⟨rfl, rfl⟩
    | some resp =>
      exact Or.inr ⟨resp, _, rfl, send_out_eq x c resp⟩

example : ∃ p params path e, findPeer exX.st.peers 3 = some p ∧ methodOf exSet = some (k "set") ∧
    getParamsAndPath exSet = .ok params path ∧ findElement exX.st path = some e ∧ e.setGroups &&& p.setGroups = 0 := by
  obtain ⟨p, params, path, e, h1, h2, h3, h4⟩ := routeCheck_sound (x := exX) (c := 3) (req := exSet) (isState := true)
    (shared := false) (by rw [exX, exS_eq]; decide +kernel)
  exact ⟨p, params, path, e, h1, by decide +kernel, h2, h3, by simpa using h4⟩

/-- Conversely: whenever the unit of a set (call) request is anything else than just answering the
    caller — a routing entry, a timer, a message to the owner — the element shares a set (call)
    group with the caller. -/
theorem routed_only_if_shared (cfg : Config) (hauth : cfg.authLoaded = true) (x : Ctx) (c : Nat) (p : Peer)
    (req : Json) (isState : Bool) (hp : findPeer x.st.peers c = some p)
    (hm : methodOf req = some (if isState then k "set" else k "call"))
    (hmore : ∀ r, parseJsonRpc cfg x c req ≠ sendResponse x c r) :
    ∃ params path e, getParamsAndPath req = .ok params path ∧ findElement x.st path = some e ∧
      (if isState then e.setGroups &&& p.setGroups else e.callGroups &&& p.callGroups) ≠ 0 := by
  rcases setOrCall_effect cfg x p req isState with h | ⟨params, path, e, h1, h2, h3⟩
  · exact absurd (by rw [parseJsonRpc_setOrCall hp hm, h]) (hmore (setOrCall cfg x p req isState).2)
  · exact ⟨params, path, e, h1, h2, (routeAccess_iff cfg hauth e p isState).1 h3⟩

example : routeCheck exX 2 exSet true true = true := by rw [exX, exS_eq]; decide +kernel

/-! ## 5. a peer that never authenticated -/

/-- With a credential file loaded, an element without declared fetch (set, call) groups is
    visible to (settable, callable by) nobody: `fill_access` gives it the empty words and
    `has_access` of an empty word is false. -/
theorem element_without_groups_invisible (cfg : Config) (hauth : cfg.authLoaded = true) (isState : Bool) (g : Nat) :
    fillAccess cfg isState none = .ok (0, 0, 0) ∧ hasAccess cfg 0 g = false ∧ hasAccess cfg g 0 = false := by
  refine ⟨rfl, ?_, ?_⟩
  · cases h : hasAccess cfg 0 g with
    | false => rfl
    | true => exact absurd (Nat.zero_and g) ((hasAccess_auth cfg hauth _ _).mp h)
  · cases h : hasAccess cfg g 0 with
    | false => rfl
    | true => exact absurd (Nat.and_zero g) ((hasAccess_auth cfg hauth _ _).mp h)

/-- A peer without a user name (it never authenticated successfully, theorem 2) receives no
    notification for any element: a unit that starts while connection `c` is unauthenticated sends
    to `c` nothing but answers and routed requests. -/
theorem unauthenticated_gets_no_notification (cfg : Config) (hauth : cfg.authLoaded = true) (us : List User)
    (s : State) (hr : Reach cfg us s) (op : Op) (u : Unit) (hu : u ∈ unitsOf cfg s op) (c : Nat) (p : Peer)
    (hp : findPeer u.pre.st.peers c = some p) (hnone : p.user = none) :
    ∃ new, (u.post cfg).out = new ++ u.pre.out ∧
      ∀ j ok, Obs.send c j ok ∈ new → idFirst j = true ∧ isNotif j = false := by
  have hI : Inv cfg u.pre.st := (step_inv cfg s op hr.inv).2.1 u hu
  obtain ⟨_, new, hnew, hJ⟩ := unit_inv cfg u hI
  refine ⟨new, hnew, ?_⟩
  intro j ok hmem
  rcases hJ _ hmem with h | ⟨e, fid, ev, p', _, h2, h3, _⟩
  · exact ⟨h, not_isNotif_of_idFirst h⟩
  · exfalso
    rw [hp] at h2
    cases h2
    rw [((hI.a p (findPeer_mem hp)).of_no_user hnone).1] at h3
    exact absurd (Nat.and_zero _) ((hasAccess_auth cfg hauth _ _).mp h3)

example : ∃ u ∈ unitsOf exCfg exS exChange, ∃ p, findPeer u.pre.st.peers 3 = some p ∧ p.user = none := by
  refine ⟨.req exX 1 _, unitsOf_single exCfg exS 1 _ {} (by rw [exS_eq]; rfl), ?_⟩
  obtain ⟨p, hp, hu⟩ := userCheck_sound (s := exS) (c := 3) (a := false) (by rw [exS_eq]; decide +kernel)
  exact ⟨p, hp, by simpa using hu⟩

/-- … its `get` yields an empty result … -/
theorem unauthenticated_get_is_empty (cfg : Config) (hauth : cfg.authLoaded = true) (x : Ctx) (hI : Inv cfg x.st)
    (c : Nat) (p : Peer) (req : Json) (hp : findPeer x.st.peers c = some p) (hnone : p.user = none)
    (hm : methodOf req = some (k "get")) :
    ∃ r, parseJsonRpc cfg x c req = sendResponse x c r ∧
      ((∃ code tag reason, r = errorFromRequest req code tag reason) ∨ r = resultFromRequest req (.arr [])) := by
  obtain ⟨r, h1, h2⟩ := get_only_shared_group cfg hauth x c p req hp hm
  refine ⟨r, h1, ?_⟩
  rcases h2 with h | ⟨entries, hr, hall⟩
  · exact Or.inl h
  · right
    have hz : p.fetchGroups = 0 := ((hI.a p (findPeer_mem hp)).of_no_user hnone).1
    cases entries with
    | nil => exact hr
    | cons a rest =>
      obtain ⟨_, _, e, _, _, _, _, hne⟩ := hall a (List.mem_cons_self ..)
      rw [hz] at hne
      exact absurd (Nat.and_zero _) hne

example : Inv exCfg exX.st ∧ userCheck exX.st 3 false = true :=
  ⟨exS_reach.inv, show userCheck exS 3 false = true by rw [exS_eq]; decide +kernel⟩

/-- … and none of its set / call requests is routed. -/
theorem unauthenticated_cannot_set_or_call (cfg : Config) (hauth : cfg.authLoaded = true) (x : Ctx) (hI : Inv cfg x.st)
    (c : Nat) (p : Peer) (req : Json) (isState : Bool) (hp : findPeer x.st.peers c = some p) (hnone : p.user = none)
    (hm : methodOf req = some (if isState then k "set" else k "call")) :
    ∃ r, parseJsonRpc cfg x c req = sendResponse x c r := by
  apply Classical.byContradiction
  intro hcon
  have hmore : ∀ r, parseJsonRpc cfg x c req ≠ sendResponse x c r := fun r h => hcon ⟨r, h⟩
  obtain ⟨_, _, e, _, _, hne⟩ := routed_only_if_shared cfg hauth x c p req isState hp hm hmore
  obtain ⟨_, hs, hc⟩ := (hI.a p (findPeer_mem hp)).of_no_user hnone
  rw [hs, hc] at hne
  cases isState <;> exact hne (Nat.and_zero _)

/-- Summary: in every reachable state, for every operation, a unit that starts while connection
    `c` has no user name sends `c` no notification; and if that unit is a request of `c` itself
    it answers a `get` with an error or the empty list and does not route a `set` / `call`. -/
theorem unauthenticated_sees_nothing_protected (cfg : Config) (hauth : cfg.authLoaded = true) (us : List User)
    (s : State) (hr : Reach cfg us s) (op : Op) (u : Unit) (hu : u ∈ unitsOf cfg s op) (c : Nat) (p : Peer)
    (hp : findPeer u.pre.st.peers c = some p) (hnone : p.user = none) :
    (∃ new, (u.post cfg).out = new ++ u.pre.out ∧
      ∀ j ok, Obs.send c j ok ∈ new → idFirst j = true ∧ isNotif j = false) ∧
    (∀ x req, u = .req x c req →
      (methodOf req = some (k "get") → ∃ r, u.post cfg = (sendResponse x c r).1 ∧
        ((∃ code tag reason, r = errorFromRequest req code tag reason) ∨ r = resultFromRequest req (.arr []))) ∧
      (methodOf req = some (k "set") ∨ methodOf req = some (k "call") → ∃ r, u.post cfg = (sendResponse x c r).1)) := by
  have hI : Inv cfg u.pre.st := (step_inv cfg s op hr.inv).2.1 u hu
  refine ⟨unauthenticated_gets_no_notification cfg hauth us s hr op u hu c p hp hnone, ?_⟩
  intro x req hux
  subst hux
  refine ⟨?_, ?_⟩
  · intro hm
    obtain ⟨r, h1, h2⟩ := unauthenticated_get_is_empty cfg hauth x hI c p req hp hnone hm
    exact ⟨r, congrArg Prod.fst h1, h2⟩
  · rintro (hm | hm)
    · obtain ⟨r, h1⟩ := unauthenticated_cannot_set_or_call cfg hauth x hI c p req true hp hnone hm
      exact ⟨r, congrArg Prod.fst h1⟩
    · obtain ⟨r, h1⟩ := unauthenticated_cannot_set_or_call cfg hauth x hI c p req false hp hnone hm
      exact ⟨r, congrArg Prod.fst h1⟩

example : ∃ u ∈ unitsOf exCfg exS (.message 3 (some exSet) {}), ∃ p, findPeer u.pre.st.peers 3 = some p ∧ p.user = none := by
  refine ⟨.req exX 3 exSet, unitsOf_single exCfg exS 3 _ {} (by rw [exS_eq]; rfl), ?_⟩
  obtain ⟨p, hp, hu⟩ := userCheck_sound (s := exS) (c := 3) (a := false) (by rw [exS_eq]; decide +kernel)
  exact ⟨p, hp, by simpa using hu⟩

/-! ## 6. passwords never reach an output -/

/-- Two runs that differ only in password strings — the password fields of the credential table
    (`StRel`: same peers, index, counters; tables equal up to passwords) and the "password" values
    carried by authenticate / passwd requests (`OpRel`: same operation, or messages whose request
    objects are pairwise the same or authenticate / passwd requests with the same id and user) —
    and in which every credential comparison has the same verdict (part of `OpRel`, stated for the
    contexts in which the request objects are processed) produce IDENTICAL outputs and end in
    states that again differ in password fields only.  Outputs are a function of the verdicts,
    not of the password bytes. -/
theorem password_noninterference (cfg : Config) (s s' : State) (h : StRel s s') (op op' : Op)
    (hop : OpRel cfg s s' op op') :
    (step cfg s' op').2 = (step cfg s op).2 ∧ StRel (step cfg s op).1 (step cfg s' op').1 :=
  step_rel cfg h op op' hop

example : StRel exS exS' ∧ OpRel exCfg exS exS' (exAuthOp "pw2") (exAuthOp "other") := ⟨exS_rel, exOpRel⟩

/-- The same for a single request object in an arbitrary context `x` and the context `wu us' x`
    that differs from it in the credential table: the second run ends in `wu us'' x₁` for the end
    context `x₁` of the first run (so: the same outputs, peers, oracle state) with a table `us''`
    that still agrees up to passwords, and with the same keep/drop decision. -/
theorem password_noninterference_unit (cfg : Config) (x : Ctx) (c : Nat) (req req' : Json) (us' : List User)
    (h : PwOnly x.st.users us') (hr : ReqRel req req') (hv : Verdicts x.st.users us' req req') :
    ∃ us'', PwOnly (parseJsonRpc cfg x c req).1.st.users us'' ∧
      parseJsonRpc cfg (wu us' x) c req' = (wu us'' (parseJsonRpc cfg x c req).1, (parseJsonRpc cfg x c req).2) :=
  parseJsonRpc_rel cfg x c h hr hv

example : PwOnly exX.st.users exS'.users := exS_rel.1

/-! ## 7. local-only add -/

/-- With local-only add configured, an add from a peer whose connection was not classified as
    local is answered with INVALID_REQUEST and changes nothing. -/
theorem local_only_add (cfg : Config) (hl : cfg.localOnlyAdd = true) (x : Ctx) (c : Nat) (p : Peer) (req : Json)
    (hp : findPeer x.st.peers c = some p) (hm : methodOf req = some (k "add")) (hrem : p.isLocal = false) :
    parseJsonRpc cfg x c req =
      sendResponse x c (errorFromRequest req INVALID_REQUEST "reason" (k "add only allowed from localhost")) ∧
    (parseJsonRpc cfg x c req).1.st = x.st := by
  have h : parseJsonRpc cfg x c req =
      sendResponse x c (errorFromRequest req INVALID_REQUEST "reason" (k "add only allowed from localhost")) := by
    rw [parseJsonRpc_of_methodOf hp hm, handleMethod_add, addElement_remote x req hl hrem]
  exact ⟨h, by rw [h, sendResponse_st]⟩

example : exCfgLocal.localOnlyAdd = true ∧ localCheck (mkCtx exS {}).st 3 false = true ∧ methodOf exAdd2 = some (k "add") := by
  rw [exS_eq]; decide +kernel

/-- `is_localhost`: true exactly for 127.0.0.1 (AF_INET) and, for EVERY other family, when the
    sixteen bytes at the offset of `sin6_addr` read ::ffff:127.0.0.1 or ::1. -/
theorem is_localhost_iff (fam : Nat) (a4 a16 : List UInt8) :
    isLocalhost fam a4 a16 = true ↔
      (fam = AF_INET ∧ a4 = [0x7f, 0, 0, 1]) ∨
      (fam ≠ AF_INET ∧ (a16 = [0, 0, 0, 0, 0, 0, 0, 0, 0, 0, 0xff, 0xff, 0x7f, 0, 0, 1] ∨
                        a16 = [0, 0, 0, 0, 0, 0, 0, 0, 0, 0, 0, 0, 0, 0, 0, 1])) :=
  isLocalhost_iff fam a4 a16

/-- A client of the Unix-domain listener is NOT classified as local: `accept` stores the family
    AF_UNIX and (for a client that did not bind a name) nothing else into the zeroed storage, and
    the IPv6 comparison of sixteen zero bytes fails.  For a client bound to a name the answer is
    whatever bytes 6‥21 of its `sun_path` happen to spell. -/
theorem is_localhost_unix :
    isLocalhost AF_UNIX (List.replicate 4 0) (List.replicate 16 0) = false ∧
    ∀ a4 a16, isLocalhost AF_UNIX a4 a16 = true ↔
      (a16 = [0, 0, 0, 0, 0, 0, 0, 0, 0, 0, 0xff, 0xff, 0x7f, 0, 0, 1] ∨
       a16 = [0, 0, 0, 0, 0, 0, 0, 0, 0, 0, 0, 0, 0, 0, 0, 1]) :=
  ⟨isLocalhost_unix_unnamed, isLocalhost_unix⟩

/-! ### origin classification transcribed from the real is_localhost (byte patterns regenerated from linux_io.c) -/

theorem accept_local_bit_exact : type_of% @Cjet.Props.Accept.local_bit_exact := @Cjet.Props.Accept.local_bit_exact
theorem accept_local_bit_other_families : type_of% @Cjet.Props.Accept.local_bit_other_families := @Cjet.Props.Accept.local_bit_other_families
theorem accept_local_bit_unix_unnamed : type_of% @Cjet.Props.Accept.local_bit_unix_unnamed := @Cjet.Props.Accept.local_bit_unix_unnamed
theorem accept_local_bit_unix_pathname : type_of% @Cjet.Props.Accept.local_bit_unix_pathname := @Cjet.Props.Accept.local_bit_unix_pathname

end Cjet.Daemon.C08
