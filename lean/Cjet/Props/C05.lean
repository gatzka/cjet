import Cjet.Lemmas.DaemonC05Run
/-!
# C05 — a connection's end removes every trace of the peer and disturbs nobody else

Theorems about the daemon model `Cjet.Daemon` (`step` / `run`).  At this level a peer and its
connection have one lifetime: the peer is in `s.peers` from `connect` until the step that emits
`Obs.closed c` — an EOF / error `disconnect`, or a message the daemon rejects.

Vocabulary (defined in `Cjet.Lemmas.DaemonC05*`):
* `Reachable cfg s` — `s` is reached from an initial state (any user table) by some operation list;
* `Closes cfg s op c x` — the step `op` from `s` tears connection `c` down; `x` is the working
  context when the teardown begins (`mkCtx s o` for a `disconnect`; for a rejected message the state
  and outputs produced by the members of the message that were accepted before the failing one);
* `afterClose st c`, `scrub c q`, `unsub c e` — the state, a surviving peer's record and an
  element after `c` has gone (closed forms, a few lines each);
* `closeTrace st c` — what the teardown emits, in order; `routeActs`, `notifyActs` its pieces;
* `strip` erases the result flag of a send (what is sent to whom).
-/

namespace Cjet.Props.C05

open Cjet Cjet.Json Cjet.Daemon Cjet.Daemon.C05

/-! ## concrete history used by the non-vacuity examples: `exOps`, `exS` at the end of `Cjet.Lemmas.DaemonC05Run` -/

theorem exS_reachable : Reachable {} exS := exS.eq_1 ▸ (Reachable.init {} []).run exOps

/-- what the example state looks like: (conn, #elements, #fetches, #routes) -/
example : exS.peers.map (fun p => (p.conn, p.elements.length, p.fetches.length, p.routes.length)) =
    [(1, 2, 1, 1), (2, 1, 1, 1), (3, 0, 1, 0)] := exS_peers

example : Obs.closed 1 ∈ (step {} exS (.disconnect 1 {})).2 :=
  (closed_iff_closes exS_reachable.inv _ _).2 ⟨mkCtx exS {}, exS_conns ▸ by decide, Or.inl ⟨_, rfl, rfl⟩⟩

/-- a message that is not JSON-RPC (here: unparsable text) makes the daemon drop the sender -/
example : Obs.closed 2 ∈ (step {} exS (.message 2 none {})).2 :=
  (closed_iff_closes exS_reachable.inv _ _).2 ⟨mkCtx exS {}, exS_conns ▸ by decide, Or.inr ⟨none, {}, rfl, rfl⟩⟩

/-! ## 0. which steps end a connection -/

/-- A step reports `closed c` exactly when it is a `disconnect c` of a live connection or a
    message of `c` that the daemon rejects (`Closes`); in both cases the step is: the accepted part
    of the message (nothing, for a disconnect), then `closePeer`. -/
theorem closing_steps (cfg : Config) (s : State) (hr : Reachable cfg s) (op : Op) (c : Nat) :
    (Obs.closed c ∈ (step cfg s op).2 ↔ ∃ x, Closes cfg s op c x) ∧
    (∀ x, Closes cfg s op c x →
      step cfg s op = ((closePeer x c).st, (closePeer x c).out.reverse) ∧
      conns x.st.peers = conns s.peers ∧ ∃ p, findPeer x.st.peers c = some p) :=
  ⟨closed_iff_closes hr.inv op c,
   fun _ hx => ⟨hx.step_eq, hx.conns hr.inv, hx.findPeer hr.inv⟩⟩

/-! ## 1. disconnect_post -/

/-- the error a caller gets for a request routed to a peer that goes away -/
def shutdownError (oid : Json) : Json :=
  .obj [(k "id", oid), (k "error", errorObject INTERNAL_ERROR "reason" (k "peer shuts down"))]

theorem errorResponse_shutdown (oid : Json) (h : oid.isString = true ∨ oid.isNumber = true) :
    errorResponse oid INTERNAL_ERROR "reason" (k "peer shuts down") = some (shutdownError oid) := by
  cases oid <;> simp [Json.isString, Json.isNumber] at h <;> rfl

/-- After any step that reports `closed c` (let `x` be the context in which the teardown began and
    `p` the record of `c` at that moment):
    * `c` is no longer a peer; no element is owned by `c` and no index entry maps to `c`; no
      fetcher slot of any element names a fetch of `c`; no routing entry anywhere was requested by
      `c` or is owned by `c`;
    * the outputs of the step are, send results erased: what the accepted part of the message
      produced, then — in this order — for every entry of c's routing table its timer destruction
      followed by at most one "peer shuts down" error to its requester (`routeActs`), the timer
      destructions of c's own requests in the other peers' tables, the "remove" notifications of
      c's elements, and finally `closed c`;
    * in particular every entry `r` of c's table has its timer destroyed, and if `r` was requested
      by another peer with a string or number id that peer is sent the INTERNAL_ERROR response with
      `id = r.originId`; every request of `c` in another table has its timer destroyed. -/
theorem disconnect_post (cfg : Config) (s : State) (hr : Reachable cfg s) (op : Op) (c : Nat)
    (hcl : Obs.closed c ∈ (step cfg s op).2) :
    ∃ x p, Closes cfg s op c x ∧ findPeer x.st.peers c = some p ∧
      let s' := (step cfg s op).1
      let out := (step cfg s op).2
      c ∉ conns s'.peers ∧
      (∀ q ∈ s'.peers, ∀ e ∈ q.elements, e.owner ≠ c) ∧
      (∀ pa o, (pa, o) ∈ s'.index → o ≠ c) ∧
      (∀ q ∈ s'.peers, ∀ e ∈ q.elements, ∀ fk, some fk ∈ e.fetchers → fk.peer ≠ c) ∧
      (∀ q ∈ s'.peers, ∀ r ∈ q.routes, r.requester ≠ c ∧ r.owner ≠ c) ∧
      out.map strip =
        x.out.reverse.map strip ++
        (p.routes.flatMap (routeActs c) ++
         ((x.st.peers.filter (·.conn != c)).flatMap (fun q => q.routes.filter (·.requester == c))).map
            (fun r => Obs.timerDestroy r.timer) ++
         p.elements.flatMap (fun e => notifyActs x.st.peers (unsub c e) "remove")) ++
        [Obs.closed c] ∧
      (∀ r ∈ p.routes, Obs.timerDestroy r.timer ∈ out ∧
        (r.requester ≠ c → ∀ oid, r.originId = some oid → (oid.isString = true ∨ oid.isNumber = true) →
          Obs.send r.requester (shutdownError oid) true ∈ out.map strip)) ∧
      (∀ q ∈ x.st.peers, q.conn ≠ c → ∀ r ∈ q.routes, r.requester = c → Obs.timerDestroy r.timer ∈ out) := by
  obtain ⟨x, hx⟩ := (closed_iff_closes hr.inv op c).1 hcl
  obtain ⟨p, hp⟩ := hx.findPeer hr.inv
  have hIx := hx.inv hr.inv
  refine ⟨x, p, hx, hp, ?_⟩
  have hst := hx.st_eq hr.inv
  have hI' : Inv (afterClose x.st c) := inv_afterClose hIx c
  have hout := hx.out_eq hr.inv hp
  -- membership of a timer destruction in the raw outputs from membership in the stripped ones
  have hraw : ∀ t, Obs.timerDestroy t ∈ (step cfg s op).2.map strip → Obs.timerDestroy t ∈ (step cfg s op).2 := by
    intro t ht
    obtain ⟨o', ho', heq⟩ := List.mem_map.1 ht
    cases o' <;> simp [strip] at heq
    subst heq; exact ho'
  dsimp only
  rw [hst]
  refine ⟨?_, ?_, ?_, ?_, ?_, ?_, ?_, ?_⟩
  · intro hc
    exact (mem_conns_afterClose.1 hc).2 rfl
  · intro q' hq' e' he'
    obtain ⟨q, hq, hne, rfl⟩ := mem_afterClose_peers hq'
    obtain ⟨e, he, rfl⟩ := List.mem_map.1 he'
    rw [unsub_owner, hIx.owner q hq e he]; exact hne
  · intro pa o hm
    unfold afterClose at hm
    simpa using (List.mem_filter.1 hm).2
  · intro q' hq' e' he' fk hfk
    obtain ⟨q, hq, hne, rfl⟩ := mem_afterClose_peers hq'
    obtain ⟨e, he, rfl⟩ := List.mem_map.1 he'
    exact (mem_unsub_fetchers hfk).2
  · intro q' hq' r hr'
    have h1 := hI'.routes q' hq' r hr'
    obtain ⟨q, hq, hne, rfl⟩ := mem_afterClose_peers hq'
    refine ⟨?_, ?_⟩
    · have := (List.mem_filter.1 (show r ∈ q.routes.filter (·.requester != c) from hr')).2
      simpa using this
    · rw [h1.1]; exact hne
  · exact hout
  · intro r hr'
    have hmem : ∀ o ∈ routeActs c r, o ∈ (step cfg s op).2.map strip := by
      intro o ho
      rw [hout]
      simp only [List.mem_append, List.mem_flatMap]
      exact Or.inl (Or.inr (Or.inl (Or.inl ⟨r, hr', ho⟩)))
    refine ⟨hraw _ (hmem _ (by unfold routeActs; exact List.mem_cons_self)), ?_⟩
    intro hne oid hoid hty
    apply hmem
    unfold routeActs
    have : (r.requester == c) = false := by simpa using hne
    simp only [this, Bool.false_eq_true, if_false, hoid, errorResponse_shutdown oid hty]
    simp
  · intro q hq hne r hr' hreq
    apply hraw
    rw [hout]
    simp only [List.mem_append, List.mem_map, List.mem_flatMap, List.mem_filter]
    refine Or.inl (Or.inr (Or.inl (Or.inr ⟨r, ⟨q, ⟨hq, by simpa using hne⟩, hr', by simpa using hreq⟩, rfl⟩)))

example : Reachable {} exS ∧ Obs.closed 1 ∈ (step {} exS (.disconnect 1 {})).2 :=
  ⟨exS_reachable,
   (closed_iff_closes exS_reachable.inv _ _).2 ⟨mkCtx exS {}, exS_conns ▸ by decide, Or.inl ⟨_, rfl, rfl⟩⟩⟩

/-! ## 2. subscribers_see_remove -/

/-- In a step that tears `c` down from context `x` (where `p` is c's record): for every element
    `e` of `c` and every occupied fetcher slot naming a fetch of another peer, that fetch exists and
    its peer is sent the "remove" notification for `e` carrying that fetch's id.  These
    notifications are the last outputs before `closed c`, in element-list order and, within an
    element, in slot order (slots of c's own fetches are skipped: its fetches were dropped first). -/
theorem subscribers_see_remove (cfg : Config) (s : State) (hr : Reachable cfg s) (op : Op) (c : Nat)
    (x : Ctx) (p : Peer) (hx : Closes cfg s op c x) (hp : findPeer x.st.peers c = some p) :
    let out := (step cfg s op).2
    (∀ e ∈ p.elements, ∀ fk, some fk ∈ e.fetchers → fk.peer ≠ c →
      ∃ f, findFetch x.st.peers fk = some f ∧
        Obs.send fk.peer (notification e f.fid "remove") true ∈ out.map strip) ∧
    (∃ before, out.map strip = before ++
      p.elements.flatMap (fun e => e.fetchers.filterMap (fun sl => match sl with
        | some fk => if fk.peer == c then none
                     else (findFetch x.st.peers fk).map
                       (fun f => Obs.send fk.peer (notification e f.fid "remove") true)
        | none => none)) ++ [Obs.closed c]) := by
  have hIx := hx.inv hr.inv
  have hpm := findPeer_mem hp
  have hout := hx.out_eq hr.inv hp
  have hnot : p.elements.flatMap (fun e => notifyActs x.st.peers (unsub c e) "remove") =
      p.elements.flatMap (fun e => e.fetchers.filterMap (fun sl => match sl with
        | some fk => if fk.peer == c then none
                     else (findFetch x.st.peers fk).map
                       (fun f => Obs.send fk.peer (notification e f.fid "remove") true)
        | none => none)) := by
    apply flatMap_congr
    intro e _
    exact notifyActs_unsub _ _ _ _
  dsimp only
  constructor
  · intro e he fk hfk hne
    obtain ⟨f, hf⟩ := findFetch_of_mem_fetchKeys hIx.nodup (hIx.fetchers p hpm e he fk hfk)
    refine ⟨f, hf, ?_⟩
    rw [hout, hnot]
    simp only [List.mem_append, List.mem_flatMap, List.mem_filterMap]
    refine Or.inl (Or.inr (Or.inr ⟨e, he, some fk, hfk, ?_⟩))
    have : (fk.peer == c) = false := by simpa using hne
    simp [this, hf]
  · refine ⟨x.out.reverse.map strip ++ (p.routes.flatMap (routeActs c) ++
      ((x.st.peers.filter (·.conn != c)).flatMap (fun q => q.routes.filter (·.requester == c))).map
        (fun r => Obs.timerDestroy r.timer)), ?_⟩
    rw [hout, hnot]
    simp only [List.append_assoc]

example : Closes {} exS (.disconnect 1 {}) 1 (mkCtx exS {}) ∧
    (findPeer (mkCtx exS {}).st.peers 1).isSome = true :=
  ⟨⟨exS_conns ▸ by decide, Or.inl ⟨_, rfl, rfl⟩⟩, findPeer_isSome.2 (exS_conns ▸ by decide)⟩

/-! ## 3. others_untouched -/

/-- what `unsub c` does to an element: nothing but emptying the fetcher slots of c's fetches -/
theorem unsub_spec (c : Nat) (e : Element) :
    (unsub c e).path = e.path ∧ (unsub c e).owner = e.owner ∧ (unsub c e).value = e.value ∧
    (unsub c e).fetchOnly = e.fetchOnly ∧ (unsub c e).timeoutNs = e.timeoutNs ∧
    (unsub c e).fetchGroups = e.fetchGroups ∧ (unsub c e).setGroups = e.setGroups ∧
    (unsub c e).callGroups = e.callGroups ∧
    (unsub c e).fetchers.length = e.fetchers.length ∧
    (∀ (i : Nat) (fk : FetchKey), e.fetchers[i]? = some (some fk) → fk.peer ≠ c → (unsub c e).fetchers[i]? = some (some fk)) ∧
    (∀ (i : Nat) (fk : FetchKey), (unsub c e).fetchers[i]? = some (some fk) → e.fetchers[i]? = some (some fk) ∧ fk.peer ≠ c) := by
  refine ⟨rfl, rfl, rfl, rfl, rfl, rfl, rfl, rfl, List.length_map _, fun i fk h hne => ?_, fun i fk h => ?_⟩
  · rw [unsub, List.getElem?_map, h]
    exact congrArg some (unsub_slot.2 ⟨rfl, hne⟩)
  · rw [unsub, List.getElem?_map] at h
    obtain ⟨sl, hsl, heq⟩ := Option.map_eq_some_iff.1 h
    obtain ⟨rfl, hne⟩ := unsub_slot.1 heq
    exact ⟨hsl, hne⟩

/-- A step that tears `c` down from context `x` leaves behind exactly `afterClose x.st c`:
    the index entries of other owners, the user table and the counters are unchanged; the other
    peers stay in the same order; and for every other peer `q`: connection data, name, user,
    groups and fetches are identical, its routing table keeps exactly the entries not requested
    by `c` (same order), and its elements are the same elements (path, owner, value, flags,
    groups, timeout — see `unsub_spec`) whose fetcher tables differ only in that the slots of c's
    fetches are empty. -/
theorem others_untouched (cfg : Config) (s : State) (hr : Reachable cfg s) (op : Op) (c : Nat)
    (x : Ctx) (hx : Closes cfg s op c x) :
    let s' := (step cfg s op).1
    s' = afterClose x.st c ∧
    s'.index = x.st.index.filter (·.2 != c) ∧
    (∀ pa o, o ≠ c → ((pa, o) ∈ s'.index ↔ (pa, o) ∈ x.st.index)) ∧
    s'.users = x.st.users ∧ s'.uuid = x.st.uuid ∧ s'.nextTimer = x.st.nextTimer ∧
    s'.nextUid = x.st.nextUid ∧
    conns s'.peers = (conns x.st.peers).filter (· != c) ∧
    (∀ q ∈ x.st.peers, q.conn ≠ c → ∃ q', findPeer s'.peers q.conn = some q' ∧
      q'.conn = q.conn ∧ q'.ws = q.ws ∧ q'.isLocal = q.isLocal ∧ q'.addrTok = q.addrTok ∧
      q'.name = q.name ∧ q'.user = q.user ∧ q'.fetchGroups = q.fetchGroups ∧
      q'.setGroups = q.setGroups ∧ q'.callGroups = q.callGroups ∧ q'.fetches = q.fetches ∧
      q'.routes = q.routes.filter (·.requester != c) ∧
      q'.elements = q.elements.map (unsub c)) := by
  have hst := hx.st_eq hr.inv
  have hI' : Inv (afterClose x.st c) := inv_afterClose (hx.inv hr.inv) c
  dsimp only
  rw [hst]
  refine ⟨rfl, rfl, ?_, rfl, rfl, rfl, rfl, conns_afterClose _ _, ?_⟩
  · intro pa o hne
    unfold afterClose
    simp only [List.mem_filter]
    constructor
    · exact fun h => h.1
    · exact fun h => ⟨h, by simpa using hne⟩
  · intro q hq hne
    refine ⟨scrub c q, ?_, rfl, rfl, rfl, rfl, rfl, rfl, rfl, rfl, rfl, rfl, rfl, rfl⟩
    exact findPeer_of_mem hI'.nodup (mem_afterClose_of hq hne)

/-- the same for a `disconnect` of a live connection, stated on the pre-state itself -/
theorem others_untouched_disconnect (cfg : Config) (s : State) (hr : Reachable cfg s) (c : Nat) (o : Oracle)
    (hc : c ∈ conns s.peers) :
    let s' := (step cfg s (.disconnect c o)).1
    s' = afterClose s c ∧
    (∀ q ∈ s.peers, q.conn ≠ c → findPeer s'.peers q.conn = some (scrub c q)) ∧
    (∀ q, (scrub c q).fetches = q.fetches ∧ (scrub c q).name = q.name ∧ (scrub c q).user = q.user ∧
      (scrub c q).routes = q.routes.filter (·.requester != c) ∧
      (scrub c q).elements = q.elements.map (unsub c)) := by
  have hx : Closes cfg s (.disconnect c o) c (mkCtx s o) := ⟨hc, Or.inl ⟨o, rfl, rfl⟩⟩
  have hst := hx.st_eq hr.inv
  have hI' : Inv (afterClose s c) := inv_afterClose hr.inv c
  dsimp only
  rw [hst]
  refine ⟨rfl, ?_, fun q => ⟨rfl, rfl, rfl, rfl, rfl⟩⟩
  intro q hq hne
  exact findPeer_of_mem hI'.nodup (mem_afterClose_of hq hne)

example : Reachable {} exS ∧ 1 ∈ conns exS.peers ∧ (∃ q ∈ exS.peers, q.conn ≠ 1) :=
  ⟨exS_reachable, exS_conns ▸ by decide, by
    obtain ⟨q, hq, h⟩ := mem_conns.1 (show 2 ∈ conns exS.peers from exS_conns ▸ by decide)
    exact ⟨q, hq, by rw [h]; decide⟩⟩

/-! ## 4. no_send_to_departed -/

/-- In every history, every send of every step addresses a connection that is a peer in the
    state in which the step starts (peers are only removed by the last action of a closing step,
    so this is the peer set at the moment of the send as well). -/
theorem no_send_to_departed (cfg : Config) (us : List User) (pre : List Op) (op : Op) :
    let s := (run cfg { users := us } pre).1
    ∀ d j ok, Obs.send d j ok ∈ (step cfg s op).2 → d ∈ conns s.peers := by
  intro s d j ok hm
  exact step_live (run_inv (inv_init us) pre) op hm

/-- In a step that tears `c` down, everything emitted once the teardown has begun (`tail`)
    addresses only peers other than `c` that are still live: `free_peer_resources` never sends
    to the peer it releases. -/
theorem teardown_never_addresses_leaver (cfg : Config) (s : State) (hr : Reachable cfg s) (op : Op) (c : Nat)
    (x : Ctx) (hx : Closes cfg s op c x) :
    ∃ tail, (step cfg s op).2 = x.out.reverse ++ tail ∧
      (∀ d j ok, Obs.send d j ok ∈ tail → d ∈ conns s.peers ∧ d ≠ c) ∧
      (∀ d j ok, Obs.send d j ok ∈ tail → d ∈ conns (step cfg s op).1.peers) := by
  obtain ⟨tail, h1, h2⟩ := hx.tail hr.inv
  refine ⟨tail, h1, h2, ?_⟩
  intro d j ok hm
  rw [hx.st_eq hr.inv, mem_conns_afterClose, hx.conns hr.inv]
  exact h2 d j ok hm

/-- a peer that is not connected is never addressed, as long as it does not connect again -/
theorem departed_stays_silent (cfg : Config) (s : State) (hr : Reachable cfg s) (c : Nat)
    (hc : c ∉ conns s.peers) (rest : List Op)
    (hnc : ∀ op ∈ rest, ∀ ws l a, op ≠ Op.connect c ws l a) :
    ∀ o ∈ (run cfg s rest).2, ∀ j ok, Obs.send c j ok ∉ o := by
  induction rest generalizing s with
  | nil => intro o ho; cases ho
  | cons op rest ih =>
    intro o ho j ok hm
    rw [run_cons] at ho
    simp only [List.mem_cons] at ho
    rcases ho with rfl | ho
    · exact hc (step_live hr.inv op hm)
    · refine ih (step cfg s op).1 (hr.step op) ?_ (fun op' hop' => hnc op' (List.mem_cons_of_mem _ hop')) o ho j ok hm
      intro hc'
      rcases step_conns hr.inv op hc' with h | ⟨ws, l, a, h⟩
      · exact hc h
      · exact hnc op List.mem_cons_self ws l a h

/-- After the step that reports `closed c`, no later step sends anything to `c` until a new
    `connect c`. -/
theorem no_send_after_close (cfg : Config) (s : State) (hr : Reachable cfg s) (op : Op) (c : Nat)
    (hcl : Obs.closed c ∈ (step cfg s op).2) (rest : List Op)
    (hnc : ∀ op ∈ rest, ∀ ws l a, op ≠ Op.connect c ws l a) :
    ∀ o ∈ (run cfg (step cfg s op).1 rest).2, ∀ j ok, Obs.send c j ok ∉ o := by
  obtain ⟨x, hx⟩ := (closed_iff_closes hr.inv op c).1 hcl
  apply departed_stays_silent cfg _ (hr.step op) c _ rest hnc
  rw [hx.st_eq hr.inv]
  intro h
  exact (mem_conns_afterClose.1 h).2 rfl

example : Reachable {} exS ∧ Obs.closed 1 ∈ (step {} exS (.disconnect 1 {})).2 ∧
    (∀ op ∈ [Op.timerFire 0 {}, Op.message 2 none {}], ∀ ws l a, op ≠ Op.connect 1 ws l a) := by
  refine ⟨exS_reachable,
    (closed_iff_closes exS_reachable.inv _ _).2 ⟨mkCtx exS {}, exS_conns ▸ by decide, Or.inl ⟨_, rfl, rfl⟩⟩, ?_⟩
  intro op hop ws l a h
  simp only [List.mem_cons, List.not_mem_nil, or_false] at hop
  rcases hop with rfl | rfl <;> cases h

end Cjet.Props.C05
