import Cjet.Basic
import Cjet.Generated.Consts
/-!
# Cjet.Bufread — the READ side of `src/buffered_socket.c` and its three clients

Transcribed from `/repo/src/buffered_socket.c` (`free_space`, `unread_bytes`,
`reorganize_read_buffer`, `fill_buffer`, `get_read_ptr`, `internal_read_until`, `go_reading`,
`read_function`, `buffered_socket_read_exactly/_until`) and from the reader clients
`socket_peer.c` (`read_msg_length`/`read_msg`), `http_connection.c` (`read_start_line`) and
`websocket.c` (`ws_get_header` … `ws_get_payload`).

* The read buffer is a byte list of length `cap` (= `CONFIG_MAX_MESSAGE_SIZE`; the model is generic
  in `cap`), `r`/`w` are the offsets of `read_ptr`/`write_ptr`.
* The kernel is an input: the list of answers it gives to the successive `socket_read` calls of one
  `go_reading` invocation (one readiness event).  `chunk b` = "bytes `b` have arrived": a read that
  asks for fewer bytes gets a prefix and the rest stays in the socket for the next call; the empty
  chunk is `read() = 0`, i.e. end of stream.  A script that runs out answers would-block.
* A client is a pure state machine that decides, from inside the read callback, what to read next.
-/

set_option linter.unusedVariables false  -- `match h :` hypotheses are used by `decreasing_by` only

namespace Cjet.Bufread

/-! ## Requests, clients, kernel answers -/

/-- What the client armed: `buffered_socket_read_exactly(n)` or `buffered_socket_read_until(delim)`. -/
inductive Req where
  | exactly (n : Nat)
  | until (delim : Bytes)
  deriving Repr, DecidableEq

/-- A reader client: `want` is the reader armed in state `s`; `deliver` is the read callback invoked with
    a non-empty slice; it returns the next state (re-arming a reader from inside the callback is the
    change of `want`) and whether the callback returned `BS_CLOSED`. -/
structure Client (σ : Type) where
  want : σ → Req
  deliver : σ → Bytes → σ × Bool

/-- One scripted kernel answer. -/
inductive KRes where
  | chunk (b : Bytes)
  | wouldBlock
  | eof
  | err
  deriving Repr, DecidableEq

/-- What one `socket_read` call returned. -/
inductive Got where
  | data (b : Bytes)
  | wouldBlock
  | eof
  | err
  deriving Repr, DecidableEq

/-- How `go_reading` came back (and what `read_function` does with it). -/
inductive Outcome where
  | wouldBlock     -- BS_IO_WOULD_BLOCK: stay registered, wait for the next readiness event
  | peerClosed     -- reader returned 0: callback(buf, 0) was called, event removed
  | clientClosed   -- a callback returned BS_CLOSED, event removed
  | ioError        -- BS_IO_ERROR: the error handler was called
  | tooMuch        -- BS_IO_TOOMUCHDATA: the error handler was called
  deriving Repr, DecidableEq

/-! ## The reader -/

structure Reader where
  buf : Bytes
  r : Nat
  w : Nat
  deriving Repr, DecidableEq

/-- `buf[r, w)` for a byte list. -/
def slice (buf : Bytes) (r w : Nat) : Bytes := (buf.drop r).take (w - r)

/-- bytes `b` stored at offset `at` (what the kernel does with the pointer handed to `read`). -/
def splice (buf : Bytes) (pos : Nat) (b : Bytes) : Bytes :=
  buf.take pos ++ b ++ buf.drop (pos + b.length)

/-- `buffered_socket_init`: both pointers at the buffer start; the buffer content is whatever the
    allocation held (`fill`). -/
def Reader.init (cap : Nat) (fill : UInt8) : Reader := ⟨List.replicate cap fill, 0, 0⟩

/-- the unread region `[read_ptr, write_ptr)`. -/
def Reader.unread (rd : Reader) : Bytes := slice rd.buf rd.r rd.w

/-- representation invariant: `read_buffer ≤ read_ptr ≤ write_ptr ≤ read_buffer + cap`. -/
structure Inv (cap : Nat) (rd : Reader) : Prop where
  rw : rd.r ≤ rd.w
  wc : rd.w ≤ cap
  len : rd.buf.length = cap

/-- `reorganize_read_buffer`: `memmove(read_buffer, read_ptr, unread)`; `read_ptr = read_buffer`,
    `write_ptr = read_buffer + unread` (for `unread = 0` the C code skips the zero-length move). -/
def reorganize (rd : Reader) : Reader :=
  let u := rd.w - rd.r
  { buf := slice rd.buf rd.r rd.w ++ rd.buf.drop u, r := 0, w := u }

/-- `jet_memmem` (glibc `memmem`): offset of the first occurrence of `d` in `h`; the empty needle is
    found at offset 0. -/
def findSub (d : Bytes) : Bytes → Option Nat
  | [] => if d.isEmpty then some 0 else none
  | x :: t => if d.isPrefixOf (x :: t) then some 0 else (findSub d t).map (· + 1)

/-- Can the armed reader be served from the buffer?  `some len` = the reader returns `len` and a pointer
    to `read_ptr` (`get_read_ptr`: `unread ≥ num`; `internal_read_until`: delimiter found in the unread
    region, `len` includes the delimiter). -/
def avail (req : Req) (rd : Reader) : Option Nat :=
  match req with
  | .exactly n => if n ≤ rd.w - rd.r then some n else none
  | .until d => (findSub d rd.unread).map (· + d.length)

/-- The `count` passed to `fill_buffer` when the request cannot be served. -/
def need (req : Req) (rd : Reader) : Nat :=
  match req with
  | .exactly n => n - (rd.w - rd.r)
  | .until _ => 1

def KRes.size : KRes → Nat
  | .chunk b => 1 + b.length
  | _ => 1

def scriptSize (ks : List KRes) : Nat := (ks.map KRes.size).sum

/-- One `socket_read(fd, write_ptr, asked)` against the script. -/
def kread (asked : Nat) : List KRes → Got × List KRes
  | [] => (.wouldBlock, [])
  | .chunk b :: ks =>
    if b.length = 0 ∨ asked = 0 then (.eof, ks)
    else if b.length ≤ asked then (.data b, ks)
    else (.data (b.take asked), .chunk (b.drop asked) :: ks)
  | .wouldBlock :: ks => (.wouldBlock, ks)
  | .eof :: ks => (.eof, ks)
  | .err :: ks => (.err, ks)

/-- first half of `fill_buffer(count)`: compact when the free space behind `write_ptr` is too small. -/
def prep (cap : Nat) (rd : Reader) (count : Nat) : Reader :=
  if cap - rd.w < count then reorganize rd else rd

theorem prep_unreadBytes (cap : Nat) (rd : Reader) (count : Nat) :
    (prep cap rd count).w - (prep cap rd count).r = rd.w - rd.r := by
  unfold prep; split
  · exact Nat.sub_zero _
  · rfl

/-- Observations of one `go_reading`, in order.  `read`/`deliver` carry the pointer offsets at that
    moment (`deliver`: `r` is where the slice starts, i.e. `read_ptr` before it is advanced). -/
inductive Obs (σ : Type) where
  | read (r w asked : Nat) (got : Got)
  | deliver (r w : Nat) (s : σ) (b : Bytes)
  | cb0        -- callback invoked with len = 0
  | closed     -- callback returned BS_CLOSED
  | error      -- error handler invoked

/-- One iteration of the (flattened) loops of `go_reading` / `get_read_ptr` / `internal_read_until`:
    `get_read_ptr`'s and `internal_read_until`'s `while (1)` re-evaluate, after a successful
    `fill_buffer`, exactly the condition a fresh reader call evaluates. -/
inductive Step (σ : Type) where
  | done (obs : List (Obs σ)) (rd : Reader) (s : σ) (out : Outcome) (ks : List KRes)
  | more (obs : List (Obs σ)) (rd : Reader) (s : σ) (ks : List KRes)

def step (c : Client σ) (cap : Nat) (rd : Reader) (s : σ) (ks : List KRes) : Step σ :=
  match avail (c.want s) rd with
  | some len =>
    -- reader returns len; go_reading calls the callback
    if len = 0 then .done [.cb0] rd s .peerClosed ks
    else
      let b := slice rd.buf rd.r (rd.r + len)
      let rd' := { rd with r := rd.r + len }
      let res := c.deliver s b
      if res.2 then .done [.deliver rd.r rd.w s b, .closed] rd' res.1 .clientClosed ks
      else .more [.deliver rd.r rd.w s b] rd' res.1 ks
  | none =>
    -- fill_buffer(count)
    let count := need (c.want s) rd
    let rd1 := prep cap rd count
    if cap - rd1.w < count then .done [.error] rd1 s .tooMuch ks
    else
      let asked := cap - rd1.w
      match kread asked ks with
      | (.data b, ks') =>
        .more [.read rd1.r rd1.w asked (.data b)]
          { rd1 with buf := splice rd1.buf rd1.w b, w := rd1.w + b.length } s ks'
      | (.wouldBlock, ks') => .done [.read rd1.r rd1.w asked .wouldBlock] rd1 s .wouldBlock ks'
      | (.eof, ks') => .done [.read rd1.r rd1.w asked .eof, .cb0] rd1 s .peerClosed ks'
      | (.err, ks') => .done [.read rd1.r rd1.w asked .err, .error] rd1 s .ioError ks'

/-- termination measure of `goReading`. -/
def measure (rd : Reader) (ks : List KRes) : Nat := 2 * scriptSize ks + (rd.w - rd.r)

theorem slice_length_le (buf : Bytes) (r w : Nat) : (slice buf r w).length ≤ w - r :=
  List.length_take_le ..

theorem findSub_spec (d : Bytes) : ∀ h : Bytes,
    match findSub d h with
    | some i => d <+: h.drop i ∧ i + d.length ≤ h.length ∧ ∀ j, j < i → ¬ d <+: h.drop j
    | none => ∀ j, j ≤ h.length → ¬ d <+: h.drop j
  | [] => by
    by_cases hd : d.isEmpty = true
    · rw [findSub, if_pos hd]; simp [List.isEmpty_iff.mp hd]
    · rw [findSub, if_neg hd]; intro j _ hp; exact hd (by simpa using hp)
  | x :: t => by
    have ih := findSub_spec d t
    by_cases hp : d.isPrefixOf (x :: t) = true
    · rw [findSub, if_pos hp]
      have hp := List.isPrefixOf_iff_prefix.mp hp
      exact ⟨hp, by simpa using hp.length_le, fun j hj => absurd hj (Nat.not_lt_zero j)⟩
    · rw [findSub, if_neg hp]
      have h0 : ¬ d <+: (x :: t).drop 0 := fun h => hp (List.isPrefixOf_iff_prefix.mpr h)
      cases hfs : findSub d t with
      | none =>
        rw [hfs] at ih
        intro j hj
        cases j with
        | zero => exact h0
        | succ j => exact ih j (by simpa using hj)
      | some k =>
        rw [hfs] at ih
        refine ⟨ih.1, by simpa [Nat.add_right_comm] using ih.2.1, fun j (hj : j < k + 1) => ?_⟩
        cases j with
        | zero => exact h0
        | succ j => exact ih.2.2 j (by omega)

theorem findSub_le (d : Bytes) (h : Bytes) (i : Nat) (hh : findSub d h = some i) : i + d.length ≤ h.length := by
  have := findSub_spec d h
  rw [hh] at this
  exact this.2.1

theorem avail_le {req : Req} {rd : Reader} {len : Nat} (h : avail req rd = some len) : len ≤ rd.w - rd.r := by
  cases req with
  | exactly n =>
    rw [avail] at h
    split at h <;> cases h
    assumption
  | «until» d =>
    obtain ⟨i, hf, rfl⟩ := Option.map_eq_some_iff.mp h
    exact Nat.le_trans (findSub_le d _ i hf) (slice_length_le rd.buf rd.r rd.w)

theorem kread_data {asked : Nat} {ks ks' : List KRes} {b : Bytes} (h : kread asked ks = (.data b, ks')) :
    0 < b.length ∧ b.length ≤ asked ∧ 2 * scriptSize ks' + b.length < 2 * scriptSize ks := by
  revert h
  fun_cases kread asked ks <;> intro h <;> cases h
  · simp only [scriptSize, List.map_cons, List.sum_cons, KRes.size]
    omega
  · simp only [scriptSize, List.map_cons, List.sum_cons, KRes.size, List.length_take, List.length_drop]
    omega

theorem step_more_measure {c : Client σ} {cap : Nat} {rd : Reader} {s : σ} {ks : List KRes}
    {obs : List (Obs σ)} {rd' : Reader} {s' : σ} {ks' : List KRes}
    (h : step c cap rd s ks = .more obs rd' s' ks') : measure rd' ks' < measure rd ks := by
  revert h
  fun_cases step c cap rd s ks <;> intro h <;> simp only [Step.more.injEq, reduceCtorEq] at h
  case case3 len hav h0 b rd1 _ _ =>
    obtain ⟨_, rfl, _, rfl⟩ := h
    have := avail_le hav
    show _ + (rd.w - (rd.r + len)) < _ + (rd.w - rd.r)
    rw [Nat.sub_add_eq]
    generalize rd.w - rd.r = u at *
    omega
  case case5 hav count rd1 hfit asked b ks'' hk =>
    -- a read uses up more of the script than it adds to the unread region
    obtain ⟨_, rfl, _, rfl⟩ := h
    have := (kread_data hk).2.2
    simp only [measure, rd1]
    rw [← prep_unreadBytes cap rd count]
    clear hfit
    omega

/-- Result of one `go_reading` invocation. -/
structure Res (σ : Type) where
  obs : List (Obs σ)
  rd : Reader
  s : σ
  out : Outcome
  rest : List KRes

/-- `go_reading`: run the armed reader and the callback until the reader reports would-block, end of
    stream or an error, or a callback closes the connection.  `ks` = the kernel's answers to the
    successive `socket_read` calls of this invocation; `rest` = the answers not consumed. -/
def goReading (c : Client σ) (cap : Nat) (rd : Reader) (s : σ) (ks : List KRes) : Res σ :=
  match h : step c cap rd s ks with
  | .done obs rd' s' out ks' => ⟨obs, rd', s', out, ks'⟩
  | .more obs rd' s' ks' =>
    let res := goReading c cap rd' s' ks'
    { res with obs := obs ++ res.obs }
termination_by measure rd ks
decreasing_by exact step_more_measure h

/-- End of a connection's run. -/
structure Final (σ : Type) where
  obs : List (Obs σ)
  rd : Reader
  s : σ
  out : Outcome

/-- A connection's life: one `go_reading` per readiness event (the first one is the call made by
    `buffered_socket_read_exactly/_until` when the first reader is armed), until one of them does not
    come back with would-block. -/
def runEvents (c : Client σ) (cap : Nat) (rd : Reader) (s : σ) : List (List KRes) → Final σ
  | [] => ⟨[], rd, s, .wouldBlock⟩
  | ev :: evs =>
    let res := goReading c cap rd s ev
    match res.out with
    | .wouldBlock =>
      let fin := runEvents c cap res.rd res.s evs
      { fin with obs := res.obs ++ fin.obs }
    | _ => ⟨res.obs, res.rd, res.s, res.out⟩

/-- The deliveries (client state at the time of the callback, slice) among the observations. -/
def deliveries : List (Obs σ) → List (σ × Bytes)
  | [] => []
  | .deliver _ _ s b :: os => (s, b) :: deliveries os
  | _ :: os => deliveries os

/-! ## The specification on the byte stream alone -/

/-- How the stream ended (if it did). -/
inductive Terminal where
  | none | eof | err
  deriving Repr, DecidableEq

def Outcome.ofTerminal : Terminal → Outcome
  | .none => .wouldBlock
  | .eof => .peerClosed
  | .err => .ioError

/-- What the armed request takes from the front of the stream. -/
inductive Next where
  | take (len : Nat)
  | tooMuch
  | needMore
  deriving Repr, DecidableEq

def Spec.next (cap : Nat) (req : Req) (str : Bytes) : Next :=
  match req with
  | .exactly n => if cap < n then .tooMuch else if n ≤ str.length then .take n else .needMore
  | .until d =>
    match findSub d (str.take cap) with
    | some i => .take (i + d.length)
    | none => if cap ≤ str.length then .tooMuch else .needMore

theorem Spec.next_take_le {cap : Nat} {req : Req} {str : Bytes} {len : Nat}
    (h : Spec.next cap req str = .take len) : len ≤ str.length := by
  cases req with
  | exactly n =>
    simp only [Spec.next] at h
    split at h
    · cases h
    · split at h
      · cases h; assumption
      · cases h
  | «until» d =>
    simp only [Spec.next] at h
    split at h
    · next i hf =>
      cases h
      exact Nat.le_trans (findSub_le d _ i hf) (List.length_take_le' ..)
    · split at h <;> cases h

/-- The behaviour the byte stream `str` (ended by `t`) prescribes for client `c` started in state `s`:
    the deliveries in order and how the connection ends (`wouldBlock` = still open, waiting). -/
def Spec.run (c : Client σ) (cap : Nat) (s : σ) (str : Bytes) (t : Terminal) : List (σ × Bytes) × Outcome :=
  match h : Spec.next cap (c.want s) str with
  | .tooMuch => ([], .tooMuch)
  | .needMore => ([], .ofTerminal t)
  | .take len =>
    if h0 : len = 0 then ([], .peerClosed)
    else
      let m := str.take len
      let res := c.deliver s m
      if res.2 then ([(s, m)], .clientClosed)
      else
        let r := Spec.run c cap res.1 (str.drop len) t
        ((s, m) :: r.1, r.2)
termination_by str.length
decreasing_by
  have := Spec.next_take_le h
  simp only [List.length_drop]
  omega

/-! ## Bytes and terminal event of a kernel script -/

/-- How an event's answer list ends, as far as `go_reading` can see it. -/
def evFin : List KRes → Terminal
  | [] => .none
  | .chunk b :: ks => if b.length = 0 then .eof else evFin ks
  | .wouldBlock :: _ => .none
  | .eof :: _ => .eof
  | .err :: _ => .err

/-- The bytes an event's answer list offers (up to the first answer that is not data). -/
def evBytes : List KRes → Bytes
  | .chunk b :: ks => if b.length = 0 then [] else b ++ evBytes ks
  | _ => []

/-- The connection's byte stream: the bytes of the events up to the first one that ends the stream. -/
def bytes : List (List KRes) → Bytes
  | [] => []
  | ev :: evs => evBytes ev ++ (if evFin ev = .none then bytes evs else [])

def terminal : List (List KRes) → Terminal
  | [] => .none
  | ev :: evs => if evFin ev = .none then terminal evs else evFin ev

/-- What a peer can observe of a connection's run: the deliveries and how the connection ended
    (`wouldBlock` = still open). -/
def observable (fin : Final σ) : List (σ × Bytes) × Outcome := (deliveries fin.obs, fin.out)

/-- Pointer discipline visible in one observation: a `socket_read` is issued with `r ≤ w ≤ cap` for exactly
    the free space behind `write_ptr`, which is not empty, and the kernel's answer fits; a delivered slice
    is non-empty and lies inside `[r, w)`. -/
def Obs.ok (cap : Nat) : Obs σ → Prop
  | .read r w asked got =>
    r ≤ w ∧ w ≤ cap ∧ 0 < asked ∧ asked = cap - w ∧
      (match got with
       | .data b => 0 < b.length ∧ b.length ≤ asked
       | _ => True)
  | .deliver r w _ b => 0 < b.length ∧ r + b.length ≤ w ∧ w ≤ cap
  | _ => True

/-! ## Clients -/

/-- big-endian value of a byte string (`jet_be32toh`, `jet_be16toh`, `jet_be64toh` after `memcpy`). -/
def be (b : Bytes) : Nat := b.foldl (fun a x => a * 256 + x.toNat) 0

/-- `socket_peer.c`: `read_msg_length` / `read_msg`. -/
inductive RawSt where
  | len
  | msg (n : Nat)
  deriving Repr, DecidableEq

/-- The raw-socket jet peer.  `ok m` = `parse_message(m, len) ≥ 0` (the message handed to the parser is
    exactly the slice; what the parser does with it belongs to other properties). -/
def rawPeer (ok : Bytes → Bool) : Client RawSt where
  want
    | .len => .exactly 4
    | .msg n => .exactly n
  deliver
    | .len, b => if be b = 0 then (.len, false) else (.msg (be b), false)
    | .msg _, m => if ok m then (.len, false) else (.len, true)

def CRLF : Bytes := [13, 10]

/-- `http_connection.c`: `read_start_line` armed with `read_until(CRLF)`; the callback does not re-arm.
    `ok line` = `http_parser_execute` consumed the whole line. -/
def lineClient (delim : Bytes) (ok : Bytes → Bool) : Client Unit where
  want _ := .until delim
  deliver _ l := ((), !ok l)

def httpLine (ok : Bytes → Bool) : Client Unit := lineClient CRLF ok

/-- `websocket.c` header machine (`is_server = true`): `ws_get_header`, `ws_get_first_length`,
    `ws_get_length16/64`, `ws_get_mask`, `ws_get_payload`.  `frameOk p` = `ws_handle_frame` returned `WS_OK` for payload `p`. -/
inductive WsSt where
  | hdr                                  -- read_exactly(1, ws_get_header)
  | len1                                 -- read_exactly(1, ws_get_first_length)
  | len16 (mask : Bool)                  -- read_exactly(2, ws_get_length16)
  | len64 (mask : Bool)                  -- read_exactly(8, ws_get_length64)
  | mask (len : Nat)                     -- read_exactly(4, ws_get_mask)
  | payload (len : Nat) (masked : Bool)  -- read_exactly(len, ws_get_payload)
  deriving Repr, DecidableEq

/-- `read_mask_or_payload`. -/
def wsMaskOrPayload (mask : Bool) (len : Nat) : WsSt × Bool :=
  if mask then (.mask len, false)
  else if len > 0 then (.payload len false, false)
  else (.hdr, true)   -- ws_get_payload(s, NULL, 0): server, frame not masked ⇒ protocol error, closed

def wsHeader (frameOk : Bytes → Bool) : Client WsSt where
  want
    | .hdr => .exactly 1
    | .len1 => .exactly 1
    | .len16 _ => .exactly 2
    | .len64 _ => .exactly 8
    | .mask _ => .exactly 4
    | .payload len _ => .exactly len
  deliver
    | .hdr, _ => (.len1, false)
    | .len1, b =>
      let field := (be b) % 256
      let mask := field / 128 = 1
      let f := field % 128
      if f < 126 then wsMaskOrPayload mask f
      else if f = 126 then (.len16 mask, false)
      else (.len64 mask, false)
    | .len16 mask, b => wsMaskOrPayload mask (be b)
    | .len64 mask, b => wsMaskOrPayload mask (be b)
    | .mask len, _ =>
      if len > 0 then (.payload len true, false)
      else if frameOk [] then (.hdr, false) else (.hdr, true)
    | .payload _ masked, p =>
      if !masked then (.hdr, true)
      else if frameOk p then (.hdr, false) else (.hdr, true)

/-- A test client that exercises re-arming of *different* readers from inside callbacks: the last byte
    `x` of every delivery selects the next request: `0xff` closes, `x ≥ 0x80` arms
    `read_until(CRLF)`, otherwise `read_exactly(x % 8)` (including `read_exactly(0)`). -/
def mixClient : Client Req where
  want s := s
  deliver s b :=
    let x := (b.getLast?.getD 0).toNat
    if x = 255 then (s, true)
    else if x ≥ 128 then (.until CRLF, false)
    else (.exactly (x % 8), false)


/-! ## Direct statements of the two framings (what C09 says in words) -/

/-- 4-byte big-endian encoding of a length. -/
def be32 (n : Nat) : Bytes :=
  [UInt8.ofNat (n / 16777216 % 256), UInt8.ofNat (n / 65536 % 256), UInt8.ofNat (n / 256 % 256), UInt8.ofNat (n % 256)]

/-- The raw-socket framing as a function of the byte stream alone: 4-byte big-endian length; a zero length
    is skipped; a length above `cap` ends the connection (error path); otherwise the message is exactly the
    next `length` bytes; a message the parser refuses ends the connection.  Result: the messages handed to the
    parser, and how the connection ends (`wouldBlock` = still open). -/
def Raw.frames (cap : Nat) (ok : Bytes → Bool) (str : Bytes) (t : Terminal) : List Bytes × Outcome :=
  if _h4 : str.length < 4 then ([], .ofTerminal t)
  else
    let n := be (str.take 4)
    let body := str.drop 4
    if n = 0 then Raw.frames cap ok body t
    else if cap < n then ([], .tooMuch)
    else if body.length < n then ([], .ofTerminal t)
    else if ok (body.take n) then
      let r := Raw.frames cap ok (body.drop n) t
      (body.take n :: r.1, r.2)
    else ([body.take n], .clientClosed)
termination_by str.length
decreasing_by
  all_goals simp only [List.length_drop]
  all_goals omega

/-- the messages (deliveries made in state `msg`) among a raw peer's deliveries. -/
def rawMessages : List (RawSt × Bytes) → List Bytes
  | [] => []
  | (.msg _, m) :: ds => m :: rawMessages ds
  | (.len, _) :: ds => rawMessages ds

/-- `pre` consists of whole frames (zero-length headers and accepted non-empty messages of legal length)
    carrying the messages `ms`. -/
inductive Raw.Whole (cap : Nat) (ok : Bytes → Bool) : Bytes → List Bytes → Prop where
  | nil : Raw.Whole cap ok [] []
  | zero {pre ms} : Raw.Whole cap ok pre ms → Raw.Whole cap ok (be32 0 ++ pre) ms
  | frame {pre ms} (m : Bytes) : m ≠ [] → m.length ≤ cap → m.length < 4294967296 → ok m = true →
      Raw.Whole cap ok pre ms → Raw.Whole cap ok (be32 m.length ++ m ++ pre) (m :: ms)

/-- Lines as a function of the byte stream alone: a line is everything up to and including the first
    occurrence of the delimiter; `cap` bytes without a delimiter end the connection (error path). -/
def Lines.split (cap : Nat) (d : Bytes) (ok : Bytes → Bool) (str : Bytes) (t : Terminal) : List Bytes × Outcome :=
  match hf : findSub d (str.take cap) with
  | some i =>
    if h0 : i + d.length = 0 then ([], .peerClosed)
    else if ok (str.take (i + d.length)) then
      let r := Lines.split cap d ok (str.drop (i + d.length)) t
      (str.take (i + d.length) :: r.1, r.2)
    else ([str.take (i + d.length)], .clientClosed)
  | none => if cap ≤ str.length then ([], .tooMuch) else ([], .ofTerminal t)
termination_by str.length
decreasing_by
  have := findSub_le d _ i hf
  simp only [List.length_take] at this
  simp only [List.length_drop]
  omega

end Cjet.Bufread
